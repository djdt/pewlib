import PewProofs.LaserEditCalls
import PewProofs.Lists

/-! C07, how a laser comes to be on the object level: the constructors (`hConstruct_spec : Constructed ..`) and the loader
(`hRoundTrip_spec`); what they build is `Fresh`. -/
namespace Pew.LaserEdit

def NewIn (h0 h : Heap) (d : IdDict) : Prop := ∀ e ∈ d, h0.cals.length ≤ e.2 ∧ e.2 < h.cals.length

theorem NewIn.mono {h0 h h' : Heap} {d : IdDict} (n : NewIn h0 h d) (g : GrowsC h h') : NewIn h0 h' d :=
  fun e he => ⟨(n e he).1, Nat.lt_of_lt_of_le (n e he).2 g.cals_le⟩

theorem NewIn.push {h0 h : Heap} {out : IdDict} (hgr : GrowsC h0 h) (hout : NewIn h0 h out) (n : Name) (c : Nat) :
    NewIn h0 (h.allocCal c).2 (out ++ [(n, h.cals.length)]) ∧
    viewDict (h.allocCal c).2 (out ++ [(n, h.cals.length)]) = viewDict h out ++ [(n, c)] := by
  have hga := growsC_alloc h c
  refine ⟨fun x hx => ?_, ?_⟩
  · rcases List.mem_append.1 hx with h1 | h1
    · exact hout.mono hga x h1
    · rw [List.mem_singleton.1 h1]
      exact ⟨hgr.cals_le, by simp [Heap.allocCal]⟩
  · simp only [viewDict, mapV_append, mapV_cons, mapV_nil, allocCal_calOf_new]
    exact congrArg (· ++ _) (mapV_congr fun x hx => hga.calOf (hout x hx).2)

theorem allocDefaults_spec (h0 : Heap) : ∀ (ns : List Name) (d : IdDict) (h : Heap), GrowsC h0 h → NewIn h0 h d →
    viewDict (allocDefaults ns d h).2 (allocDefaults ns d h).1 = ns.foldl (fun acc n => dictSet acc n 0) (viewDict h d) ∧
    GrowsC h (allocDefaults ns d h).2 ∧ NewIn h0 (allocDefaults ns d h).2 (allocDefaults ns d h).1 := by
  intro ns
  induction ns with
  | nil => exact fun d h _ hd => ⟨rfl, GrowsC.refl _, hd⟩
  | cons n t ih =>
    intro d h hgr hd
    have hg := growsC_alloc h 0
    obtain ⟨i1, i2, i3⟩ := ih (dictSet d n h.cals.length) (h.allocCal 0).2 (hgr.trans hg) fun e he =>
      (mem_dictSet he).elim (hd.mono hg e) fun h1 => h1 ▸ ⟨hgr.cals_le, by simp [Heap.allocCal]⟩
    refine ⟨?_, hg.trans i2, i3⟩
    simp only [allocDefaults, List.foldl_cons]
    rw [i1]
    simp only [viewDict, mapV_dictSet, allocCal_calOf_new]
    rw [mapV_congr fun e he => hg.calOf (hd e he).2]

/-- the memo decides which objects the copy references, not what it shows: as long as every memo entry is a copy that
holds what its original held at `h0`, the contents appended to `out` are those of `g` -/
theorem deepcopyEntries_spec (h0 : Heap) : ∀ (g : IdDict) (memo : List (Nat × Nat)) (out : IdDict) (h : Heap),
    (∀ e ∈ g, e.2 < h0.cals.length) → GrowsC h0 h →
    (∀ p ∈ memo, p.1 < h0.cals.length ∧ h0.cals.length ≤ p.2 ∧ p.2 < h.cals.length ∧ h.calOf p.2 = h0.calOf p.1) →
    NewIn h0 h out →
    viewDict (deepcopyEntries g memo out h).2 (deepcopyEntries g memo out h).1 = viewDict h out ++ viewDict h0 g ∧
    GrowsC h (deepcopyEntries g memo out h).2 ∧
    NewIn h0 (deepcopyEntries g memo out h).2 (deepcopyEntries g memo out h).1 := by
  intro g
  induction g with
  | nil => exact fun memo out h _ _ _ hout => ⟨by simp [deepcopyEntries, viewDict], GrowsC.refl _, hout⟩
  | cons e r ih =>
    intro memo out h hg hgr hmemo hout
    have he : e.2 < h0.cals.length := hg e List.mem_cons_self
    have hgr' : ∀ x ∈ r, x.2 < h0.cals.length := fun x hx => hg x (List.mem_cons_of_mem _ hx)
    simp only [deepcopyEntries]
    cases hl : memo.lookup e.2 with
    | some id =>
      obtain ⟨_, m2, m3, m4⟩ := hmemo _ (Lists.mem_of_lookup_eq_some hl)
      obtain ⟨i1, i2, i3⟩ := ih memo (out ++ [(e.1, id)]) h hgr' hgr hmemo fun x hx =>
        (List.mem_append.1 hx).elim (hout x) fun h1 => List.mem_singleton.1 h1 ▸ ⟨m2, m3⟩
      exact ⟨by rw [i1]; simp [viewDict, show h.calOf id = h0.calOf e.2 from m4], i2, i3⟩
    | none =>
      have hga := growsC_alloc h (h.calOf e.2)
      obtain ⟨p1, p2⟩ := NewIn.push hgr hout e.1 (h.calOf e.2)
      have hmemo' : ∀ p ∈ (e.2, h.cals.length) :: memo, p.1 < h0.cals.length ∧ h0.cals.length ≤ p.2 ∧
          p.2 < (h.allocCal (h.calOf e.2)).2.cals.length ∧ (h.allocCal (h.calOf e.2)).2.calOf p.2 = h0.calOf p.1 := by
        intro p hp
        rcases List.mem_cons.1 hp with rfl | h1
        · exact ⟨he, hgr.cals_le, by simp [Heap.allocCal], by rw [allocCal_calOf_new, hgr.calOf he]⟩
        · obtain ⟨m1, m2, m3, m4⟩ := hmemo p h1
          exact ⟨m1, m2, Nat.lt_of_lt_of_le m3 hga.cals_le, by rw [hga.calOf m3]; exact m4⟩
      obtain ⟨i1, i2, i3⟩ := ih _ _ _ hgr' (hgr.trans hga) hmemo' p1
      exact ⟨by rw [i1, p2, hgr.calOf he]; simp [viewDict], hga.trans i2, i3⟩

theorem conCal_spec (h : Heap) (els : List Name) (given : Option Nat)
    (hg : ∀ g, given = some g → ∀ e ∈ h.dict g, e.2 < h.cals.length) :
    viewDict (conCal h els given).2 (conCal h els given).1 =
      initCal els (given.map (fun g => viewDict h (h.dict g))) ∧
    GrowsC h (conCal h els given).2 ∧ NewIn h (conCal h els given).2 (conCal h els given).1 := by
  obtain ⟨d1, d2, d3⟩ := allocDefaults_spec h els [] h (GrowsC.refl _) nofun
  cases given with
  | none => exact ⟨d1, d2, d3⟩
  | some g =>
    simp only [conCal, initCal, Option.map_some]
    have hdg : (allocDefaults els [] h).2.dict g = h.dict g := dict_congr d2.dicts g
    rw [hdg]
    obtain ⟨c1, c2, c3⟩ := deepcopyEntries_spec (allocDefaults els [] h).2 (h.dict g) [] [] (allocDefaults els [] h).2
      (fun e he => Nat.lt_of_lt_of_le (hg g rfl e he) d2.cals_le) (GrowsC.refl _) nofun nofun
    refine ⟨?_, d2.trans c2, fun e he => ?_⟩
    · unfold viewDict at c1 d1 ⊢
      -- the fold of `update` is the instance `g := id` only up to unfolding `id`, which `rw` does not see
      erw [mapV_foldl_dictSet _ id]
      rw [c1, mapV_nil, List.nil_append, mapV_congr fun e he => c2.calOf (d3 e he).2, d1,
        mapV_congr fun e he => d2.calOf (hg g rfl e he)]
      rfl
    · rcases mem_foldl_dictSet id _ _ he with ⟨x, h1, rfl⟩ | h1
      · exact ⟨Nat.le_trans d2.cals_le (c3 x h1).1, (c3 x h1).2⟩
      · exact d3.mono c2 e h1

theorem elementsOf_viewLayers (h : Heap) (data : List Arr) : elementsOf (data.map (viewLayer h)) = elementsOf data :=
  elementsOf_map (T := id) (fun a => keys_mapV h.cell a.fields) rfl data

theorem conCfg_spec (h : Heap) (srr : Bool) (config : Option Nat) :
    Ext none h (conCfg h srr config).2 ∧ (conCfg h srr config).2.cells = h.cells ∧
    (conCfg h srr config).2.cals = h.cals ∧ (conCfg h srr config).2.dicts = h.dicts ∧
    (conCfg h srr config).1 = h.cfgs.length ∧
    ∃ c, (conCfg h srr config).2.cfgs = h.cfgs ++ [c] ∧ c.scal = (config.map fun k => (h.cfgOf k).scal).getD 0 ∧
      ∀ k, config = some k → c.offs = (h.cfgOf k).offs := by
  cases config with
  | some k => exact ⟨ext_allocCfg _ h _, rfl, rfl, rfl, rfl, _, rfl, rfl, fun _ hk => Option.some.inj hk ▸ rfl⟩
  | none =>
    cases srr with
    | true => exact ⟨(ext_allocOffs _ h 0).trans (ext_allocCfg _ _ _), rfl, rfl, rfl, rfl, _, rfl, rfl, nofun⟩
    | false => exact ⟨ext_allocCfg _ h _, rfl, rfl, rfl, rfl, _, rfl, rfl, nofun⟩

/-- what every builder (constructor, loader) delivers about the laser it built over `h` -/
structure Fresh (h : Heap) (w : World) : Prop where
  valid : Valid w
  dict : h.dicts.length ≤ w.laser.cal
  cals : ∀ e ∈ w.heap.dict w.laser.cal, h.cals.length ≤ e.2
  cfg : h.cfgs.length ≤ w.laser.cfg
  ext : Ext none h w.heap

theorem Fresh.sep {h : Heap} {w : World} (f : Fresh h w) {F : Foreign}
    (h1 : ∀ k ∈ F.cals, k < h.cals.length) (h2 : ∀ k ∈ F.dicts, k < h.dicts.length)
    (h3 : ∀ k ∈ F.cfgs, k < h.cfgs.length) : Sep F w :=
  ⟨fun k hk => Nat.lt_of_lt_of_le (h1 k hk) f.ext.cals_le, fun k hk => Nat.lt_of_lt_of_le (h2 k hk) f.ext.dicts_le,
    fun k hk => Nat.lt_of_lt_of_le (h3 k hk) f.ext.cfgs_le,
    fun hm => Nat.lt_irrefl _ (Nat.lt_of_lt_of_le (h2 _ hm) f.dict),
    fun e hm hf => Nat.lt_irrefl _ (Nat.lt_of_lt_of_le (h1 _ hf) (f.cals e hm)),
    fun hm => Nat.lt_irrefl _ (Nat.lt_of_lt_of_le (h3 _ hm) f.cfg)⟩

theorem Fresh.of_ext {h0 h : Heap} {w : World} (f : Fresh h w) (he : Ext none h0 h) : Fresh h0 w :=
  ⟨f.valid, Nat.le_trans he.dicts_le f.dict, fun e hm => Nat.le_trans he.cals_le (f.cals e hm),
    Nat.le_trans he.cfgs_le f.cfg, he.trans f.ext⟩

structure Constructed (h : Heap) (srr : Bool) (data : List Arr) (given config : Option Nat) (w : World) : Prop where
  view_eq : view w = mkState srr (data.map (viewLayer h)) (given.map (fun g => viewDict h (h.dict g)))
    ((config.map (fun k => (h.cfgOf k).scal)).getD 0)
  data_eq : w.laser.data = data
  srr_eq : w.laser.srr = srr
  fresh : Fresh h w
  offs_eq : ∀ k, config = some k → (w.heap.cfgOf w.laser.cfg).offs = (h.cfgOf k).offs
  cells_eq : w.heap.cells = h.cells

theorem hConstruct_spec (h : Heap) (srr : Bool) (data : List Arr) (given config : Option Nat) (w : World)
    (hd : ∀ a ∈ data, ArrOK h a) (hg : ∀ g, given = some g → ∀ e ∈ h.dict g, e.2 < h.cals.length)
    (hw : hConstruct h srr data given config = some w) : Constructed h srr data given config w := by
  unfold hConstruct at hw
  split at hw
  · cases hw
  · obtain ⟨c1, c2, c3⟩ := conCal_spec h (elementsOf data) given hg
    generalize conCal h (elementsOf data) given = r1 at hw c1 c2 c3
    obtain ⟨d, h1⟩ := r1
    obtain ⟨f0, f1, f2, f3, f4, c, f5, f6, f7⟩ := conCfg_spec (h1.allocDict d).2 srr config
    rw [← Option.some.inj hw]
    have hcells : (conCfg (h1.allocDict d).2 srr config).2.cells = h.cells := f1.trans c2.1
    have hdict : (conCfg (h1.allocDict d).2 srr config).2.dict h1.dicts.length = d :=
      dict_of_append (f3 : _ = h1.dicts ++ [d])
    have hcfg : (conCfg (h1.allocDict d).2 srr config).2.cfgOf (conCfg (h1.allocDict d).2 srr config).1 = c := by
      rw [f4]; exact cfgOf_of_append f5
    have hold : ∀ k, (h1.allocDict d).2.cfgOf k = h.cfgOf k := cfgOf_congr c2.cfgs
    simp only [hold] at f6 f7
    refine ⟨State.ext' rfl ?_ ?_ ?_, rfl, rfl, ⟨⟨?_, ?_, ?_, ?_⟩, Nat.le_of_eq (congrArg List.length c2.dicts).symm,
      ?_, ?_, (Ext.of_growsC c2).trans ((ext_allocDict _ _ _).trans f0)⟩, fun k hk => ?_, hcells⟩
    · exact congrArg (fun f => data.map f) (viewLayer_congr hcells)
    · show viewDict _ (Heap.dict _ h1.dicts.length) = initCal (elementsOf (data.map (viewLayer h))) _
      rw [hdict, elementsOf_viewLayers, ← c1]
      exact viewDict_congr fun e _ => calOf_congr f2 e.2
    · show (Heap.cfgOf _ _).scal = _
      rw [hcfg, f6]
      rfl
    · rw [f3]; simp [Heap.allocDict]
    · show ∀ e ∈ Heap.dict _ h1.dicts.length, e.2 < _
      rw [hdict, f2]
      exact fun e he => (c3 e he).2
    · rw [f4, f5]; simp
    · intro a ha e he
      rw [hcells]
      exact hd a ha e he
    · show ∀ e ∈ Heap.dict _ h1.dicts.length, _
      rw [hdict]
      exact fun e he => (c3 e he).1
    · rw [f4]
      exact Nat.le_of_eq (congrArg List.length c2.cfgs).symm
    · rw [hcfg]
      exact f7 k hk

theorem freshEntries_spec (h0 : Heap) : ∀ (g out : IdDict) (h : Heap),
    (∀ e ∈ g, e.2 < h0.cals.length) → GrowsC h0 h → NewIn h0 h out →
    viewDict (freshEntries g out h).2 (freshEntries g out h).1 = viewDict h out ++ viewDict h0 g ∧
    GrowsC h (freshEntries g out h).2 ∧ NewIn h0 (freshEntries g out h).2 (freshEntries g out h).1 := by
  intro g
  induction g with
  | nil => exact fun out h _ _ hout => ⟨by simp [freshEntries, viewDict], GrowsC.refl _, hout⟩
  | cons e r ih =>
    intro out h hg hgr hout
    have hga := growsC_alloc h (h.calOf e.2)
    obtain ⟨p1, p2⟩ := NewIn.push hgr hout e.1 (h.calOf e.2)
    obtain ⟨i1, i2, i3⟩ := ih _ _ (fun x hx => hg x (List.mem_cons_of_mem _ hx)) (hgr.trans hga) p1
    simp only [freshEntries]
    exact ⟨by rw [i1, p2, hgr.calOf (hg e List.mem_cons_self)]; simp [viewDict], hga.trans i2, i3⟩

theorem loadCfg_spec (h : Heap) (c0 : Cfg) :
    Ext none h (loadCfg h c0).2 ∧ (loadCfg h c0).2.cells = h.cells ∧ (loadCfg h c0).2.cals = h.cals ∧
    (loadCfg h c0).2.dicts = h.dicts ∧ (loadCfg h c0).1 = h.cfgs.length ∧
    ∃ c, (loadCfg h c0).2.cfgs = h.cfgs ++ [c] ∧ c.scal = c0.scal := by
  unfold loadCfg
  cases c0.offs with
  | some o => exact ⟨(ext_allocOffs _ h _).trans (ext_allocCfg _ _ _), rfl, rfl, rfl, rfl, _, rfl, rfl⟩
  | none => exact ⟨ext_allocCfg _ h _, rfl, rfl, rfl, rfl, _, rfl, rfl⟩

theorem hRoundTrip_spec (w w' : World) (hv : Valid w) (hw : hRoundTrip w = some w') :
    view w' = mkState w.laser.srr (view w).layers (some (view w).cal) (view w).cfg ∧
    (∀ a ∈ w'.laser.data, ∀ e ∈ a.fields, w.heap.cells.length ≤ e.2) ∧ Fresh w.heap w' := by
  unfold hRoundTrip at hw
  obtain ⟨a1, a2, a3, a4⟩ := copyArrs_spec w.laser.data w.heap hv.data_ok
  generalize copyArrs w.laser.data w.heap = r at hw a1 a2 a3 a4
  obtain ⟨dl, dh⟩ := r
  simp only at hw a1 a2 a3 a4
  have hdict : dh.dict w.laser.cal = w.heap.dict w.laser.cal := a2.dict _
  obtain ⟨b1, b2, b3⟩ := freshEntries_spec dh (dh.dict w.laser.cal) [] dh
    (by rw [hdict, a2.cals]; exact hv.cal_lt) (GrowsC.refl _) nofun
  generalize freshEntries (dh.dict w.laser.cal) [] dh = r at hw b1 b2 b3
  obtain ⟨ed, eh⟩ := r
  obtain ⟨k0, k1, k2, k3, k4, c, k5, k6⟩ := loadCfg_spec (eh.allocDict ed).2 ((eh.allocDict ed).2.cfgOf w.laser.cfg)
  generalize loadCfg (eh.allocDict ed).2 ((eh.allocDict ed).2.cfgOf w.laser.cfg) = k at hw k0 k1 k2 k3 k4 k5
  -- `k.2`: the memory the constructor is run in; what follows are `hConstruct_spec`'s hypotheses there
  have hE : Ext none w.heap k.2 := a2.ext.trans ((Ext.of_growsC b2).trans ((ext_allocDict _ _ _).trans k0))
  have hcells : k.2.cells = dh.cells := k1.trans b2.cells
  have hdk : k.2.dict eh.dicts.length = ed := dict_of_append (k3 : _ = eh.dicts ++ [ed])
  have hdOK : ∀ a ∈ dl, ArrOK k.2 a := fun a ha e he => by
    rw [hcells]; exact a3 a ha e he
  have hgOK : ∀ g, some (eh.allocDict ed).1 = some g → ∀ x ∈ k.2.dict g, x.2 < k.2.cals.length := by
    intro g hg x hx
    rw [← Option.some.inj hg, show (eh.allocDict ed).1 = eh.dicts.length from rfl, hdk] at hx
    rw [k2]; exact (b3 x hx).2
  have s :=
    hConstruct_spec k.2 w.laser.srr dl (some (eh.allocDict ed).1) (some k.1) w' hdOK hgOK hw
  refine ⟨?_, by rw [s.data_eq]; exact a4, s.fresh.of_ext hE⟩
  rw [s.view_eq]
  simp only [Option.map_some, Option.getD_some]
  congr 1
  · rw [viewLayer_congr hcells]; exact a1
  · congr 1
    rw [show (eh.allocDict ed).1 = eh.dicts.length from rfl, hdk,
      viewDict_congr (h2 := eh) (fun x _ => calOf_congr k2 x.2), b1, hdict]
    simp only [viewDict, mapV_nil, List.nil_append]
    exact mapV_congr (fun x _ => a2.calOf x.2)
  · rw [k4, cfgOf_of_append k5, k6]
    exact congrArg Cfg.scal (cfgOf_congr (b2.cfgs.trans a2.cfgs) _)

end Pew.LaserEdit
