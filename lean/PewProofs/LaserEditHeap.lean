import PewProofs.LaserEditDict

/-! C07, the heap of the object level: following references (`mapV`) is natural in every keyed-list primitive; what the
accessors read after `set` and append; memory only grows (`Ext`, `Grows`, `GrowsC`); copies of arrays. -/
namespace Pew.LaserEdit

@[simp] theorem mapV_nil (f : Nat → Nat) : mapV f [] = [] := rfl
@[simp] theorem mapV_cons (f : Nat → Nat) (e : Name × Nat) (l : List (Name × Nat)) :
    mapV f (e :: l) = (e.1, f e.2) :: mapV f l := rfl
@[simp] theorem mapV_append (f : Nat → Nat) (l r : List (Name × Nat)) :
    mapV f (l ++ r) = mapV f l ++ mapV f r := by simp [mapV]
@[simp] theorem keys_mapV (f : Nat → Nat) (l : List (Name × Nat)) : keys (mapV f l) = keys l :=
  keys_mapVal (fun _ => f) l
@[simp] theorem length_mapV (f : Nat → Nat) (l : List (Name × Nat)) : (mapV f l).length = l.length := by
  simp [mapV]

theorem mapV_congr {f g : Nat → Nat} {l : List (Name × Nat)} (h : ∀ e ∈ l, f e.2 = g e.2) :
    mapV f l = mapV g l := by
  unfold mapV
  apply List.map_congr_left
  intro e he
  rw [h e he]

theorem get?_mapV (f : Nat → Nat) (l : List (Name × Nat)) (n : Name) :
    get? (mapV f l) n = (get? l n).map f :=
  get?_mapVal (fun _ => f) l n

theorem mapV_filter_key (f : Nat → Nat) (p : Name → Bool) (l : List (Name × Nat)) :
    mapV f (l.filter (fun e => p e.1)) = (mapV f l).filter (fun e => p e.1) := by
  simp [mapV, List.filter_map, Function.comp_def]

theorem mapV_mapKey (f : Nat → Nat) (g : Name → Name) (l : List (Name × Nat)) :
    mapV f (l.map (fun e => (g e.1, e.2))) = (mapV f l).map (fun e => (g e.1, e.2)) := by
  simp [mapV, List.map_map, Function.comp_def]

theorem mapV_dictSet (f : Nat → Nat) (d : Dict) (k : Name) (v : Nat) :
    mapV f (dictSet d k v) = dictSet (mapV f d) k (f v) := by
  unfold dictSet
  rw [keys_mapV]
  split
  · simp only [mapV, List.map_map]
    apply List.map_congr_left
    intro e _
    simp only [Function.comp]
    split <;> rfl
  · simp

theorem mapV_foldl_dictSet (f : Nat → Nat) (g : Name → Name) (l : Dict) :
    ∀ acc : Dict, mapV f (l.foldl (fun acc e => dictSet acc (g e.1) e.2) acc) =
      (mapV f l).foldl (fun acc e => dictSet acc (g e.1) e.2) (mapV f acc) := by
  induction l with
  | nil => intro acc; rfl
  | cons e r ih =>
    intro acc
    simp only [List.foldl_cons, mapV_cons]
    rw [ih, mapV_dictSet]

theorem mapV_rebuildDict (f : Nat → Nat) (d : Dict) (m : NameMap) :
    mapV f (rebuildDict d m) = rebuildDict (mapV f d) m :=
  mapV_foldl_dictSet f (sub m) d []

theorem dictPop_mapV (f : Nat → Nat) (d : Dict) (k : Name) :
    dictPop (mapV f d) k = (dictPop d k).map (mapV f) := by
  unfold dictPop
  rw [keys_mapV]
  split
  · exact congrArg some (mapV_filter_key f (fun n => decide (n ≠ k)) d).symm
  · rfl

theorem popAllE_mapV (f : Nat → Nat) : ∀ (ns : List Name) (d : Dict),
    popAllE (mapV f d) ns = (mapV f (popAllE d ns).1, (popAllE d ns).2) := by
  intro ns
  induction ns with
  | nil => intro d; rfl
  | cons a r ih =>
    intro d
    simp only [popAllE, dictPop_mapV]
    cases dictPop d a with
    | none => rfl
    | some d' => simp only [Option.map_some]; exact ih d'

def Layer.mapV (f : Nat → Nat) (l : Layer) : Layer := { shape := l.shape, fields := Pew.LaserEdit.mapV f l.fields }

theorem viewLayer_eq (h : Heap) (a : Arr) : viewLayer h a = Layer.mapV h.cell a := rfl

theorem Layer.addE_mapV (f : Nat → Nat) (l : Layer) (n : Name) (a : ArrIn) :
    Layer.addE (Layer.mapV f l) n (a.1, f a.2) = (Layer.addE l n a).map (Layer.mapV f) := by
  unfold Layer.addE Layer.mapV
  simp only [keys_mapV]
  split
  · rfl
  · split
    · rfl
    · simp [Except.map]

theorem Layer.drop_mapV (f : Nat → Nat) (l : Layer) (ns : List Name) :
    (Layer.mapV f l).drop ns = Layer.mapV f (l.drop ns) :=
  congrArg (Layer.mk l.shape) (mapV_filter_key f (fun n => decide (n ∉ ns)) l.fields).symm

theorem Layer.rename_mapV (f : Nat → Nat) (l : Layer) (m : NameMap) :
    (Layer.mapV f l).rename m = (l.rename m).map (Layer.mapV f) := by
  unfold Layer.rename Layer.mapV
  simp only [keys_mapKey, keys_mapV]
  split
  · exact congrArg (fun x => some (Layer.mk l.shape x)) (mapV_mapKey f (sub m) l.fields).symm
  · rfl

theorem renameLayersE_mapV (f : Nat → Nat) (m : NameMap) : ∀ ls : List Layer,
    renameLayersE m (ls.map (Layer.mapV f)) =
      (match renameLayersE m ls with
       | .ok r => .ok (r.map (Layer.mapV f))
       | .error (e, r) => .error (e, r.map (Layer.mapV f)))
  | [] => rfl
  | l :: t => by
    simp only [List.map_cons, renameLayersE, Layer.rename_mapV, renameLayersE_mapV f m t]
    cases l.rename m with
    | none => rfl
    | some l' => cases renameLayersE m t <;> rfl

def Layer.ids (a : Arr) : List Nat := a.fields.map (·.2)

/-- `rename_fields` returns a view: whether the loop fails or not, every layer occupies the cells it occupied -/
theorem renameLayersE_ids (m : NameMap) : ∀ ls : List Layer,
    (match renameLayersE m ls with | .ok r | .error (_, r) => r).map Layer.ids = ls.map Layer.ids
  | [] => rfl
  | l :: t => by
    have ih := renameLayersE_ids m t
    simp only [renameLayersE]
    cases hl : l.rename m with
    | none => rfl
    | some l' =>
      have hl' : l'.ids = l.ids := by
        unfold Layer.rename at hl
        simp only at hl
        split at hl
        · rw [← Option.some.inj hl]; simp [Layer.ids, List.map_map, Function.comp_def]
        · cases hl
      cases ht : renameLayersE m t <;> rw [ht] at ih <;> simp only [List.map_cons, hl', ih]

theorem viewLayer_congr {h1 h2 : Heap} (hc : h1.cells = h2.cells) : viewLayer h1 = viewLayer h2 := by
  unfold viewLayer Heap.cell
  rw [hc]

theorem viewDict_congr {h1 h2 : Heap} {d : IdDict} (hc : ∀ e ∈ d, h1.calOf e.2 = h2.calOf e.2) :
    viewDict h1 d = viewDict h2 d := mapV_congr hc

theorem cell_congr {h1 h2 : Heap} (hc : h1.cells = h2.cells) (i : Nat) : h1.cell i = h2.cell i := by
  unfold Heap.cell; rw [hc]

theorem calOf_congr {h1 h2 : Heap} (hc : h1.cals = h2.cals) (i : Nat) : h1.calOf i = h2.calOf i := by
  unfold Heap.calOf; rw [hc]

theorem cfgOf_congr {h1 h2 : Heap} (hc : h1.cfgs = h2.cfgs) (i : Nat) : h1.cfgOf i = h2.cfgOf i := by
  unfold Heap.cfgOf; rw [hc]

theorem dict_congr {h1 h2 : Heap} (hc : h1.dicts = h2.dicts) (i : Nat) : h1.dict i = h2.dict i := by
  unfold Heap.dict; rw [hc]

theorem cell_set_self {h : Heap} {i : Nat} (hi : i < h.cells.length) (v : Nat) :
    ({ h with cells := h.cells.set i v } : Heap).cell i = v := by
  simp [Heap.cell, List.getElem?_set_self hi]

theorem calOf_set_self {h : Heap} {k : Nat} (hk : k < h.cals.length) (c : Nat) :
    ({ h with cals := h.cals.set k c } : Heap).calOf k = c := by
  simp [Heap.calOf, List.getElem?_set_self hk]

theorem dict_set_self {h : Heap} {i : Nat} (D : IdDict) (hi : i < h.dicts.length) :
    ({ h with dicts := h.dicts.set i D } : Heap).dict i = D := by
  unfold Heap.dict
  simp only [List.getElem?_set_self hi, Option.getD_some]

theorem allocCal_calOf_new (h : Heap) (c : Nat) : (h.allocCal c).2.calOf h.cals.length = c := by
  unfold Heap.allocCal Heap.calOf
  simp

theorem dict_of_append {h : Heap} {l : List IdDict} {d : IdDict} (hd : h.dicts = l ++ [d]) : h.dict l.length = d := by
  unfold Heap.dict; rw [hd]; simp

theorem cfgOf_of_append {h : Heap} {l : List Cfg} {c : Cfg} (hc : h.cfgs = l ++ [c]) : h.cfgOf l.length = c := by
  unfold Heap.cfgOf; rw [hc]; simp

/-- every cell, `Calibration`, config, offsets array and dict that existed keeps its content — except (possibly)
dict object `d` -/
def Ext (d : Option Nat) (h h' : Heap) : Prop :=
  h.cells.length ≤ h'.cells.length ∧ (∀ i, i < h.cells.length → h'.cells[i]? = h.cells[i]?) ∧
  h.cals.length ≤ h'.cals.length ∧ (∀ i, i < h.cals.length → h'.cals[i]? = h.cals[i]?) ∧
  h.cfgs.length ≤ h'.cfgs.length ∧ (∀ i, i < h.cfgs.length → h'.cfgs[i]? = h.cfgs[i]?) ∧
  h.offs.length ≤ h'.offs.length ∧ (∀ i, i < h.offs.length → h'.offs[i]? = h.offs[i]?) ∧
  h.dicts.length ≤ h'.dicts.length ∧ (∀ i, i < h.dicts.length → some i ≠ d → h'.dicts[i]? = h.dicts[i]?)

theorem Ext.refl (d : Option Nat) (h : Heap) : Ext d h h :=
  ⟨Nat.le_refl _, fun _ _ => rfl, Nat.le_refl _, fun _ _ => rfl, Nat.le_refl _, fun _ _ => rfl,
   Nat.le_refl _, fun _ _ => rfl, Nat.le_refl _, fun _ _ _ => rfl⟩

theorem Ext.trans {d : Option Nat} {a b c : Heap} (h1 : Ext d a b) (h2 : Ext d b c) : Ext d a c := by
  obtain ⟨a1, a2, a3, a4, a5, a6, a7, a8, a9, a10⟩ := h1
  obtain ⟨b1, b2, b3, b4, b5, b6, b7, b8, b9, b10⟩ := h2
  exact ⟨Nat.le_trans a1 b1, fun i hi => (b2 i (Nat.lt_of_lt_of_le hi a1)).trans (a2 i hi),
    Nat.le_trans a3 b3, fun i hi => (b4 i (Nat.lt_of_lt_of_le hi a3)).trans (a4 i hi),
    Nat.le_trans a5 b5, fun i hi => (b6 i (Nat.lt_of_lt_of_le hi a5)).trans (a6 i hi),
    Nat.le_trans a7 b7, fun i hi => (b8 i (Nat.lt_of_lt_of_le hi a7)).trans (a8 i hi),
    Nat.le_trans a9 b9, fun i hi hd => (b10 i (Nat.lt_of_lt_of_le hi a9) hd).trans (a10 i hi hd)⟩

theorem Ext.weaken {d : Option Nat} {a b : Heap} (h : Ext none a b) : Ext d a b := by
  obtain ⟨a1, a2, a3, a4, a5, a6, a7, a8, a9, a10⟩ := h
  exact ⟨a1, a2, a3, a4, a5, a6, a7, a8, a9, fun i hi _ => a10 i hi (by simp)⟩

section
variable {d : Option Nat} {h h' : Heap}

theorem Ext.cells_le (e : Ext d h h') : h.cells.length ≤ h'.cells.length := e.1
theorem Ext.cals_le (e : Ext d h h') : h.cals.length ≤ h'.cals.length := e.2.2.1
theorem Ext.cfgs_le (e : Ext d h h') : h.cfgs.length ≤ h'.cfgs.length := e.2.2.2.2.1
theorem Ext.dicts_le (e : Ext d h h') : h.dicts.length ≤ h'.dicts.length := e.2.2.2.2.2.2.2.2.1

theorem Ext.cell (e : Ext d h h') {i : Nat} (hi : i < h.cells.length) : h'.cell i = h.cell i := by
  unfold Heap.cell; rw [e.2.1 i hi]

theorem Ext.calOf (e : Ext d h h') {i : Nat} (hi : i < h.cals.length) : h'.calOf i = h.calOf i := by
  unfold Heap.calOf; rw [e.2.2.2.1 i hi]

theorem Ext.cfgOf (e : Ext d h h') {i : Nat} (hi : i < h.cfgs.length) : h'.cfgOf i = h.cfgOf i := by
  unfold Heap.cfgOf; rw [e.2.2.2.2.2.1 i hi]

theorem Ext.offsOf {d : Option Nat} {h h' : Heap} (e : Ext d h h') {i : Nat} (hi : i < h.offs.length) :
    h'.offsOf i = h.offsOf i := by unfold Heap.offsOf; rw [e.2.2.2.2.2.2.2.1 i hi]

theorem Ext.dict (e : Ext d h h') {i : Nat} (hi : i < h.dicts.length) (hd : some i ≠ d) : h'.dict i = h.dict i := by
  unfold Heap.dict; rw [e.2.2.2.2.2.2.2.2.2 i hi hd]

def ArrOK (h : Heap) (a : Arr) : Prop := ∀ e ∈ a.fields, e.2 < h.cells.length

theorem ArrOK.mono (e : Ext d h h') {a : Arr} (ha : ArrOK h a) : ArrOK h' a :=
  fun x hx => Nat.lt_of_lt_of_le (ha x hx) e.cells_le

theorem arrsOK_iff {l : List Arr} : (∀ a ∈ l, ArrOK h a) ↔ ∀ is ∈ l.map Layer.ids, ∀ i ∈ is, i < h.cells.length := by
  simp only [List.forall_mem_map, ArrOK, Layer.ids]

theorem Ext.viewLayer (e : Ext d h h') {a : Arr} (ha : ArrOK h a) :
    Pew.LaserEdit.viewLayer h' a = Pew.LaserEdit.viewLayer h a :=
  congrArg (Layer.mk a.shape) (mapV_congr fun x hx => e.cell (ha x hx))

theorem Ext.viewLayers (e : Ext d h h') {as : List Arr} (ha : ∀ a ∈ as, ArrOK h a) :
    as.map (Pew.LaserEdit.viewLayer h') = as.map (Pew.LaserEdit.viewLayer h) :=
  List.map_congr_left fun a hm => e.viewLayer (ha a hm)

theorem Ext.viewDict (e : Ext d h h') {D : IdDict} (hD : ∀ x ∈ D, x.2 < h.cals.length) :
    Pew.LaserEdit.viewDict h' D = Pew.LaserEdit.viewDict h D :=
  mapV_congr fun x hx => e.calOf (hD x hx)

/-- `h'` has all cells of `h` with their contents (and maybe more); everything else is the same: `Ext none` with
equalities in place of "kept" (`Grows.ext`), what the layer loops and a read do to memory -/
structure Grows (h h' : Heap) : Prop where
  cells_le : h.cells.length ≤ h'.cells.length
  cells : ∀ i, i < h.cells.length → h'.cells[i]? = h.cells[i]?
  cals : h'.cals = h.cals
  cfgs : h'.cfgs = h.cfgs
  offs : h'.offs = h.offs
  dicts : h'.dicts = h.dicts

theorem Grows.refl (h : Heap) : Grows h h := ⟨Nat.le_refl _, fun _ _ => rfl, rfl, rfl, rfl, rfl⟩

theorem Grows.trans {a b c : Heap} (h1 : Grows a b) (h2 : Grows b c) : Grows a c :=
  ⟨Nat.le_trans h1.cells_le h2.cells_le,
   fun i hi => (h2.cells i (Nat.lt_of_lt_of_le hi h1.cells_le)).trans (h1.cells i hi),
   h2.cals.trans h1.cals, h2.cfgs.trans h1.cfgs, h2.offs.trans h1.offs, h2.dicts.trans h1.dicts⟩

theorem Grows.ext (g : Grows h h') : Ext none h h' := by
  obtain ⟨g1, g2, g3, g4, g5, g6⟩ := g
  exact ⟨g1, g2, Nat.le_of_eq (by rw [g3]), fun _ _ => by rw [g3], Nat.le_of_eq (by rw [g4]), fun _ _ => by rw [g4],
    Nat.le_of_eq (by rw [g5]), fun _ _ => by rw [g5], Nat.le_of_eq (by rw [g6]), fun _ _ _ => by rw [g6]⟩

theorem Grows.calOf (g : Grows h h') (i : Nat) : h'.calOf i = h.calOf i := calOf_congr g.cals i

theorem Grows.dict (g : Grows h h') (i : Nat) : h'.dict i = h.dict i := dict_congr g.dicts i

theorem grows_append (h : Heap) (cs : List Nat) : Grows h { h with cells := h.cells ++ cs } :=
  ⟨by simp, fun i hi => List.getElem?_append_left hi, rfl, rfl, rfl, rfl⟩

end

/-- only new `Calibration` objects appear; everything else is the same: what the calibration part of a constructor
does to memory (`Ext.of_growsC`) -/
def GrowsC (h h' : Heap) : Prop :=
  h'.cells = h.cells ∧ h.cals.length ≤ h'.cals.length ∧ (∀ i, i < h.cals.length → h'.cals[i]? = h.cals[i]?) ∧
  h'.cfgs = h.cfgs ∧ h'.offs = h.offs ∧ h'.dicts = h.dicts

theorem Ext.of_growsC {d : Option Nat} {h h' : Heap} (g : GrowsC h h') : Ext d h h' := by
  obtain ⟨g1, g2, g3, g4, g5, g6⟩ := g
  exact ⟨Nat.le_of_eq (by rw [g1]), fun _ _ => by rw [g1], g2, g3, Nat.le_of_eq (by rw [g4]), fun _ _ => by rw [g4],
    Nat.le_of_eq (by rw [g5]), fun _ _ => by rw [g5], Nat.le_of_eq (by rw [g6]), fun _ _ _ => by rw [g6]⟩

theorem GrowsC.refl (h : Heap) : GrowsC h h := ⟨rfl, Nat.le_refl _, fun _ _ => rfl, rfl, rfl, rfl⟩

theorem GrowsC.trans {a b c : Heap} (h1 : GrowsC a b) (h2 : GrowsC b c) : GrowsC a c :=
  ⟨h2.1.trans h1.1, Nat.le_trans h1.2.1 h2.2.1,
   fun i hi => (h2.2.2.1 i (Nat.lt_of_lt_of_le hi h1.2.1)).trans (h1.2.2.1 i hi),
   h2.2.2.2.1.trans h1.2.2.2.1, h2.2.2.2.2.1.trans h1.2.2.2.2.1, h2.2.2.2.2.2.trans h1.2.2.2.2.2⟩

section
variable {h h' : Heap}

theorem GrowsC.cells (g : GrowsC h h') : h'.cells = h.cells := g.1
theorem GrowsC.cals_le (g : GrowsC h h') : h.cals.length ≤ h'.cals.length := g.2.1
theorem GrowsC.cfgs (g : GrowsC h h') : h'.cfgs = h.cfgs := g.2.2.2.1
theorem GrowsC.dicts (g : GrowsC h h') : h'.dicts = h.dicts := g.2.2.2.2.2

theorem GrowsC.calOf (g : GrowsC h h') {i : Nat} (hi : i < h.cals.length) : h'.calOf i = h.calOf i := by
  unfold Heap.calOf; rw [g.2.2.1 i hi]

end

theorem growsC_alloc (h : Heap) (c : Nat) : GrowsC h (h.allocCal c).2 :=
  ⟨rfl, by simp [Heap.allocCal], fun i hi => List.getElem?_append_left hi, rfl, rfl, rfl⟩

theorem ext_setDict (h : Heap) (i : Nat) (x : IdDict) : Ext (some i) h { h with dicts := h.dicts.set i x } :=
  ⟨Nat.le_refl _, fun _ _ => rfl, Nat.le_refl _, fun _ _ => rfl, Nat.le_refl _, fun _ _ => rfl,
   Nat.le_refl _, fun _ _ => rfl, by simp, fun j _ hj => by
     rw [List.getElem?_set_ne (fun (e : i = j) => hj (by rw [e]))]⟩

theorem ext_allocDict (d : Option Nat) (h : Heap) (x : IdDict) : Ext d h (h.allocDict x).2 :=
  ⟨Nat.le_refl _, fun _ _ => rfl, Nat.le_refl _, fun _ _ => rfl, Nat.le_refl _, fun _ _ => rfl,
   Nat.le_refl _, fun _ _ => rfl, by simp [Heap.allocDict],
   fun j hj _ => List.getElem?_append_left hj⟩

theorem ext_allocCfg (d : Option Nat) (h : Heap) (c : Cfg) : Ext d h (h.allocCfg c).2 :=
  ⟨Nat.le_refl _, fun _ _ => rfl, Nat.le_refl _, fun _ _ => rfl, by simp [Heap.allocCfg],
   fun j hj => List.getElem?_append_left hj, Nat.le_refl _, fun _ _ => rfl, Nat.le_refl _, fun _ _ _ => rfl⟩

theorem ext_allocOffs (d : Option Nat) (h : Heap) (c : Nat) : Ext d h (h.allocOffs c).2 :=
  ⟨Nat.le_refl _, fun _ _ => rfl, Nat.le_refl _, fun _ _ => rfl, Nat.le_refl _, fun _ _ => rfl,
   by simp [Heap.allocOffs], fun j hj => List.getElem?_append_left hj, Nat.le_refl _, fun _ _ _ => rfl⟩

theorem map_range'_append (l v : List Nat) :
    (List.range' l.length v.length).map (fun i => ((l ++ v)[i]?).getD 0) = v := by
  apply List.ext_getElem (by simp)
  intro i h1 h2
  simp [h2]

theorem mapV_zip (f : Nat → Nat) (ks : List Name) (is : List Nat) :
    mapV f (List.zip ks is) = List.zip ks (is.map f) := by
  simp [mapV, List.zip_map_right]

theorem copyArr_grows (h : Heap) (a : Arr) : Grows h (h.copyArr a).2 := grows_append h _

theorem copyArr_view (h : Heap) (a : Arr) : viewLayer (h.copyArr a).2 (h.copyArr a).1 = viewLayer h a := by
  unfold Heap.copyArr Heap.allocCells viewLayer Heap.cell
  simp only [mapV_zip, map_range'_append, keys, List.zip_map']
  rfl

theorem copyArr_ids (h : Heap) (a : Arr) : (h.copyArr a).1.ids = List.range' h.cells.length a.fields.length := by
  unfold Heap.copyArr Heap.allocCells Layer.ids
  rw [List.map_snd_zip] <;> simp [keys]

theorem copyArr_mem {h : Heap} {a : Arr} {e : Name × Nat} (he : e ∈ (h.copyArr a).1.fields) :
    h.cells.length ≤ e.2 ∧ e.2 < h.cells.length + a.fields.length := by
  have : e.2 ∈ (h.copyArr a).1.ids := List.mem_map_of_mem he
  rwa [copyArr_ids, List.mem_range'_1] at this

theorem copyArr_ok (h : Heap) (a : Arr) : ArrOK (h.copyArr a).2 (h.copyArr a).1 := fun e he => by
  show e.2 < (h.cells ++ a.fields.map fun e => h.cell e.2).length
  rw [List.length_append, List.length_map]
  exact (copyArr_mem he).2

theorem copyArr_fresh (h : Heap) (a : Arr) : ∀ e ∈ (h.copyArr a).1.fields, h.cells.length ≤ e.2 :=
  fun _ he => (copyArr_mem he).1

theorem copyArr_keys (h : Heap) (a : Arr) : keys (h.copyArr a).1.fields = keys a.fields := by
  unfold Heap.copyArr Heap.allocCells
  simp only [keys]
  rw [List.map_fst_zip]
  simp

theorem copyArr_shape (h : Heap) (a : Arr) : (h.copyArr a).1.shape = a.shape := rfl

theorem copyArrs_spec : ∀ (as : List Arr) (h : Heap), (∀ a ∈ as, ArrOK h a) →
    (copyArrs as h).1.map (viewLayer (copyArrs as h).2) = as.map (viewLayer h) ∧
      Grows h (copyArrs as h).2 ∧ (∀ a ∈ (copyArrs as h).1, ArrOK (copyArrs as h).2 a) ∧
      (∀ a ∈ (copyArrs as h).1, ∀ e ∈ a.fields, h.cells.length ≤ e.2) := by
  intro as
  induction as with
  | nil => exact fun h _ => ⟨rfl, Grows.refl _, by simp [copyArrs], by simp [copyArrs]⟩
  | cons a t ih =>
    intro h has
    have hg1 := copyArr_grows h a
    obtain ⟨_, hast⟩ := List.forall_mem_cons.1 has
    obtain ⟨hv2, hg2, hok2, hf2⟩ := ih (h.copyArr a).2 (fun b hb => (hast b hb).mono hg1.ext)
    simp only [copyArrs, List.map_cons]
    refine ⟨?_, hg1.trans hg2, List.forall_mem_cons.2 ⟨(copyArr_ok h a).mono hg2.ext, hok2⟩,
      List.forall_mem_cons.2 ⟨copyArr_fresh h a, fun b hb e he => Nat.le_trans hg1.1 (hf2 b hb e he)⟩⟩
    rw [hv2, hg2.ext.viewLayer (copyArr_ok h a), copyArr_view, hg1.ext.viewLayers hast]

end Pew.LaserEdit
