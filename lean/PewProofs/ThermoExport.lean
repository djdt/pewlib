import PewProofs.ThermoRows
import PewProofs.ThermoCols
import PewProofs.ThermoText

/-! # C03 — what the layers above the readers know of an export

Both layouts write the same tokens into their fields (`Tokens`), end every line with the terminator (`Lines`) and
start with an empty field; `IsExport a t` is what the text layer and the detection of the decimal mark need of the
table `t`, so that everything above is said once for both layouts. -/
namespace Pew.Thermo

structure Tokens (sh : Nat → String) (a : Acq) (P : String → Prop) : Prop where
  blank : P ""
  main : P "MainRuns"
  ident : P "<Identifier>"
  scans : ∀ s, s < a.nscans → P (sh s)
  labels : ∀ e ∈ a.elements, P e
  chans : ∀ c ∈ a.channels, P c
  samples : ∀ n ∈ a.samples, P n
  /-- over the cells as a list, not four bounds as in `ChanOnly.value`: `Decidable` synthesis of a fourfold bounded `∀`
  runs out of its limit when an example decides it -/
  values : ∀ y ∈ enumRows a.nscans a.elements.length a.channels.length, ∀ i, i < a.samples.length →
    P (a.value i y.1 y.2.1 y.2.2)

theorem Tokens.mono {sh : Nat → String} {a : Acq} {P Q : String → Prop} (h : Tokens sh a P) (hpq : ∀ f, P f → Q f) :
    Tokens sh a Q :=
  ⟨hpq _ h.blank, hpq _ h.main, hpq _ h.ident, fun s hs => hpq _ (h.scans s hs), fun e he => hpq _ (h.labels e he),
    fun c hc => hpq _ (h.chans c hc), fun n hn => hpq _ (h.samples n hn),
    fun y hy i hi => hpq _ (h.values y hy i hi)⟩

def Lines (P : String → Prop) (t : Table) : Prop := ∀ r ∈ t, ∃ pre, r = pre ++ ["\n"] ∧ ∀ f ∈ pre, P f

theorem Lines.ne_nil {P : String → Prop} {t : Table} (h : Lines P t) : ∀ r ∈ t, r ≠ [] := by
  intro r hr
  obtain ⟨pre, rfl, _⟩ := h r hr
  simp

theorem Lines.getLast {P : String → Prop} {t : Table} (h : Lines P t) : ∀ r ∈ t, r.getLast? = some "\n" := by
  intro r hr
  obtain ⟨pre, rfl, _⟩ := h r hr
  simp

theorem Lines.dropLast {P : String → Prop} {t : Table} (h : Lines P t) : ∀ r ∈ t, ∀ f ∈ r.dropLast, P f := by
  intro r hr
  obtain ⟨pre, rfl, hp⟩ := h r hr
  rwa [List.dropLast_concat]

theorem Lines.fields {P : String → Prop} {t : Table} (h : Lines P t) (hz : P "\n") : ∀ r ∈ t, ∀ f ∈ r, P f := by
  intro r hr f hf
  obtain ⟨pre, rfl, hp⟩ := h r hr
  rcases List.mem_append.mp hf with hf | hf
  · exact hp f hf
  · rw [List.mem_singleton.mp hf]; exact hz

theorem Tokens.renderRows {sh : Nat → String} {a : Acq} {P : String → Prop} (h : Tokens sh a P) :
    Lines P (renderRows sh a) := by
  have line : ∀ (p q : String) (g : Nat × Nat × Nat → String), P p → P q →
      (∀ y ∈ enumRows a.nscans a.elements.length a.channels.length, P (g y)) →
      ∃ pre, p :: q :: (enumRows a.nscans a.elements.length a.channels.length).map g ++ ["\n"] = pre ++ ["\n"] ∧
        ∀ f ∈ pre, P f := by
    intro p q g hp hq hg
    refine ⟨_, rfl, fun f hf => ?_⟩
    rcases List.mem_cons.mp hf with rfl | hf
    · exact hp
    rcases List.mem_cons.mp hf with rfl | hf
    · exact hq
    obtain ⟨y, hy, rfl⟩ := List.mem_map.mp hf
    exact hg y hy
  intro r hr
  rcases List.mem_append.mp hr with hr | hr
  · simp only [List.mem_cons, List.mem_nil_iff, or_false] at hr
    rcases hr with rfl | rfl | rfl | rfl
    · exact line _ _ _ h.blank h.blank fun _ _ => h.main
    · exact line _ _ _ h.blank h.blank fun y hy => h.scans _ (mem_enumRows.mp hy).1
    · exact line _ _ _ h.blank h.blank fun y hy => h.labels _ (elem_mem a _ (mem_enumRows.mp hy).2.1)
    · exact line _ _ _ h.blank h.blank fun y hy => h.chans _ (chan_mem a _ (mem_enumRows.mp hy).2.2)
  · obtain ⟨i, hi, rfl⟩ := List.mem_map.mp hr
    have hi := List.mem_range.mp hi
    exact line _ _ _ (h.samples _ (sample_mem a i hi)) h.ident fun y hy => h.values y hy i hi

theorem Tokens.renderCols {sh : Nat → String} {a : Acq} {P : String → Prop} (h : Tokens sh a P) :
    Lines P (renderCols sh a) := by
  have four : ∀ f ∈ ["", "", "", ""], P f := by
    intro f hf
    simp only [List.mem_cons, List.mem_nil_iff, or_false, or_self] at hf
    rw [hf]; exact h.blank
  intro r hr
  rcases List.mem_cons.mp hr with rfl | hr
  · refine ⟨_, rfl, fun f hf => ?_⟩
    rcases List.mem_append.mp hf with hf | hf
    · exact four f hf
    · exact h.samples f hf
  rcases List.mem_cons.mp hr with rfl | hr
  · refine ⟨_, rfl, fun f hf => ?_⟩
    rcases List.mem_append.mp hf with hf | hf
    · exact four f hf
    · obtain ⟨_, _, rfl⟩ := List.mem_map.mp hf
      exact h.ident
  · obtain ⟨y, hy, rfl⟩ := List.mem_map.mp hr
    obtain ⟨hs, he, hc⟩ := mem_enumCols.mp hy
    refine ⟨_, rfl, fun f hf => ?_⟩
    rcases List.mem_append.mp hf with hf | hf
    · simp only [List.mem_cons, List.mem_nil_iff, or_false] at hf
      rcases hf with rfl | rfl | rfl | rfl
      · exact h.main
      · exact h.scans _ hs
      · exact h.labels _ (elem_mem a _ he)
      · exact h.chans _ (chan_mem a _ hc)
    · obtain ⟨i, hi, rfl⟩ := List.mem_map.mp hf
      exact h.values y (mem_enumRows.mpr ⟨hs, he, hc⟩) i (List.mem_range.mp hi)

structure IsExport (a : Acq) (t : Table) : Prop where
  form : ∃ g r rest, t = ("" :: g :: r) :: rest
  lines : Lines (fun _ => True) t
  values : ∀ {i s e c}, i < a.samples.length → s < a.nscans → e < a.elements.length → c < a.channels.length →
    ∃ q ∈ t, a.value i s e c ∈ q

theorem IsExport.head {a : Acq} {t : Table} (h : IsExport a t) : ∀ r ∈ t.head?, ∃ g fs, r = "" :: g :: fs := by
  obtain ⟨g, r, rest, rfl⟩ := h.form
  intro q hq
  exact ⟨g, r, (Option.some.inj hq).symm⟩

theorem renderRows_export (sh : Nat → String) (a : Acq) : IsExport a (renderRows sh a) where
  form := ⟨_, _, _, rfl⟩
  lines := Tokens.renderRows (by constructor <;> intros <;> trivial)
  values := fun {i s e c} hi hs he hc => by
    refine ⟨_, List.mem_append_right _ (List.mem_map.mpr ⟨i, List.mem_range.mpr hi, rfl⟩), ?_⟩
    exact List.mem_append_left _ (List.mem_cons_of_mem _ (List.mem_cons_of_mem _
      (List.mem_map.mpr ⟨(s, e, c), mem_enumRows.mpr ⟨hs, he, hc⟩, rfl⟩)))

theorem renderCols_export (sh : Nat → String) (a : Acq) : IsExport a (renderCols sh a) where
  form := ⟨_, _, _, rfl⟩
  lines := Tokens.renderCols (by constructor <;> intros <;> trivial)
  values := fun {i s e c} hi hs he hc =>
    ⟨colLine sh a (s, e, c),
      List.mem_cons_of_mem _ (List.mem_cons_of_mem _ (List.mem_map.mpr ⟨_, mem_enumCols.mpr ⟨hs, he, hc⟩, rfl⟩)),
      List.mem_append_left _ (List.mem_append_right _ (List.mem_map.mpr ⟨i, List.mem_range.mpr hi, rfl⟩))⟩

theorem renderRows_first (sh : Nat → String) (a : Acq)
    (hm : 0 < a.nscans) (hk : 0 < a.elements.length) (hc : 0 < a.channels.length) :
    lineHas "MainRuns" ((renderRows sh a).getD 0 []) = true :=
  List.any_eq_true.mpr ⟨"MainRuns", List.mem_append_left _ (List.mem_cons_of_mem _ (List.mem_cons_of_mem _
    (List.mem_map.mpr ⟨(0, 0, 0), mem_enumRows.mpr ⟨hm, hk, hc⟩, rfl⟩))), hasSub_mainruns_self⟩

theorem renderCols_third (sh : Nat → String) (a : Acq)
    (hm : 0 < a.nscans) (hk : 0 < a.elements.length) (hc : 0 < a.channels.length) :
    lineHas "MainRuns" ((renderCols sh a).getD 2 []) = true := by
  obtain ⟨y, t, hy⟩ := List.exists_cons_of_ne_nil
    (List.ne_nil_of_mem (mem_enumCols.mpr ⟨hm, hk, hc⟩ : (0, 0, 0) ∈ enumCols a.nscans a.elements.length a.channels.length))
  simp only [renderCols, hy, List.map_cons, List.getD_cons_succ, List.getD_cons_zero, colLine, lineHas, List.cons_append,
    List.any_cons, hasSub_mainruns_self, Bool.true_or]

theorem renderCols_first (sh : Nat → String) (a : Acq) (hs : ∀ s ∈ a.samples, hasSub "MainRuns" s = false) :
    lineHas "MainRuns" ((renderCols sh a).getD 0 []) = false := by
  simp only [renderCols, List.getD_cons_zero, lineHas, List.cons_append, List.nil_append, List.any_cons, List.any_append,
    List.any_nil, hasSub_mainruns_empty, hasSub_mainruns_eol, Bool.false_or, Bool.or_false]
  exact List.any_eq_false.mpr fun s hs' => by simp [hs s hs']

theorem loadText_export {a : Acq} {t : Table} (ht : IsExport a t) (x : Ext V) (d : Char) (ua : Bool)
    (h : ∀ q ∈ t, ∀ f ∈ q, d ∉ f.toList) : loadText x (renderText d t) ua = load x d t ua :=
  loadText_renderText x d ht.form ht.lines.ne_nil h ua

theorem readDataText_export {α : Type} {a : Acq} {t : Table} (ht : IsExport a t) (x : Ext α) (rows : Bool) (d : Char)
    (explicit : Option Char) (comma ua : Bool) (h : ∀ q ∈ t, ∀ f ∈ q, d ∉ f.toList) (hexp : explicit = none ∨ explicit = some d) :
    readDataText x rows explicit comma ua (renderText d t) =
      if rows then readRows x comma (chanOf ua) t else readCols x comma (chanOf ua) t := by
  unfold readDataText
  rw [tableOf_renderText_of d ht.form ht.lines.ne_nil h hexp, Option.bind_some]

theorem readParamsText_export {a : Acq} {t : Table} (ht : IsExport a t) (x : Ext V) (rows : Bool) (d : Char)
    (explicit : Option Char) (comma : Bool) (h : ∀ q ∈ t, ∀ f ∈ q, d ∉ f.toList) (hexp : explicit = none ∨ explicit = some d) :
    readParamsText x rows explicit comma (renderText d t) = readParams x rows comma t := by
  unfold readParamsText
  rw [tableOf_renderText_of d ht.form ht.lines.ne_nil h hexp, Option.bind_some]

end Pew.Thermo
