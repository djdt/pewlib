/-! `List.mergeSort` by a transitive, total comparison: when the result does not depend on the order of the input, when
it is a given sorted list, and that it is stable.  Core Lean only, so that every property's sort (by a key in a linear order, by
lexicographic keys, of a list of rationals) can rest on these. -/
namespace Pew.MergeSort

variable {α : Type} {le : α → α → Bool}

theorem perm_invariant (ht : ∀ a b c : α, le a b = true → le b c = true → le a c = true)
    (htot : ∀ a b : α, (le a b || le b a) = true) {l₁ l₂ : List α} (hp : l₁.Perm l₂)
    (hanti : ∀ a ∈ l₁, ∀ b ∈ l₁, le a b = true → le b a = true → a = b) :
    l₁.mergeSort le = l₂.mergeSort le := by
  have p : (l₁.mergeSort le).Perm (l₂.mergeSort le) :=
    (List.mergeSort_perm _ _).trans (hp.trans (List.mergeSort_perm _ _).symm)
  apply List.Perm.eq_of_pairwise (le := fun a b => le a b = true) _
    (List.pairwise_mergeSort ht htot l₁) (List.pairwise_mergeSort ht htot l₂) p
  intro a b ha hb
  exact hanti a ((List.mergeSort_perm _ _).mem_iff.mp ha) b (hp.mem_iff.mpr ((List.mergeSort_perm _ _).mem_iff.mp hb))

theorem eq_sorted_of_perm (ht : ∀ a b c : α, le a b = true → le b c = true → le a c = true)
    (htot : ∀ a b : α, (le a b || le b a) = true) {l s : List α} (hp : l.Perm s)
    (hs : s.Pairwise (fun a b => le a b = true))
    (hanti : ∀ a ∈ s, ∀ b ∈ s, le a b = true → le b a = true → a = b) :
    l.mergeSort le = s := by
  rw [perm_invariant ht htot hp fun a ha b hb => hanti a (hp.mem_iff.mp ha) b (hp.mem_iff.mp hb)]
  exact List.mergeSort_of_pairwise hs

theorem eq_of_perm_strict (ht : ∀ a b c : α, le a b = true → le b c = true → le a c = true)
    (htot : ∀ a b : α, (le a b || le b a) = true) {l s : List α} (hp : l.Perm s)
    (hs : s.Pairwise (fun a b => le a b = true ∧ le b a = false)) :
    l.mergeSort le = s := by
  apply eq_sorted_of_perm ht htot hp (hs.imp (fun h => h.1))
  -- of two distinct elements one stands first, and the later one is not `le`-below it
  exact List.Pairwise.forall_of_forall_of_flip (R := fun a b => le a b = true → le b a = true → a = b)
    (fun _ _ _ _ => rfl)
    (hs.imp fun h _ h2 => absurd h2 (by rw [h.2]; exact Bool.false_ne_true))
    (hs.imp fun h h1 _ => absurd h1 (by rw [h.2]; exact Bool.false_ne_true))

theorem filter_mergeSort (ht : ∀ a b c : α, le a b = true → le b c = true → le a c = true)
    (htot : ∀ a b : α, (le a b || le b a) = true) (p : α → Bool) (l : List α)
    (hp : ∀ a b, p a = true → p b = true → le a b = true) :
    (l.mergeSort le).filter p = l.filter p := by
  -- stability: `l.filter p` is sorted already (`hp`), so it stays a sublist of the sorted list, which has as many
  -- elements in `p`
  have hsub : (l.filter p).Sublist (l.mergeSort le) :=
    List.sublist_mergeSort ht htot
      (List.pairwise_iff_forall_sublist.mpr fun h => hp _ _ (List.mem_filter.mp (h.subset (by simp))).2
        (List.mem_filter.mp (h.subset (by simp))).2) List.filter_sublist
  have h2 := hsub.filter p
  rw [List.filter_filter] at h2
  simp only [Bool.and_self] at h2
  exact (h2.eq_of_length ((List.mergeSort_perm l le).filter p).length_eq.symm).symm

theorem congr {r s : α → α → Bool} {l : List α} (h : ∀ a ∈ l, ∀ b ∈ l, r a b = s a b) :
    l.mergeSort r = l.mergeSort s := by
  simpa using List.map_mergeSort (f := id) (r := r) (s := s) (l := l) h

end Pew.MergeSort
