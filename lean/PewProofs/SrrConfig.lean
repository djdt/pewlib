import PewProofs.Float64
import PewProofs.Lists

/-! `SRRConfig` by itself, no arrays: with an integer magnification its integer arithmetic is exact (`magInt_natCast`, `spp_*`), and its one
float round trip, warm-up seconds ↔ samples, is the identity below 2⁵⁰ samples (`round_mul_div_robust`); hence the array form reads back
(`fromArray_toArray`, `fromRec_natTable`) -/
namespace Pew

namespace Srr

theorem magInt_natCast (M : Nat) (hM : 1 ≤ M) : magInt (M : Rat) = M := by
  unfold magInt
  have h1 : ¬ ((M : Rat) < 1) := by
    have : (1 : Rat) ≤ (M : Rat) := by exact_mod_cast hM
    exact not_lt.mpr this
  rw [if_neg h1]
  have : ((M : Nat) : Rat) = ((M : Int) : Rat) := by push_cast; rfl
  rw [this, roundHalfEven_intCast]; simp

theorem magAxis_natCast (M : Nat) (hM : 1 ≤ M) : magAxis (M : Rat) = 0 := by
  unfold magAxis
  have : (1 : Rat) ≤ (M : Rat) := by exact_mod_cast hM
  rw [if_pos this]

theorem spp_pos (size M : Nat) (hs : 1 ≤ size) (hM : 1 ≤ M) : 1 ≤ subpixelsPerPixel size (M : Rat) := by
  unfold subpixelsPerPixel
  rw [magInt_natCast M hM]
  exact Nat.div_pos (Nat.le_of_dvd (Nat.lcm_pos hs hM) (Nat.dvd_lcm_right size M)) hM

/-- `np.lcm(size, mag) // mag` in integer arithmetic (as the code computes it) is the model's `subpixelsPerPixel`.  No theorem
here uses it: the left-hand side is the term `harness/structural_c10.py` translates from the source of `subpixels_per_pixel` on
every run, and that tie closes with this lemma. -/
theorem spp_int_eq (size : Nat) (m : Rat) (hm : 0 < m) :
    Int.fdiv ((Int.lcm (size : Int) (roundHalfEven (if m < 1 then fl (1 / m) else m)) : Nat) : Int)
        (roundHalfEven (if m < 1 then fl (1 / m) else m))
      = ((subpixelsPerPixel size m : Nat) : Int) := by
  have h0 : 0 ≤ roundHalfEven (if m < 1 then fl (1 / m) else m) := by
    apply roundHalfEven_nonneg
    split_ifs
    · exact (fl_pos _ (by positivity)).le
    · exact hm.le
  unfold subpixelsPerPixel magInt
  generalize roundHalfEven (if m < 1 then fl (1 / m) else m) = r at h0 ⊢
  obtain ⟨n, rfl⟩ := Int.eq_ofNat_of_zero_le h0
  rw [Int.fdiv_eq_ediv_of_nonneg _ (by omega)]
  simp [Int.lcm]

/-- the sign test of the check reads the float product `_warmup * scantime`, whose sign is the sign of `_warmup` -/
theorem warmupSeconds_neg_iff (c : SrrConfig) (hscan : 0 < c.scantime) : c.warmupSeconds < 0 ↔ c.warmup < 0 := by
  unfold SrrConfig.warmupSeconds
  rw [fl_neg_iff]
  exact ⟨fun h => Int.cast_lt_zero.mp (Left.neg_of_mul_neg_left h hscan.le),
    fun h => mul_neg_of_neg_of_pos (Int.cast_lt_zero.mpr h) hscan⟩

theorem dvd_lcmList {l : List Nat} {x : Nat} (h : x ∈ l) : x ∣ lcmList l := Lists.dvd_foldl_lcm_of_mem id l 1 h

theorem lcmList_pos {l : List Nat} (h : ∀ x ∈ l, 0 < x) : 0 < lcmList l := Lists.foldl_lcm_pos id l 1 Nat.one_pos h

theorem lcmList_const (l : List Nat) (s : Nat) (hne : l ≠ []) (h : ∀ x ∈ l, x = s) : lcmList l = s := by
  cases l with
  | nil => exact absurd rfl hne
  | cons y ys =>
    simp only [lcmList, List.foldl_cons]
    rw [h y (by simp), Nat.lcm_one_left]
    exact Lists.foldl_lcm_const id ys s (fun x hx => h x (by simp [hx]))

theorem setOffsets_const (c : SrrConfig) (l : List Nat) (s : Nat) (hl : l ≠ []) (hs : 1 ≤ s) :
    c.setOffsets (l.map (fun o => (o, s))) = { c with size := s, offs := l } := by
  have h1 : lcmList ((l.map (fun o => (o, s))).map (·.2)) = s :=
    lcmList_const _ s (by simpa using hl) (by intro x hx; simp at hx; exact hx.2.symm)
  have h2 : (l.map (fun o => (o, s))).map (fun od => od.1 * s / od.2) = l := by
    rw [List.map_map]
    exact Lists.map_eq_self _ l fun a _ => Nat.mul_div_cancel a hs
  simp only [SrrConfig.setOffsets, h1, h2]

theorem fromArray_toArray (c : SrrConfig) (hs : c.scantime ≠ 0) (ho : c.offs ≠ []) (hz : 1 ≤ c.size)
    (hwb : c.warmup.natAbs ≤ 2 ^ 50) :
    SrrConfig.fromArray c.toArray = c := by
  have h : SrrConfig.fromArray c.toArray
      = ({ c with warmup := roundHalfEven (fl (fl ((c.warmup : Rat) * c.scantime) / c.scantime)) } : SrrConfig).setOffsets
          (c.offs.map (fun o => (o, c.size))) := rfl
  -- the warm-up survives: with float64 rounding after the product and after the quotient, `round(fl(fl(n·s) / s)) = n`
  rw [h, setOffsets_const _ _ _ ho hz, round_mul_div_robust fl fl_relerr c.scantime hs c.warmup hwb]

theorem fromRec_natTable (a b t w : Rat) (pairs : List (Nat × Nat)) (ht : t ≠ 0) (hp : pairs ≠ []) :
    SrrConfig.fromRec { names := srrNames, dim := none, recs := [[.num a, .num b, .num t, .num w,
                        .table (pairs.map (fun p => ((p.1 : Int), (p.2 : Int))))]] }
      = .ok (SrrConfig.make a b t w pairs) := by
  have hne : (pairs.map (fun p => ((p.1 : Int), (p.2 : Int)))).isEmpty = false := by
    cases pairs with
    | nil => exact absurd rfl hp
    | cons _ _ => rfl
  have hall : (pairs.map (fun p => ((p.1 : Int), (p.2 : Int)))).all (fun p => decide (0 ≤ p.1) && decide (0 ≤ p.2)) = true := by
    simp [List.all_eq_true]
  have hback : (pairs.map (fun p => ((p.1 : Int), (p.2 : Int)))).map (fun p => (p.1.toNat, p.2.toNat)) = pairs := by
    simp [Function.comp_def]
  -- the lookups by name evaluate on the concrete names (`rfl`); left are the tests on the values, the scan time first
  refine (show SrrConfig.fromRec _ = ite (t = 0) _ _ from rfl).trans ?_
  rw [if_neg ht]
  -- the offsets are tested inside the bind
  refine (show _ = (ite _ _ (ite _ (pure _) _) >>= _) from rfl).trans ?_
  rw [hne, if_neg Bool.false_ne_true, if_pos hall, hback]
  rfl

end Srr
end Pew
