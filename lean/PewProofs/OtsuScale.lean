import PewProofs.Otsu
import PewProofs.Lists
import PewProofs.RelErr

/-! # C15 — `otsu` under multiplication: by any `c > 0`, then by `2^k` (the rescaling step)

Scaling all centres by one positive factor scales the criterion by its square (`critProg_map`), NaN where it was NaN, so
`np.argmax` does not move and the returned centre scales (`getD_centres_scale`).  `frexpExp q` is the only `e` with
`2^(e−1) ≤ |q| < 2^e` (`⌊log₂⌋` of numerator and denominator, one comparison), so it shifts by `k` under `2^k ·` and the
rescaled centres do not move. -/
namespace Pew.Otsu

theorem centres_scale (c : Rat) (edges : List Rat) :
    centres (edges.map (c * ·)) = (centres edges).map (c * ·) := by
  unfold centres
  rw [← List.map_tail, List.zipWith_map, List.map_zipWith]
  congr 1
  funext a b
  ring

theorem zipWith_mul_scale (c : Rat) (h cs : List Rat) :
    List.zipWith (· * ·) h (cs.map (c * ·)) = (List.zipWith (· * ·) h cs).map (c * ·) := by
  rw [List.zipWith_map_right, List.map_zipWith]
  congr 1
  funext a b
  ring

theorem specCrit_scale (c : Rat) (hist : List Nat) (cs : List Rat) (i : Nat) :
    specCrit hist (cs.map (c * ·)) i = c ^ 2 * specCrit hist cs i := by
  unfold specCrit
  simp only [zipWith_mul_scale, ← List.map_take, ← List.map_drop, sumR_map_mul]
  ring

theorem getD_map_mul (k : Rat) (l : List Rat) (r : Nat) :
    (l.map (k * ·)).getD r 0 = k * l.getD r 0 :=
  by simpa using Lists.getD_map_of_map_default (k * ·) l r 0

theorem argmaxFirst_scale (k : Rat) (hk : 0 < k) : ∀ (l : List Rat),
    argmaxFirst (l.map (k * ·)) = argmaxFirst l
  | [] => rfl
  | [_] => rfl
  | a :: b :: l => by
    have ih : argmaxFirst (k * b :: l.map (k * ·)) = _ := argmaxFirst_scale k hk (b :: l)
    have hg : (k * b :: l.map (k * ·)).getD _ 0 = _ := getD_map_mul k (b :: l) (argmaxFirst (b :: l))
    rw [List.map_cons, List.map_cons, argmaxFirst_cons_cons, argmaxFirst_cons_cons, ih, hg]
    simp only [mul_lt_mul_iff_right₀ hk]

theorem cumsum_map_mul (c : Rat) (l : List Rat) : cumsum (l.map (c * ·)) = (cumsum l).map (c * ·) := by
  induction l with
  | nil => rfl
  | cons a l ih =>
    simp only [List.map_cons, cumsum, ih, List.map_map, List.cons.injEq, true_and]
    apply List.map_congr_left
    intro x _
    simp only [Function.comp]
    ring

theorem divN_scale (c a b : Rat) : (divN a b).map (c * ·) = divN (c * a) b := by
  unfold divN
  split
  · rfl
  · exact congrArg some (mul_div_assoc c a b).symm

theorem subN_scale (c : Rat) (o1 o2 : Option Rat) :
    subN (o1.map (c * ·)) (o2.map (c * ·)) = (subN o1 o2).map (c * ·) := by
  cases o1 <;> cases o2 <;> simp [subN, mul_sub]

theorem critListN_scale (c : Rat) (hist : List Nat) (cs : List Rat) :
    critListN hist (cs.map (c * ·)) = (critListN hist cs).map (Option.map (c ^ 2 * ·)) := by
  rw [critListN_eq_critProg, critListN_eq_critProg]
  exact (critProg_map (f := (c * ·)) (g := Option.map (c * ·)) (fun a x => mul_left_comm c a x)
    (fun z => (cumsum_map_mul c z).symm) (divN_scale c) (fun a b => (subN_scale c a b).symm)
    (fun w d => by cases d <;> simp; ring) _ cs).symm

theorem critList_scale (c : Rat) (hist : List Nat) (cs : List Rat) :
    critList hist (cs.map (c * ·)) = (critList hist cs).map (c ^ 2 * ·) := by
  rw [critList_eq_critProg, critList_eq_critProg]
  exact (critProg_map (f := (c * ·)) (g := (c * ·)) (fun a x => mul_left_comm c a x)
    (fun z => (cumsum_map_mul c z).symm) (fun s w => (mul_div_assoc c s w).symm) (fun a b => mul_sub c a b)
    (fun w d => by ring) _ cs).symm

theorem argmaxN_scale (k : Rat) (hk : 0 < k) (l : List (Option Rat)) :
    argmaxN (l.map (Option.map (k * ·))) = argmaxN l := by
  unfold argmaxN
  have e : (·.isNone) ∘ Option.map (k * ·) = (·.isNone : Option Rat → Bool) := funext fun _ => Option.isNone_map
  rw [List.findIdx_map, e, List.length_map]
  have : (l.map (Option.map (k * ·))).map (·.getD 0) = (l.map (·.getD 0)).map (k * ·) := by
    rw [List.map_map, List.map_map]
    apply List.map_congr_left
    intro o _
    cases o <;> simp
  rw [this, argmaxFirst_scale k hk]

theorem getD_centres_scale (c : Rat) (edges : List Rat) (idx : List Rat → Nat)
    (hidx : idx ((centres edges).map (c * ·)) = idx (centres edges)) :
    (centres (edges.map (c * ·))).getD (idx (centres (edges.map (c * ·)))) 0 =
      c * (centres edges).getD (idx (centres edges)) 0 := by
  rw [centres_scale, hidx, getD_map_mul]

theorem argmaxN_critListN_scale (c : Rat) (hc : 0 < c) (hist : List Nat) (cs : List Rat) :
    argmaxN (critListN hist (cs.map (c * ·))) = argmaxN (critListN hist cs) := by
  rw [critListN_scale, argmaxN_scale _ (pow_pos hc 2)]

theorem otsuHist_scale (c : Rat) (hc : 0 < c) (hist : List Nat) (edges : List Rat) :
    otsuHist hist (edges.map (c * ·)) = c * otsuHist hist edges :=
  getD_centres_scale c edges (fun cs => argmaxFirst (critList hist cs))
    (by rw [critList_scale, argmaxFirst_scale _ (pow_pos hc 2)])

theorem pow2_eq_zpow (k : Int) : pow2 k = (2 : ℚ) ^ k := natPow_ite_eq_zpow k

theorem pow2_pos (k : Int) : 0 < pow2 k := by
  unfold pow2
  split <;> positivity

theorem absQ_eq_abs (q : ℚ) : absQ q = |q| := by
  unfold absQ
  split
  · rename_i h; rw [abs_of_neg h]
  · rename_i h; rw [abs_of_nonneg (not_lt.mp h)]

theorem pow2_add (a b : Int) : pow2 (a + b) = pow2 a * pow2 b := by
  simp only [pow2_eq_zpow]
  exact zpow_add₀ (by norm_num) a b

theorem pow2_neg_mul (k : Int) : pow2 (-k) * pow2 k = 1 := by
  rw [← pow2_add]; simp [pow2_eq_zpow]

theorem log2_bracket (n : Nat) (hn : n ≠ 0) :
    (2 : ℚ) ^ (Nat.log2 n : ℤ) ≤ (n : ℚ) ∧ (n : ℚ) < (2 : ℚ) ^ ((Nat.log2 n : ℤ) + 1) := by
  exact ⟨by exact_mod_cast Nat.log2_self_le hn, by exact_mod_cast Nat.lt_log2_self (n := n)⟩

theorem div_bracket {a b : ℚ} {la lb : ℤ} (hb : 0 < b) (a1 : (2 : ℚ) ^ la ≤ a) (a2 : a < (2 : ℚ) ^ (la + 1))
    (b1 : (2 : ℚ) ^ lb ≤ b) (b2 : b < (2 : ℚ) ^ (lb + 1)) :
    (2 : ℚ) ^ (la - lb - 1) < a / b ∧ a / b < (2 : ℚ) ^ (la - lb + 1) := by
  have two : (2 : ℚ) ≠ 0 := two_ne_zero
  rw [lt_div_iff₀ hb, div_lt_iff₀ hb]
  constructor
  · calc (2 : ℚ) ^ (la - lb - 1) * b < (2 : ℚ) ^ (la - lb - 1) * (2 : ℚ) ^ (lb + 1) :=
          mul_lt_mul_of_pos_left b2 (by positivity)
      _ = (2 : ℚ) ^ la := by rw [← zpow_add₀ two]; congr 1; ring
      _ ≤ a := a1
  · calc a < (2 : ℚ) ^ (la + 1) := a2
      _ = (2 : ℚ) ^ (la - lb + 1) * (2 : ℚ) ^ lb := by rw [← zpow_add₀ two]; congr 1; ring
      _ ≤ _ := mul_le_mul_of_nonneg_left b1 (by positivity)

theorem frexpExp_spec (q : ℚ) (hq : q ≠ 0) :
    (2 : ℚ) ^ (frexpExp q - 1) ≤ |q| ∧ |q| < (2 : ℚ) ^ (frexpExp q) := by
  have habs : |q| = (q.num.natAbs : ℚ) / (q.den : ℚ) := by
    rw [Rat.abs_def, Rat.divInt_eq_div, Int.cast_natCast, Int.cast_natCast]
  obtain ⟨a1, a2⟩ := log2_bracket _ (Int.natAbs_ne_zero.mpr (Rat.num_ne_zero.mpr hq))
  obtain ⟨b1, b2⟩ := log2_bracket _ q.den_nz
  -- `e0 = ⌊log₂ num⌋ − ⌊log₂ den⌋` is within one of the exponent: `2^(e0 − 1) < |q| < 2^(e0 + 1)`
  obtain ⟨lo, hi⟩ := div_bracket (Nat.cast_pos.mpr q.den_pos) a1 a2 b1 b2
  rw [← habs] at lo hi
  unfold frexpExp
  rw [if_neg hq]
  simp only [absQ_eq_abs, pow2_eq_zpow]
  split
  · exact ⟨by rwa [add_sub_cancel_right], hi⟩
  · rename_i h
    exact ⟨lo.le, not_le.mp h⟩

theorem frexpExp_mantissa (q : ℚ) (hq : q ≠ 0) :
    1 / 2 ≤ pow2 (-(frexpExp q)) * |q| ∧ pow2 (-(frexpExp q)) * |q| < 1 := by
  obtain ⟨s1, s2⟩ := frexpExp_spec q hq
  have hpos : (0 : ℚ) < (2 : ℚ) ^ (frexpExp q) := by positivity
  rw [pow2_eq_zpow, zpow_neg, le_inv_mul_iff₀ hpos, inv_mul_lt_iff₀ hpos, mul_one, one_div]
  rw [zpow_sub_one₀ (two_ne_zero (α := ℚ))] at s1
  exact ⟨s1, s2⟩

theorem frexpExp_unique (q : ℚ) (e : Int) (h1 : (2 : ℚ) ^ (e - 1) ≤ |q|) (h2 : |q| < (2 : ℚ) ^ e) :
    frexpExp q = e := by
  have hq : q ≠ 0 := by
    intro h; rw [h, abs_zero] at h1
    exact absurd h1 (not_le.mpr (by positivity))
  obtain ⟨s1, s2⟩ := frexpExp_spec q hq
  have one : (1 : ℚ) < 2 := by norm_num
  have c1 : e - 1 < frexpExp q := (zpow_lt_zpow_iff_right₀ one).mp (lt_of_le_of_lt h1 s2)
  have c2 : frexpExp q - 1 < e := (zpow_lt_zpow_iff_right₀ one).mp (lt_of_le_of_lt s1 h2)
  omega

theorem frexpExp_pow2_mul (k : Int) (q : ℚ) (hq : q ≠ 0) : frexpExp (pow2 k * q) = frexpExp q + k := by
  obtain ⟨s1, s2⟩ := frexpExp_spec q hq
  have two : (2 : ℚ) ≠ 0 := by norm_num
  have hp : (0 : ℚ) < (2 : ℚ) ^ k := by positivity
  apply frexpExp_unique
  · rw [pow2_eq_zpow, abs_mul, abs_of_pos hp]
    have : frexpExp q + k - 1 = k + (frexpExp q - 1) := by ring
    rw [this, zpow_add₀ two]
    exact mul_le_mul_of_nonneg_left s1 hp.le
  · rw [pow2_eq_zpow, abs_mul, abs_of_pos hp]
    have : frexpExp q + k = k + frexpExp q := by ring
    rw [this, zpow_add₀ two]
    exact mul_lt_mul_of_pos_left s2 hp

theorem scaleExp_def (edges : List Rat) : scaleExp edges = frexpExp (outerMag edges) := rfl

theorem outerMag_nonneg (edges : List Rat) : 0 ≤ outerMag edges := by
  unfold outerMag
  rw [absQ_eq_abs]
  exact le_max_of_le_left (abs_nonneg _)

theorem outerMag_scale (c : Rat) (hc : 0 < c) (edges : List Rat) :
    outerMag (edges.map (c * ·)) = c * outerMag edges := by
  unfold outerMag
  rw [List.length_map, getD_map_mul, getD_map_mul]
  simp only [absQ_eq_abs, abs_mul, abs_of_pos hc]
  rw [mul_max_of_nonneg _ _ hc.le]

theorem scaleExp_pow2 (k : Int) (edges : List Rat) (hM : outerMag edges ≠ 0) :
    scaleExp (edges.map (pow2 k * ·)) = scaleExp edges + k := by
  rw [scaleExp_def, scaleExp_def, outerMag_scale _ (pow2_pos k), frexpExp_pow2_mul k _ hM]

theorem scaledCentres_pow2 (k : Int) (edges : List Rat) (hM : outerMag edges ≠ 0) :
    scaledCentres (edges.map (pow2 k * ·)) = scaledCentres edges := by
  unfold scaledCentres
  rw [scaleExp_pow2 k edges hM, centres_scale, List.map_map]
  apply List.map_congr_left
  intro c _
  simp only [Function.comp]
  have : -(scaleExp edges + k) = -(scaleExp edges) + -k := by ring
  rw [this, pow2_add, mul_assoc, ← mul_assoc (pow2 (-k)), pow2_neg_mul, one_mul]

theorem scaledCentres_length_eq {edges : List Rat} {n : Nat} (he : edges.length = n + 1) :
    (scaledCentres edges).length = n := by
  unfold scaledCentres
  rw [List.length_map, centres_length_eq he]

theorem outerMag_pos (edges : List Rat) (hp : edges.Pairwise (· < ·)) (hn : 2 ≤ edges.length) :
    0 < outerMag edges := by
  have h := pairwise_getD_lt edges hp 0 (edges.length - 1) (Nat.sub_pos_of_lt hn)
    (Nat.sub_lt (Nat.lt_of_lt_of_le Nat.two_pos hn) Nat.one_pos)
  unfold outerMag
  simp only [absQ_eq_abs]
  rcases lt_or_ge (edges.getD 0 0) 0 with h0 | h0
  · exact lt_max_of_lt_left (abs_pos.mpr h0.ne)
  · have hpos : 0 < edges.getD (edges.length - 1) 0 := by linarith
    exact lt_max_of_lt_right (abs_pos.mpr hpos.ne')

theorem abs_centre_le_outerMag (edges : List Rat) (hp : edges.Pairwise (· < ·)) (i : Nat)
    (hi : i + 1 < edges.length) : |(centres edges).getD i 0| ≤ outerMag edges := by
  obtain ⟨c1, c2⟩ := centre_in_range edges hp i hi
  unfold outerMag
  rw [absQ_eq_abs, absQ_eq_abs]
  exact abs_le_max_abs_abs c1.le c2.le

theorem argmaxN_scaledCentres (hist : List Nat) (edges : List Rat) :
    argmaxN (critListN hist (scaledCentres edges)) = argmaxN (critListN hist (centres edges)) :=
  argmaxN_critListN_scale _ (pow2_pos _) hist (centres edges)

theorem otsuHistS_eq (hist : List Nat) (edges : List Rat) : otsuHistS hist edges = otsuHistN hist edges := by
  unfold otsuHistS otsuHistN
  rw [argmaxN_scaledCentres]

theorem otsuHistS_in_range (hist : List Nat) (edges : List Rat) {n : Nat} (hl : hist.length = n) (hn : 2 ≤ n)
    (he : edges.length = n + 1) (hp : edges.Pairwise (· < ·)) :
    edges.getD 0 0 < otsuHistS hist edges ∧ otsuHistS hist edges < edges.getD n 0 := by
  subst hl
  rw [otsuHistS_eq]
  -- `np.argmax` returns an index below `n - 1`, and every centre lies strictly inside
  have hlen := critListN_length hist _ (centres_length_eq he)
  have hlt := argmaxN_lt (critListN hist (centres edges)) (List.ne_nil_of_length_pos (hlen ▸ Nat.sub_pos_of_lt hn))
  rw [hlen] at hlt
  have := centre_in_range edges hp (argmaxN (critListN hist (centres edges)))
    (he ▸ Nat.lt_succ_of_lt (Nat.add_lt_of_lt_sub hlt))
  rwa [he, Nat.add_sub_cancel] at this

theorem otsuHistS_scale (c : Rat) (hc : 0 < c) (hist : List Nat) (edges : List Rat) :
    otsuHistS hist (edges.map (c * ·)) = c * otsuHistS hist edges := by
  rw [otsuHistS_eq, otsuHistS_eq]
  exact getD_centres_scale c edges (fun cs => argmaxN (critListN hist cs)) (argmaxN_critListN_scale c hc hist _)

end Pew.Otsu
