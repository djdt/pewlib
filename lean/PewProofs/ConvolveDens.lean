import PewProofs.Convolve
import Mathlib.Algebra.Order.BigOperators.Group.List
import Mathlib.Data.Rat.Floor

/-! # C18 — what the kernel generators are made of (the `linspace` axis, the sign of the triangular density, the division
by the sum, pewlib's gamma approximation, `Special.Sound`: what is assumed of the opaque `exp` and power, the sub-products
of a factor list), each piece with the lemmas through which the theorems use it; last `sgn` and `absR`, in which
`erfApprox` and `erfinvWith` are written. -/
namespace Pew.Convolve

theorem linspace_length (a b : Rat) (n : Nat) : (linspace a b n).length = n := by
  unfold linspace
  rw [List.length_map, List.length_range]

theorem at0_linspace (a b : Rat) (n i : Nat) (hi : i < n) :
    at0 (linspace a b n) i = a + (i : Rat) * ((b - a) / ((n : Rat) - 1)) := by
  unfold linspace
  rw [at0_map_range _ hi]
  split
  · -- the last entry, overwritten by `b`: the formula gives `a + (n − 1) · (b − a) / (n − 1) = b` as well
    rename_i h
    obtain rfl : n = i + 1 := h.2.symm
    have hi0 : (i : Rat) ≠ 0 := Nat.cast_ne_zero.mpr (Nat.ne_of_gt (Nat.lt_of_succ_lt_succ h.1))
    rw [Nat.cast_succ, add_sub_cancel_right, mul_div_assoc', mul_div_cancel_left₀ _ hi0, add_sub_cancel]
  · rfl

theorem between_of_convex (a b t : Rat) (h0 : 0 ≤ t) (h1 : t ≤ 1) :
    min a b ≤ a + t * (b - a) ∧ a + t * (b - a) ≤ max a b := by
  rcases le_total a b with h | h
  · rw [min_eq_left h, max_eq_right h]
    exact ⟨le_add_of_nonneg_right (mul_nonneg h0 (sub_nonneg.mpr h)),
      add_le_of_le_sub_left (mul_le_of_le_one_left (sub_nonneg.mpr h) h1)⟩
  · rw [min_eq_right h, max_eq_left h, show a + t * (b - a) = a - t * (a - b) by ring]
    exact ⟨le_sub_comm.mp (mul_le_of_le_one_left (sub_nonneg.mpr h) h1),
      sub_le_self a (mul_nonneg h0 (sub_nonneg.mpr h))⟩

theorem strict_between_of_convex (a b t : Rat) (h0 : 0 < t) (h1 : t < 1) (hab : a ≠ b) :
    min a b < a + t * (b - a) ∧ a + t * (b - a) < max a b := by
  rcases lt_or_gt_of_ne hab with h | h
  · rw [min_eq_left h.le, max_eq_right h.le]
    exact ⟨lt_add_of_pos_right a (mul_pos h0 (sub_pos.mpr h)),
      add_lt_of_lt_sub_left (mul_lt_of_lt_one_left (sub_pos.mpr h) h1)⟩
  · rw [min_eq_right h.le, max_eq_left h.le, show a + t * (b - a) = a - t * (a - b) by ring]
    exact ⟨lt_sub_comm.mp (mul_lt_of_lt_one_left (sub_pos.mpr h) h1),
      sub_lt_self a (mul_pos h0 (sub_pos.mpr h))⟩

theorem linspace_mem_between (a b : Rat) (n : Nat) (x : Rat) (hx : x ∈ linspace a b n) :
    min a b ≤ x ∧ x ≤ max a b := by
  obtain ⟨i, hi, rfl⟩ := List.mem_map.mp hx
  split
  · exact ⟨min_le_right a b, le_max_right a b⟩
  · -- `a + t (b − a)` with `t = i / (n − 1)` in [0, 1] (`0 / 0 = 0` when `n = 1`)
    have hi0 : (0 : Rat) ≤ (i : Rat) := Nat.cast_nonneg i
    have hd : (i : Rat) ≤ (n : Rat) - 1 := le_sub_iff_add_le.mpr (by exact_mod_cast List.mem_range.mp hi)
    rw [← mul_div_assoc, ← div_mul_eq_mul_div]
    exact between_of_convex a b _ (div_nonneg hi0 (hi0.trans hd)) (div_le_one_of_le₀ hd (hi0.trans hd))

theorem linspace_exists_strictly_between (a b : Rat) (n : Nat) (hn : 3 ≤ n) (hab : a ≠ b) :
    ∃ x ∈ linspace a b n, min a b < x ∧ x < max a b := by
  have h2 : 2 ≤ n := Nat.le_of_succ_le hn
  refine ⟨_, at0_mem _ 1 (by rw [linspace_length]; exact h2), ?_⟩
  have hd : (1 : Rat) < (n : Rat) - 1 := lt_sub_iff_add_lt.mpr (by exact_mod_cast hn)
  rw [at0_linspace a b n 1 h2, Nat.cast_one, one_mul, ← one_div_mul_eq_div]
  exact strict_between_of_convex a b _ (one_div_pos.mpr (one_pos.trans hd)) ((div_lt_one (one_pos.trans hd)).mpr hd) hab

theorem exists_between_of_steps (f : Nat → Rat) (a b : Rat) (n : Nat)
    (h0 : f 0 < b) (hlast : a < f n) (hstep : ∀ i, i < n → f (i + 1) - f i < b - a) :
    ∃ i, i ≤ n ∧ a < f i ∧ f i < b := by
  induction n with
  | zero => exact ⟨0, le_rfl, hlast, h0⟩
  | succ n ih =>
    by_cases h : a < f n
    · obtain ⟨i, hi, hh⟩ := ih h fun i hi => hstep i (Nat.lt_succ_of_lt hi)
      exact ⟨i, Nat.le_succ_of_le hi, hh⟩
    · exact ⟨n + 1, le_rfl, hlast, by have := hstep n n.lt_succ_self; linarith⟩

theorem at0_linspace_mid (a b : Rat) (k : Nat) (hk : 1 ≤ k) : at0 (linspace a b (2 * k + 1)) k = (a + b) / 2 := by
  have hk0 : (k : Rat) ≠ 0 := Nat.cast_ne_zero.mpr (Nat.pos_iff_ne_zero.mp hk)
  have e : ((2 * k + 1 : Nat) : Rat) - 1 = 2 * (k : Rat) := by
    rw [Nat.cast_succ, add_sub_cancel_right, Nat.cast_mul, Nat.cast_two]
  rw [at0_linspace a b _ k (Nat.lt_succ_of_le (Nat.le_mul_of_pos_left k two_pos)), e, mul_div_assoc', mul_comm (k : Rat),
    mul_div_mul_right _ _ hk0]
  ring

theorem axisOf_length (kind : AxisKind) (size : Nat) (scale shift : Rat) :
    (axisOf kind size scale shift).length = size := by
  cases kind <;> exact linspace_length _ _ _

theorem axisPos_pos (size : Nat) (scale shift : Rat) (h0 : 0 < shift) (h1 : 0 < (size : Rat) * scale + shift) :
    ∀ x ∈ axisPos size scale shift, 0 < x := fun x hx =>
  (lt_min h0 h1).trans_le (linspace_mem_between _ _ _ x hx).1

/-- each branch is `2 · (distance to a foot)` over a positive denominator -/
theorem triangularPdf_sign (a b x : Rat) (hab : a < b) :
    0 ≤ triangularPdf a b x ∧
      (0 < triangularPdf a b x ↔ a ≤ x ∧ x ≤ b ∧ ¬(x = a ∧ a < 0) ∧ ¬(x = b ∧ 0 < b)) := by
  unfold triangularPdf
  split
  · rename_i h
    exact ⟨le_rfl, fun h' => absurd h' (lt_irrefl 0), fun ⟨h1, h2, _, _⟩ => (h.elim h1.not_gt h2.not_gt).elim⟩
  · rename_i h
    obtain ⟨h1, h2⟩ := not_or.mp h
    rw [not_lt] at h1 h2
    split
    · rename_i hx0
      subst hx0
      have hp : (0 : Rat) < 2 / (b - a) := div_pos two_pos (sub_pos.mpr hab)
      exact ⟨hp.le, fun _ => ⟨h1, h2, fun ⟨e, l⟩ => l.ne e.symm, fun ⟨e, l⟩ => l.ne e⟩, fun _ => hp⟩
    · split
      · -- left flank: `a ≤ x < 0`
        rename_i hx0 hxn
        have ha : a < 0 := h1.trans_lt hxn
        have hden : 0 < a * (a - b) := mul_pos_of_neg_of_neg ha (sub_neg.mpr hab)
        refine ⟨div_nonneg (mul_nonneg zero_le_two (sub_nonneg.mpr h1)) hden.le, ?_⟩
        rw [div_pos_iff_of_pos_right hden, mul_pos_iff_of_pos_left two_pos, sub_pos]
        exact ⟨fun hlt => ⟨h1, h2, fun ⟨e, _⟩ => hlt.ne' e, fun ⟨e, l⟩ => lt_asymm l (e.symm.trans_lt hxn)⟩,
          fun ⟨_, _, hna, _⟩ => lt_of_le_of_ne h1 fun e => hna ⟨e.symm, ha⟩⟩
      · -- right flank: `0 < x ≤ b`
        rename_i hx0 hxn
        have hxp : 0 < x := lt_of_le_of_ne (not_lt.mp hxn) (Ne.symm hx0)
        have hb : 0 < b := hxp.trans_le h2
        have hden : 0 < b * (b - a) := mul_pos hb (sub_pos.mpr hab)
        refine ⟨div_nonneg (mul_nonneg zero_le_two (sub_nonneg.mpr h2)) hden.le, ?_⟩
        rw [div_pos_iff_of_pos_right hden, mul_pos_iff_of_pos_left two_pos, sub_pos]
        exact ⟨fun hlt => ⟨h1, h2, fun ⟨e, l⟩ => lt_asymm l (hxp.trans_eq e), fun ⟨e, _⟩ => hlt.ne e⟩,
          fun ⟨_, _, _, hnb⟩ => lt_of_le_of_ne h2 fun e => hnb ⟨e, hb⟩⟩

theorem sum_map_div {K : Type} [Field K] (l : List K) (c : K) : (l.map (· / c)).sum = l.sum / c := by
  simp only [div_eq_mul_inv]
  rw [List.sum_map_mul_right]
  simp

theorem abs_sum_sub_sum_le {K : Type} [Field K] [LinearOrder K] [IsStrictOrderedRing K] (u : K)
    (w v : List K) (h : List.Forall₂ (fun wi vi => |wi - vi| ≤ u * vi) w v) :
    |w.sum - v.sum| ≤ u * v.sum := by
  induction h with
  | nil => rw [List.sum_nil, sub_self, abs_zero, mul_zero]
  | @cons a b l₁ l₂ hab _ ih =>
    rw [List.sum_cons, List.sum_cons, add_sub_add_comm, mul_add]
    exact (abs_add_le _ _).trans (add_le_add hab ih)

theorem normaliseK_length {K : Type} [Add K] [Zero K] [Div K] (y : List K) : (normaliseK y).length = y.length :=
  List.length_map _

theorem normaliseK_sum {K : Type} [Field K] (y : List K) (hs : y.sum ≠ 0) : (normaliseK y).sum = 1 :=
  (sum_map_div y _).trans (div_self hs)

theorem normaliseK_spec {K : Type} [Field K] [LinearOrder K] [IsStrictOrderedRing K] (y : List K)
    (h0 : ∀ v ∈ y, 0 ≤ v) (hs : 0 < y.sum) :
    (normaliseK y).length = y.length ∧ (normaliseK y).sum = 1 ∧ ∀ w ∈ normaliseK y, 0 ≤ w ∧ w ≤ 1 := by
  refine ⟨normaliseK_length y, normaliseK_sum y hs.ne', ?_⟩
  intro w hw
  obtain ⟨v, hv, rfl⟩ := List.mem_map.mp hw
  exact ⟨div_nonneg (h0 v hv) hs.le, (div_le_one hs).mpr (List.single_le_sum h0 v hv)⟩

theorem kernelWith_fst {K : Type} [Add K] [Zero K] [Div K] (axis : List Rat) (pdf : Rat → K) :
    (kernelWith axis pdf).map Prod.fst = axis :=
  List.map_fst_zip ((normaliseK_length _).trans (List.length_map _)).ge

theorem kernelWith_snd {K : Type} [Add K] [Zero K] [Div K] (axis : List Rat) (pdf : Rat → K) :
    (kernelWith axis pdf).map Prod.snd = normaliseK (axis.map pdf) :=
  List.map_snd_zip ((normaliseK_length _).trans (List.length_map _)).le

/-- the polynomial with each negative term paired with the positive one before it -/
theorem gammaPoly_eq (z : Rat) : gammaPoly z =
    (1 - (577191652 / 1000000000) * z) + z ^ 2 * ((988205891 / 1000000000) - (897056937 / 1000000000) * z)
      + z ^ 4 * ((918206857 / 1000000000) - (756704078 / 1000000000) * z)
      + z ^ 6 * ((482199394 / 1000000000) - (193527818 / 1000000000) * z) + (35868343 / 1000000000) * z ^ 8 := by
  unfold gammaPoly
  rw [show List.range 9 = [0, 1, 2, 3, 4, 5, 6, 7, 8] from rfl]
  simp only [List.map_cons, List.map_nil, List.sum_cons, List.sum_nil, gammaCoef, at0, List.getD_cons_zero,
    List.getD_cons_succ]
  ring

/-- on [0, 1] every pair is non-negative and the first one is at least `1 − 0.578` -/
theorem gammaPoly_pos (z : Rat) (h0 : 0 ≤ z) (h1 : z ≤ 1) : 0 < gammaPoly z := by
  rw [gammaPoly_eq]
  have p : ∀ {c d : Rat} (k : Nat), 0 ≤ d → d ≤ c → 0 ≤ z ^ k * (c - d * z) := fun k hd hcd =>
    mul_nonneg (pow_nonneg h0 k) (sub_nonneg.mpr ((mul_le_of_le_one_right hd h1).trans hcd))
  have p0 : (0 : Rat) < 1 - (577191652 / 1000000000) * z :=
    sub_pos.mpr ((mul_le_of_le_one_right (by norm_num) h1).trans_lt (by norm_num))
  exact add_pos_of_pos_of_nonneg (add_pos_of_pos_of_nonneg (add_pos_of_pos_of_nonneg (add_pos_of_pos_of_nonneg p0
    (p 2 (by norm_num) (by norm_num))) (p 4 (by norm_num) (by norm_num))) (p 6 (by norm_num) (by norm_num)))
    (mul_nonneg (by norm_num) (pow_nonneg h0 8))

theorem gammaPoly_zero : gammaPoly 0 = 1 := by
  rw [gammaPoly_eq]; norm_num

theorem risingProd_one (z : Rat) : risingProd z 1 = 1 := rfl

theorem risingProd_succ (z : Rat) (k : Nat) :
    risingProd z (k + 2) = risingProd z (k + 1) * (z + ((k + 1 : Nat) : Rat)) := by
  unfold risingProd
  rw [show k + 2 - 1 = k + 1 from rfl, List.range_succ, List.map_append, List.foldl_append]
  rfl

theorem risingProd_pos (z : Rat) (hz : 0 ≤ z) (n : Nat) : 0 < risingProd z (n + 1) := by
  induction n with
  | zero => exact one_pos
  | succ n ih =>
    rw [risingProd_succ]
    exact mul_pos ih (add_pos_of_nonneg_of_pos hz (Nat.cast_pos.mpr n.succ_pos))

theorem gammaApprox_of_lt_one (x : Rat) (h0 : 0 ≤ x) (h1 : x < 1) : gammaApprox x = 1 / x * gammaPoly x := by
  have hfl : x.floor = 0 := Int.floor_eq_zero_iff.mpr ⟨h0, h1⟩
  unfold gammaApprox
  simp only [hfl, if_pos h1, Int.cast_zero, sub_zero]

theorem gammaApprox_add_nat (z : Rat) (h0 : 0 ≤ z) (h1 : z < 1) (k : Nat) :
    gammaApprox (z + ((k + 1 : Nat) : Rat)) = risingProd z (k + 1) * gammaPoly z := by
  have hfl : (z + ((k + 1 : Nat) : Rat)).floor = ((k + 1 : Nat) : Int) := by
    -- `Rat.floor` is `⌊·⌋` by definition, not syntactically: restated so that the floor lemmas rewrite
    show ⌊z + ((k + 1 : Nat) : Rat)⌋ = _
    rw [Int.floor_add_natCast, Int.floor_eq_zero_iff.mpr ⟨h0, h1⟩, zero_add]
  have hge : ¬ z + ((k + 1 : Nat) : Rat) < 1 :=
    not_lt.mpr ((Nat.one_le_cast.mpr k.succ_pos).trans (le_add_of_nonneg_left h0))
  unfold gammaApprox
  simp only [hfl, if_neg hge, Int.toNat_natCast, Int.cast_natCast, add_sub_cancel_right]

theorem exists_fract_add_nat (x : Rat) (h1 : 1 ≤ x) :
    ∃ (z : Rat) (k : Nat), 0 ≤ z ∧ z < 1 ∧ x = z + ((k + 1 : Nat) : Rat) := by
  have hf : 1 ≤ ⌊x⌋ := Int.le_floor.mpr (by exact_mod_cast h1)
  obtain ⟨k, hk⟩ : ∃ k : Nat, ⌊x⌋ = ((k + 1 : Nat) : Int) := ⟨(⌊x⌋ - 1).toNat, by omega⟩
  have hc : ((⌊x⌋ : Int) : Rat) = ((k + 1 : Nat) : Rat) := by rw [hk, Int.cast_natCast]
  exact ⟨Int.fract x, k, Int.fract_nonneg x, Int.fract_lt_one x, by rw [← hc, Int.fract_add_floor]⟩

theorem rel_err_mul {K : Type*} [Field K] [LinearOrder K] [IsStrictOrderedRing K] {p g ε : K} (c : K) (hc : 0 < c)
    (h : |p - g| ≤ ε * g) : |c * p - c * g| ≤ ε * (c * g) := by
  rw [← mul_sub, abs_mul, abs_of_pos hc, mul_left_comm]
  exact mul_le_mul_of_nonneg_left h hc.le

/-- pewlib's `gamma(x)` is positive for every positive (rational) argument -/
theorem gammaApprox_pos (x : Rat) (hx : 0 < x) : 0 < gammaApprox x := by
  rcases lt_or_ge x 1 with h1 | h1
  · rw [gammaApprox_of_lt_one x hx.le h1]
    exact mul_pos (one_div_pos.mpr hx) (gammaPoly_pos x hx.le h1.le)
  · obtain ⟨z, k, hz0, hz1, rfl⟩ := exists_fract_add_nat x h1
    rw [gammaApprox_add_nat z hz0 hz1 k]
    exact mul_pos (risingProd_pos z hz0 k) (gammaPoly_pos z hz0 hz1.le)

theorem betaNorm_pos (alpha beta : Rat) (ha : 0 < alpha) (hb : 0 < beta) :
    0 < gammaApprox alpha * gammaApprox beta / gammaApprox (alpha + beta) :=
  div_pos (mul_pos (gammaApprox_pos _ ha) (gammaApprox_pos _ hb)) (gammaApprox_pos _ (add_pos ha hb))

/-- the facts about `exp`, real powers and `sqrt(2π)` that the eight densities need: nothing else is assumed
(nothing at all about `log` and `abs`) -/
structure Special.Sound {K : Type} [Field K] [LinearOrder K] [IsStrictOrderedRing K] (S : Special K) : Prop where
  cast : ∀ q : Rat, S.ofRat q = (q : K)
  exp_pos : ∀ t, 0 < S.exp t
  rpow_pos : ∀ x y, 0 < x → 0 < S.rpow x y
  rpow_zero_nonneg : ∀ y, 0 ≤ S.rpow 0 y
  s2pi_pos : 0 < S.s2pi

namespace Special.Sound
variable {K : Type} [Field K] [LinearOrder K] [IsStrictOrderedRing K] {S : Special K}

theorem ofRat_pos (hS : S.Sound) {q : Rat} (hq : 0 < q) : 0 < S.ofRat q := by
  rw [hS.cast]; exact Rat.cast_pos.mpr hq

/-- every density but the beta density is a positive constant times an exponential -/
theorem mul_exp_pos (hS : S.Sound) {c : K} (hc : 0 < c) (t : K) : 0 < c * S.exp t :=
  mul_pos hc (hS.exp_pos t)

/-- `1 / (σ √(2π))`, the constant in front of the Gaussian densities, and of the log-normal one with `q = x · σ` -/
theorem norm_pos (hS : S.Sound) {q : Rat} (hq : 0 < q) : 0 < S.ofRat 1 / (S.ofRat q * S.s2pi) :=
  div_pos (hS.ofRat_pos one_pos) (mul_pos (hS.ofRat_pos hq) hS.s2pi_pos)

theorem rpow_ofRat_pos (hS : S.Sound) {q : Rat} (hq : 0 < q) (y : K) : 0 < S.rpow (S.ofRat q) y :=
  hS.rpow_pos _ _ (hS.ofRat_pos hq)

theorem rpow_ofRat_nonneg (hS : S.Sound) {q : Rat} (hq : 0 ≤ q) (y : K) : 0 ≤ S.rpow (S.ofRat q) y := by
  rcases hq.lt_or_eq with h | rfl
  · exact (hS.rpow_ofRat_pos h y).le
  · rw [hS.cast, Rat.cast_zero]; exact hS.rpow_zero_nonneg y

end Special.Sound

theorem prod_mem_subProducts (l fs : List Rat) (h : l.Sublist fs) : l.prod ∈ subProducts fs := by
  induction h with
  | slnil => simp [subProducts]
  | cons a _ ih => simp only [subProducts, List.mem_append]; exact Or.inl ih
  | cons_cons a _ ih =>
    simp only [subProducts, List.mem_append, List.mem_map]
    exact Or.inr ⟨_, ih, rfl⟩

theorem one_mem_subProducts (fs : List Rat) : (1 : Rat) ∈ subProducts fs :=
  prod_mem_subProducts [] fs (List.nil_sublist fs)

theorem absR_eq_abs (x : Rat) : absR x = |x| := by
  unfold absR
  split
  · rename_i h; exact (abs_of_nonneg h).symm
  · rename_i h; exact (abs_of_neg (not_le.mp h)).symm

theorem sgn_of_pos {x : Rat} (h : 0 < x) : sgn x = 1 := if_pos h

theorem sgn_zero : sgn 0 = 0 := (if_neg (lt_irrefl _)).trans (if_neg (lt_irrefl _))

theorem sgn_of_neg {x : Rat} (h : x < 0) : sgn x = -1 := (if_neg (lt_asymm h)).trans (if_pos h)

theorem sgn_neg (x : Rat) : sgn (-x) = -sgn x := by
  rcases lt_trichotomy x 0 with h | rfl | h
  · rw [sgn_of_pos (neg_pos.mpr h), sgn_of_neg h, neg_neg]
  · rw [neg_zero, sgn_zero, neg_zero]
  · rw [sgn_of_neg (neg_neg_of_pos h), sgn_of_pos h]

theorem absR_neg (x : Rat) : absR (-x) = absR x := by
  rw [absR_eq_abs, absR_eq_abs, abs_neg]

end Pew.Convolve
