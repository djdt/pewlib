import PewModel.Extent
import Mathlib.Tactic.SplitIfs

/-! histories on configuration objects and lasers: `Inv` holds of the empty heap and is kept by every step -/
namespace Pew
namespace Extent

/-- the heap agrees, entry by entry, with the backward reading of the history that produced it -/
structure Inv (h : Heap) (rev : List HOp) : Prop where
  ncfg : h.cfgs.length = countCfgs rev
  nlas : h.lasers.length = countLasers rev
  attr : ∀ id a, (h.cfgs[id]?).map (fun o => o.getAttr a) = attrSpec rev id a
  kind : ∀ id, (h.cfgs[id]?).map (fun o => o.kind) = kindSpec rev id
  held : ∀ l, (h.lasers[l]?).map (fun x => x.cfg) = heldSpec rev l
  shape : ∀ l, (h.lasers[l]?).map (fun x => (x.rows, x.cols)) = shapeSpec rev l

theorem map_getElem?_snoc {α β : Type} (l : List α) (x : α) (j : Nat) (g : α → β) :
    ((l ++ [x])[j]?).map g = if j = l.length then some (g x) else (l[j]?).map g := by
  rw [List.getElem?_append]
  split_ifs with h1 h2 h2
  · omega
  · rfl
  · subst h2; simp
  · rw [List.getElem?_eq_none_iff.mpr (by simp; omega), List.getElem?_eq_none_iff.mpr (by omega)]

theorem map_getElem?_modify {α β : Type} (l : List α) (i j : Nat) (f : α → α) (g : α → β) :
    ((l.modify i f)[j]?).map g = if i = j then (l[j]?).map (fun a => g (f a)) else (l[j]?).map g := by
  rw [List.getElem?_modify]
  split_ifs <;> cases l[j]? <;> simp

theorem map_getElem?_modify_set {α β : Type} (l : List α) (i j : Nat) (f : α → α) (g : α → β) (v : β)
    (hf : ∀ a, g (f a) = v) :
    ((l.modify i f)[j]?).map g = if i = j ∧ j < l.length then some v else (l[j]?).map g := by
  rw [map_getElem?_modify]
  by_cases h1 : i = j
  · by_cases h2 : j < l.length
    · simp [h1, h2, hf]
    · simp [h1, h2]
  · simp [h1]

theorem getAttr_setAttr (o : CfgObj) (a b : Attr) (v : Rat) :
    (o.setAttr a v).getAttr b = if a = b then v else o.getAttr b := by
  cases a <;> cases b <;> simp [CfgObj.setAttr, CfgObj.getAttr]

theorem kind_setAttr (o : CfgObj) (a : Attr) (v : Rat) : (o.setAttr a v).kind = o.kind := by
  cases a <;> rfl

theorem inv_step (h : Heap) (rev : List HOp) (op : HOp) (hi : Inv h rev) : Inv (h.step op) (op :: rev) := by
  obtain ⟨ncfg, nlas, attr, kind, held, shape⟩ := hi
  cases op with
  | newCfg o =>
    refine ⟨?_, nlas, fun id a => ?_, fun id => ?_, held, shape⟩
    · simp [Heap.step, countCfgs, ncfg]
    · simp only [Heap.step, attrSpec, map_getElem?_snoc, ncfg, attr]
    · simp only [Heap.step, kindSpec, map_getElem?_snoc, ncfg, kind]
  | newLaser cfg rows cols =>
    refine ⟨ncfg, ?_, attr, kind, fun l => ?_, fun l => ?_⟩
    · simp [Heap.step, countLasers, nlas]
    · simp only [Heap.step, heldSpec, map_getElem?_snoc, nlas, held]
    · simp only [Heap.step, shapeSpec, map_getElem?_snoc, nlas, shape]
  | setCfg laser cfg =>
    refine ⟨ncfg, ?_, attr, kind, fun l => ?_, fun l => ?_⟩
    · simp [Heap.step, countLasers, nlas]
    · simp only [Heap.step, heldSpec, map_getElem?_modify_set _ _ _ (fun x : LaserObj => { x with cfg := cfg }) (fun x => x.cfg) cfg (fun _ => rfl), nlas, held]
    · simp only [Heap.step, shapeSpec, map_getElem?_modify, ite_self, shape]
  | setData laser rows cols =>
    refine ⟨ncfg, ?_, attr, kind, fun l => ?_, fun l => ?_⟩
    · simp [Heap.step, countLasers, nlas]
    · simp only [Heap.step, heldSpec, map_getElem?_modify, ite_self, held]
    · simp only [Heap.step, shapeSpec, map_getElem?_modify_set _ _ _ (fun x : LaserObj => { x with rows := rows, cols := cols })
        (fun x => (x.rows, x.cols)) (rows, cols) (fun _ => rfl), nlas, shape]
  | setAttr cfg a v =>
    refine ⟨?_, nlas, fun id b => ?_, fun id => ?_, held, shape⟩
    · simp [Heap.step, countCfgs, ncfg]
    · by_cases hab : a = b
      · subst hab
        simp only [Heap.step, attrSpec, map_getElem?_modify_set _ _ _ (fun o : CfgObj => o.setAttr a v) (fun o => o.getAttr a) v
          (fun o => by rw [getAttr_setAttr, if_pos rfl]), ncfg,
          attr, true_and]
      · simp only [Heap.step, attrSpec, map_getElem?_modify, getAttr_setAttr, hab, if_false, ite_self, false_and, and_false,
          attr]
    · simp only [Heap.step, kindSpec, map_getElem?_modify, kind_setAttr, ite_self, kind]
  | copyCfg src =>
    by_cases hs : src < h.cfgs.length
    · have hsome : h.cfgs[src]? = some h.cfgs[src] := List.getElem?_eq_getElem hs
      have hs' : src < countCfgs rev := ncfg ▸ hs
      have e : h.step (.copyCfg src) = { h with cfgs := h.cfgs ++ [h.cfgs[src]] } := by simp [Heap.step, hsome]
      rw [e]
      refine ⟨?_, nlas, fun id a => ?_, fun id => ?_, held, shape⟩
      · simp [countCfgs, hs', ncfg]
      -- the copy holds what object `src` holds at this moment; the invariant at `src`, read right to left, turns the
      -- specification's `attrSpec rev src a` (resp. `kindSpec rev src`) into exactly that
      · simp only [attrSpec, map_getElem?_snoc, ncfg, hs', and_true, attr, ← attr src a, hsome, Option.map_some]
      · simp only [kindSpec, map_getElem?_snoc, ncfg, hs', and_true, kind, ← kind src, hsome, Option.map_some]
    · have hs' : ¬ src < countCfgs rev := ncfg ▸ hs
      have e : h.step (.copyCfg src) = h := by simp [Heap.step, List.getElem?_eq_none_iff.mpr (Nat.le_of_not_lt hs)]
      rw [e]
      refine ⟨?_, nlas, fun id a => ?_, fun id => ?_, held, shape⟩
      · simp [countCfgs, hs', ncfg]
      · simp only [attrSpec, hs', and_false, if_false, attr]
      · simp only [kindSpec, hs', and_false, if_false, kind]

theorem inv_run (ops : List HOp) : Inv (Heap.run ops) ops.reverse := by
  -- the specification recurses on the history newest first; so does a `foldr` over the reversed history
  have key : ∀ rev : List HOp, Inv (rev.foldr (fun op h => Heap.step h op) { cfgs := [], lasers := [] }) rev := fun rev => by
    induction rev with
    | nil => exact ⟨rfl, rfl, fun _ _ => rfl, fun _ => rfl, fun _ => rfl, fun _ => rfl⟩
    | cons op rev ih => exact inv_step _ _ op ih
  have := key ops.reverse
  rwa [List.foldr_reverse] at this

/-- an object is determined by its class and its four attributes -/
theorem toCfg_eq (o : CfgObj) :
    o.toCfg = cfgOf o.kind (o.getAttr .spotsize) (o.getAttr .speed) (o.getAttr .scantime) (o.getAttr .spotsizeY) := rfl

end Extent
end Pew
