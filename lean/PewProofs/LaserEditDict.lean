import PewModel.LaserEdit
import Mathlib.Data.List.Nodup

/-! C07: name-keyed lists (`keys`, `get?`) and the Python dict primitives on the insertion-ordered representation. -/
namespace Pew.LaserEdit

variable {β : Type}

@[simp] theorem keys_nil : keys ([] : List (Name × β)) = [] := rfl
@[simp] theorem keys_cons (e : Name × β) (l : List (Name × β)) : keys (e :: l) = e.1 :: keys l := rfl
@[simp] theorem keys_append (l r : List (Name × β)) : keys (l ++ r) = keys l ++ keys r := List.map_append

theorem keys_filter_key (p : Name → Bool) (l : List (Name × β)) :
    keys (l.filter (fun e => p e.1)) = (keys l).filter p := by
  simp [keys, List.filter_map, Function.comp_def]

theorem keys_mapKey (g : Name → Name) (l : List (Name × β)) :
    keys (l.map (fun e => (g e.1, e.2))) = (keys l).map g := by
  simp [keys, Function.comp_def]

theorem keys_map_mk (F : Name → β) (el : List Name) : keys (el.map (fun n => (n, F n))) = el := by
  simp [keys, Function.comp_def]

theorem keys_mapVal {γ : Type} (F : Name → β → γ) (l : List (Name × β)) :
    keys (l.map (fun e => (e.1, F e.1 e.2))) = keys l := by
  simp [keys, Function.comp_def]

@[simp] theorem get?_nil (n : Name) : get? ([] : List (Name × β)) n = none := rfl
theorem get?_cons (e : Name × β) (l : List (Name × β)) (n : Name) :
    get? (e :: l) n = if e.1 = n then some e.2 else get? l n := rfl

theorem get?_eq_none_iff (l : List (Name × β)) (n : Name) : get? l n = none ↔ n ∉ keys l := by
  induction l with
  | nil => simp
  | cons e r ih => rw [get?_cons]; split <;> simp [*, eq_comm (a := n)]

theorem get?_isSome_iff (l : List (Name × β)) (n : Name) : (get? l n).isSome ↔ n ∈ keys l := by
  rw [← not_iff_not, ← get?_eq_none_iff]; simp

theorem get?_of_mem_keys {l : List (Name × β)} {n : Name} (h : n ∈ keys l) : ∃ v, get? l n = some v :=
  Option.isSome_iff_exists.1 ((get?_isSome_iff l n).2 h)

theorem get?_append (l r : List (Name × β)) (n : Name) : get? (l ++ r) n = (get? l n).or (get? r n) := by
  induction l with
  | nil => simp
  | cons e t ih => simp only [List.cons_append, get?_cons, ih]; split <;> simp

/-- a new key at the end (`np.empty` with one more field, `d[k] = v` for a new `k`) -/
theorem get?_concat {l : List (Name × β)} {n : Name} (h : n ∉ keys l) (v : β) (k : Name) :
    get? (l ++ [(n, v)]) k = if k = n then some v else get? l k := by
  by_cases hk : k = n
  · simp [get?_append, get?_cons, hk, (get?_eq_none_iff l n).2 h]
  · simp [get?_append, get?_cons, hk, Ne.symm hk]

theorem get?_filter_key (p : Name → Bool) (l : List (Name × β)) (n : Name) :
    get? (l.filter (fun e => p e.1)) n = if p n then get? l n else none := by
  induction l with
  | nil => simp
  | cons e r ih =>
    by_cases he : e.1 = n
    · cases hp : p n <;> simp [get?_cons, he, hp, ih]
    · cases hp : p e.1 <;> simp [get?_cons, he, hp, ih]

theorem get?_mapKey (g : Name → Name) (l : List (Name × β)) {n : Name} (hn : n ∈ keys l)
    (hinj : ∀ a ∈ keys l, ∀ b ∈ keys l, g a = g b → a = b) :
    get? (l.map (fun e => (g e.1, e.2))) (g n) = get? l n := by
  induction l with
  | nil => simp at hn
  | cons e r ih =>
    simp only [List.map_cons, get?_cons]
    by_cases he : e.1 = n
    · simp [he]
    · rw [if_neg he, if_neg fun hh => he (hinj e.1 (by simp) n hn hh)]
      exact ih ((List.mem_cons.1 hn).resolve_left (Ne.symm he)) fun a ha b hb => hinj a (by simp [ha]) b (by simp [hb])

theorem get?_mapVal {γ : Type} (F : Name → β → γ) (l : List (Name × β)) (n : Name) :
    get? (l.map (fun e => (e.1, F e.1 e.2))) n = (get? l n).map (F n) := by
  induction l with
  | nil => rfl
  | cons e r ih => simp only [List.map_cons, get?_cons, ih]; split <;> simp [*]

theorem get?_of_mem_nodup {l : List (Name × β)} (hnd : (keys l).Nodup) {e : Name × β} (he : e ∈ l) :
    get? l e.1 = some e.2 := by
  induction l with
  | nil => simp at he
  | cons x r ih =>
    rw [keys_cons, List.nodup_cons] at hnd
    rw [get?_cons]
    rcases List.mem_cons.1 he with rfl | h
    · simp
    · rw [if_neg fun hh : x.1 = e.1 => hnd.1 (by rw [hh]; exact List.mem_map_of_mem h)]
      exact ih hnd.2 h

theorem get?_mem {l : List (Name × β)} {n : Name} {i : β} (h : get? l n = some i) : (n, i) ∈ l := by
  induction l with
  | nil => simp at h
  | cons x r ih =>
    rw [get?_cons] at h
    split at h
    · next hx => simp only [Option.some.injEq] at h; subst h; subst hx; simp
    · simp [ih h]

theorem get?_map_mk (F : Name → β) (el : List Name) (k : Name) :
    get? (el.map (fun n => (n, F n))) k = if k ∈ el then some (F k) else none := by
  induction el with
  | nil => simp
  | cons a r ih =>
    by_cases h : a = k
    · simp [get?_cons, h]
    · simp [get?_cons, h, Ne.symm h, ih]

theorem dictSet_new {d : Dict} {k : Name} (v : Nat) (h : k ∉ keys d) : dictSet d k v = d ++ [(k, v)] := by
  simp [dictSet, h]

theorem dictSet_old {d : Dict} {k : Name} (v : Nat) (h : k ∈ keys d) :
    dictSet d k v = d.map (fun e => (e.1, if e.1 = k then v else e.2)) := by
  simp only [dictSet, if_pos h]
  exact List.map_congr_left fun e _ => by split <;> simp [*]

theorem keys_dictSet_old {d : Dict} {k : Name} (v : Nat) (h : k ∈ keys d) : keys (dictSet d k v) = keys d := by
  rw [dictSet_old v h]; exact keys_mapVal (fun a b => if a = k then v else b) d

theorem mem_keys_dictSet (d : Dict) (k : Name) (v : Nat) (x : Name) :
    x ∈ keys (dictSet d k v) ↔ x ∈ keys d ∨ x = k := by
  by_cases hk : k ∈ keys d
  · rw [keys_dictSet_old v hk]
    exact ⟨Or.inl, fun h => h.elim id (· ▸ hk)⟩
  · simp [dictSet_new v hk]

theorem get?_dictSet (d : Dict) (k : Name) (v : Nat) (n : Name) :
    get? (dictSet d k v) n = if n = k then some v else get? d n := by
  by_cases hk : k ∈ keys d
  · rw [dictSet_old v hk, get?_mapVal (fun a b => if a = k then v else b)]
    split
    · next h => obtain ⟨x, hx⟩ := get?_of_mem_keys (h ▸ hk); simp [hx]
    · simp
  · rw [dictSet_new v hk, get?_concat hk]

theorem mem_dictSet {d : Dict} {k : Name} {v : Nat} {e : Name × Nat} (he : e ∈ dictSet d k v) :
    e ∈ d ∨ e = (k, v) := by
  unfold dictSet at he
  split at he
  · obtain ⟨x, hx, hxe⟩ := List.mem_map.1 he
    split at hxe
    · exact Or.inr hxe.symm
    · exact Or.inl (hxe ▸ hx)
  · rcases List.mem_append.1 he with h | h
    · exact Or.inl h
    · exact Or.inr (by simpa using h)

theorem foldl_dictSet_fresh (g : Dict) : ∀ d : Dict, (keys g).Nodup → (∀ k ∈ keys g, k ∉ keys d) →
    g.foldl (fun acc e => dictSet acc e.1 e.2) d = d ++ g := by
  induction g with
  | nil => intro d _ _; simp
  | cons e r ih =>
    intro d hnd hfresh
    rw [keys_cons, List.nodup_cons] at hnd
    rw [List.foldl_cons, dictSet_new _ (hfresh e.1 (by simp)), ih _ hnd.2, List.append_assoc]
    · rfl
    · intro k hk
      simp only [keys_append, keys_cons, keys_nil, List.mem_append, List.mem_singleton, not_or]
      exact ⟨hfresh k (by simp [hk]), fun hh => hnd.1 (hh ▸ hk)⟩

theorem foldl_dictSet_map {α : Type} (f : α → Name × Nat) (l : List α) (h : (keys (l.map f)).Nodup) :
    l.foldl (fun acc x => dictSet acc (f x).1 (f x).2) [] = l.map f := by
  have := foldl_dictSet_fresh (l.map f) [] h (by simp)
  rwa [List.foldl_map, List.nil_append] at this

theorem mem_foldl_dictSet (g : Name → Name) {e : Name × Nat} : ∀ (l acc : Dict),
    e ∈ l.foldl (fun acc x => dictSet acc (g x.1) x.2) acc → (∃ x ∈ l, e = (g x.1, x.2)) ∨ e ∈ acc := by
  intro l
  induction l with
  | nil => exact fun acc h => Or.inr h
  | cons x r ih =>
    intro acc h
    rcases ih _ h with ⟨y, hy, h1⟩ | h1
    · exact Or.inl ⟨y, List.mem_cons_of_mem _ hy, h1⟩
    · exact (mem_dictSet h1).symm.imp (fun h2 => ⟨x, List.mem_cons_self, h2⟩) id

theorem rebuildDict_eq (d : Dict) (m : NameMap) (h : ((keys d).map (sub m)).Nodup) :
    rebuildDict d m = d.map (fun e => (sub m e.1, e.2)) :=
  foldl_dictSet_map (fun e : Name × Nat => (sub m e.1, e.2)) d (by rwa [keys_mapKey])

theorem rebuildDict_values (m : NameMap) (d : Dict) {e : Name × Nat} (he : e ∈ rebuildDict d m) :
    ∃ e' ∈ d, e'.2 = e.2 := by
  rcases mem_foldl_dictSet (sub m) d [] he with ⟨x, hx, rfl⟩ | h
  · exact ⟨x, hx, rfl⟩
  · cases h

/-- `d.update(g)` for a dict `g` -/
theorem get?_foldl_update (g : Dict) : ∀ d : Dict, (keys g).Nodup → ∀ n,
    get? (g.foldl (fun acc e => dictSet acc e.1 e.2) d) n = (get? g n).or (get? d n) := by
  induction g with
  | nil => intro d _ n; simp
  | cons e r ih =>
    intro d hnd n
    rw [keys_cons, List.nodup_cons] at hnd
    rw [List.foldl_cons, ih _ hnd.2, get?_dictSet, get?_cons]
    by_cases hn : n = e.1
    · simp [hn, (get?_eq_none_iff r e.1).2 hnd.1]
    · simp [hn, Ne.symm hn]

theorem mem_keys_foldl_update (g : Dict) : ∀ (d : Dict) (x : Name),
    x ∈ keys (g.foldl (fun acc e => dictSet acc e.1 e.2) d) ↔ x ∈ keys g ∨ x ∈ keys d := by
  induction g with
  | nil => intro d x; simp
  | cons e r ih =>
    intro d x
    simp only [List.foldl_cons, ih, mem_keys_dictSet, keys_cons, List.mem_cons, or_assoc, or_comm, or_left_comm]

theorem keys_foldl_update (g : Dict) : ∀ d : Dict, (∀ k ∈ keys g, k ∈ keys d) →
    keys (g.foldl (fun acc e => dictSet acc e.1 e.2) d) = keys d := by
  induction g with
  | nil => intro d _; rfl
  | cons e r ih =>
    intro d h
    have he : e.1 ∈ keys d := h e.1 (by simp)
    rw [List.foldl_cons, ih _ fun k hk => by rw [keys_dictSet_old _ he]; exact h k (by simp [hk])]
    exact keys_dictSet_old _ he

theorem filter_pop (a : Name) (r : List Name) (d : List (Name × β)) :
    (d.filter (fun e => decide (e.1 ≠ a))).filter (fun e => decide (e.1 ∉ r)) =
      d.filter (fun e => decide (e.1 ∉ a :: r)) := by
  rw [List.filter_filter]
  exact List.filter_congr fun e _ => by simp [Bool.and_comm]

theorem popAll_eq (ns : List Name) : ∀ d : Dict, popAll d ns =
    if ns.Nodup ∧ ∀ n ∈ ns, n ∈ keys d then some (d.filter (fun e => decide (e.1 ∉ ns))) else none := by
  induction ns with
  | nil =>
    intro d
    rw [if_pos ⟨List.nodup_nil, fun _ h => nomatch h⟩, List.filter_eq_self.2 fun _ _ => by simp]
    rfl
  | cons a r ih =>
    intro d
    rw [popAll, dictPop]
    by_cases ha : a ∈ keys d
    · rw [if_pos ha]
      show popAll _ r = _
      rw [ih, keys_filter_key (fun k => decide (k ≠ a))]
      refine ite_congr (propext ?_) (fun _ => by rw [filter_pop]) (fun _ => rfl)
      -- `a ∉ r` on the right is, on the left, "every `n ∈ r` is a key of the dict without `a`, hence `≠ a`"
      simp only [List.mem_filter, decide_eq_true_eq, ne_eq, forall_and, List.forall_mem_ne', List.nodup_cons,
        List.forall_mem_cons, ha, true_and]
      exact ⟨fun ⟨h1, h2, h3⟩ => ⟨⟨h3, h1⟩, h2⟩, fun ⟨⟨h3, h1⟩, h2⟩ => ⟨h1, h2, h3⟩⟩
    · rw [if_neg ha, if_neg fun h => ha (h.2 a List.mem_cons_self)]

theorem popAllE_subset : ∀ (ns : List Name) (d : Dict) (e : Name × Nat), e ∈ (popAllE d ns).1 → e ∈ d := by
  intro ns
  induction ns with
  | nil => intro d e h; exact h
  | cons a r ih =>
    intro d e h
    simp only [popAllE, dictPop] at h
    by_cases ha : a ∈ keys d
    · simp only [if_pos ha] at h
      exact (List.mem_filter.1 (ih _ e h)).1
    · simp only [if_neg ha] at h
      exact h

theorem sub_cons (a b : Name) (m : NameMap) (x : Name) :
    sub ((a, b) :: m) x = if a = x then b else sub m x := by
  unfold sub; rw [get?_cons]; split <;> rfl

theorem sub_pair (a b c d x : Name) :
    sub [(a, b), (c, d)] x = if a = x then b else if c = x then d else x := by
  rw [sub_cons, sub_cons]; rfl

end Pew.LaserEdit
