import PewModel.Npz

/-! Python dicts as the model has them, association lists in insertion order: `keys` and `dictGet` after each operation, and the
equalities that fix the order of a dict with distinct keys.  At the end `calByName`, the calibration dict of a loaded laser. -/
namespace Pew.Npz

theorem keys_cons {β} (kv : Str × β) (d : List (Str × β)) : keys (kv :: d) = kv.1 :: keys d := rfl

theorem keys_append {β} (a b : List (Str × β)) : keys (a ++ b) = keys a ++ keys b := List.map_append

theorem dictUpdate_cons {β} (d r : List (Str × β)) (kv : Str × β) :
    dictUpdate d (kv :: r) = dictUpdate (dictInsert d kv.1 kv.2) r := rfl

theorem dictInsert_of_not_mem {β} (d : List (Str × β)) (k : Str) (v : β) (h : k ∉ keys d) :
    dictInsert d k v = d ++ [(k, v)] := by
  induction d with
  | nil => rfl
  | cons kv r ih =>
    rw [dictInsert, if_neg (List.ne_of_not_mem_cons h).symm, ih (List.not_mem_of_not_mem_cons h)]
    rfl

theorem keys_dictInsert_of_not_mem {β} (d : List (Str × β)) (k : Str) (v : β) (h : k ∉ keys d) :
    keys (dictInsert d k v) = keys d ++ [k] := by
  rw [dictInsert_of_not_mem d k v h]
  exact List.map_append

theorem keys_dictInsert_of_mem {β} (d : List (Str × β)) (k : Str) (v : β) (h : k ∈ keys d) :
    keys (dictInsert d k v) = keys d := by
  induction d with
  | nil => cases h
  | cons kv r ih =>
    obtain ⟨k', v'⟩ := kv
    rw [dictInsert]
    split
    · rfl
    · next hne => exact congrArg (k' :: ·) (ih ((List.mem_cons.mp h).resolve_left (Ne.symm hne)))

theorem mem_keys_dictInsert {β} (d : List (Str × β)) (k : Str) (v : β) (x : Str) :
    x ∈ keys (dictInsert d k v) ↔ x ∈ keys d ∨ x = k := by
  by_cases hm : k ∈ keys d
  · rw [keys_dictInsert_of_mem d k v hm]
    exact ⟨Or.inl, fun h => h.elim id fun e => e ▸ hm⟩
  · rw [keys_dictInsert_of_not_mem d k v hm, List.mem_append, List.mem_singleton]

theorem nodup_keys_dictInsert {β} (d : List (Str × β)) (k : Str) (v : β) (h : (keys d).Nodup) :
    (keys (dictInsert d k v)).Nodup := by
  by_cases hm : k ∈ keys d
  · rwa [keys_dictInsert_of_mem d k v hm]
  · rw [keys_dictInsert_of_not_mem d k v hm]
    exact List.nodup_append.mpr ⟨h, List.pairwise_singleton _ k, fun a ha b hb e => hm (List.mem_singleton.mp hb ▸ e ▸ ha)⟩

theorem nodup_keys_dictUpdate {β} (d l : List (Str × β)) (h : (keys d).Nodup) : (keys (dictUpdate d l)).Nodup := by
  induction l generalizing d with
  | nil => exact h
  | cons kv r ih => exact ih _ (nodup_keys_dictInsert d kv.1 kv.2 h)

theorem keys_dictUpdate_of_subset {β} (b d : List (Str × β)) (h : ∀ k ∈ keys d, k ∈ keys b) :
    keys (dictUpdate b d) = keys b := by
  induction d generalizing b with
  | nil => rfl
  | cons kv r ih =>
    have hk := keys_dictInsert_of_mem b kv.1 kv.2 (h kv.1 List.mem_cons_self)
    rw [dictUpdate_cons, ih _ fun k hk' => hk ▸ h k (List.mem_cons_of_mem _ hk'), hk]

theorem mem_dictInsert {β} (d : List (Str × β)) (k : Str) (v : β) (x : Str × β) (h : x ∈ dictInsert d k v) :
    x ∈ d ∨ x = (k, v) := by
  induction d with
  | nil => exact Or.inr (List.mem_singleton.mp h)
  | cons kv r ih =>
    obtain ⟨k', v'⟩ := kv
    rw [dictInsert] at h
    split at h
    · next e =>
      rcases List.mem_cons.mp h with h | h
      · exact Or.inr (e ▸ h)
      · exact Or.inl (List.mem_cons_of_mem _ h)
    · rcases List.mem_cons.mp h with h | h
      · exact Or.inl (h ▸ List.mem_cons_self)
      · exact (ih h).imp_left (List.mem_cons_of_mem _)

theorem mem_dictUpdate {β} (d l : List (Str × β)) (x : Str × β) (h : x ∈ dictUpdate d l) : x ∈ d ∨ x ∈ l := by
  induction l generalizing d with
  | nil => exact Or.inl h
  | cons kv r ih =>
    rcases ih _ h with h | h
    · exact (mem_dictInsert _ _ _ _ h).imp_right fun (e : x = kv) => e ▸ List.mem_cons_self
    · exact Or.inr (List.mem_cons_of_mem _ h)

theorem dictUpdate_append_of_nodup {β} (l d : List (Str × β)) (h : (keys (d ++ l)).Nodup) :
    dictUpdate d l = d ++ l := by
  induction l generalizing d with
  | nil => exact (List.append_nil d).symm
  | cons kv r ih =>
    have hk : kv.1 ∉ keys d := fun hm =>
      (List.nodup_append.mp (keys_append d _ ▸ h)).2.2 _ hm _ List.mem_cons_self rfl
    rw [dictUpdate_cons, dictInsert_of_not_mem d kv.1 kv.2 hk, ih _ (by rwa [List.append_assoc]), List.append_assoc]
    rfl

theorem dictOfList_of_nodup {β} (l : List (Str × β)) (h : (keys l).Nodup) : dictOfList l = l :=
  dictUpdate_append_of_nodup l [] h

theorem dictGet_dictInsert {β} (d : List (Str × β)) (k k' : Str) (v : β) :
    dictGet (dictInsert d k v) k' = if k' = k then some v else dictGet d k' := by
  induction d with
  | nil => exact ite_congr (propext eq_comm) (fun _ => rfl) fun _ => rfl
  | cons kv r ih =>
    obtain ⟨k0, v0⟩ := kv
    rw [dictInsert]
    split
    · next e =>
      subst e
      rw [dictGet, dictGet]
      split
      · next e => rw [if_pos e.symm]
      · next e => rw [if_neg (Ne.symm e)]
    · next hne =>
      rw [dictGet, dictGet, ih]
      split
      · next e => rw [if_neg fun e' => hne (e.trans e')]
      · rfl

theorem dictGet_eq_none_iff {β} (d : List (Str × β)) (k : Str) : dictGet d k = none ↔ k ∉ keys d := by
  induction d with
  | nil => exact ⟨fun _ => List.not_mem_nil, fun _ => rfl⟩
  | cons kv r ih =>
    rw [dictGet, keys_cons, List.mem_cons, not_or]
    split
    · next e => exact ⟨(fun h => by cases h), fun h => absurd e.symm h.1⟩
    · next hne => exact ih.trans ⟨fun h => ⟨Ne.symm hne, h⟩, fun h => h.2⟩

theorem dictGet_dictUpdate {β} (b d : List (Str × β)) (hn : (keys d).Nodup) (k : Str) :
    dictGet (dictUpdate b d) k = (dictGet d k).or (dictGet b k) := by
  induction d generalizing b with
  | nil => rfl
  | cons kv r ih =>
    obtain ⟨k0, v0⟩ := kv
    have hn' := List.nodup_cons.mp hn
    rw [dictUpdate_cons, ih _ hn'.2, dictGet_dictInsert, dictGet]
    split
    · next e => rw [e, if_pos rfl, (dictGet_eq_none_iff r k0).mpr hn'.1]; rfl
    · next e => rw [if_neg (Ne.symm e)]

theorem exists_dictGet_of_mem_keys {β} (d : List (Str × β)) (k : Str) (h : k ∈ keys d) : ∃ v, dictGet d k = some v :=
  Option.ne_none_iff_exists'.mp fun hn => (dictGet_eq_none_iff d k).mp hn h

theorem dictGet_mem {β} (d : List (Str × β)) (k : Str) (v : β) (h : dictGet d k = some v) : (k, v) ∈ d := by
  induction d with
  | nil => cases h
  | cons kv r ih =>
    obtain ⟨k0, v0⟩ := kv
    rw [dictGet] at h
    split at h
    · next e => cases h; exact e ▸ List.mem_cons_self
    · exact List.mem_cons_of_mem _ (ih h)

theorem dictGet_of_mem {β} (d : List (Str × β)) (hn : (keys d).Nodup) (k : Str) (v : β) (hm : (k, v) ∈ d) :
    dictGet d k = some v := by
  induction d with
  | nil => cases hm
  | cons kv r ih =>
    obtain ⟨k0, v0⟩ := kv
    have hn' := List.nodup_cons.mp hn
    rw [dictGet]
    rcases List.mem_cons.mp hm with e | hm
    · cases e; exact if_pos rfl
    · rw [if_neg fun e : k0 = k => hn'.1 (e ▸ List.mem_map_of_mem (f := (·.1)) hm), ih hn'.2 hm]

theorem dictInsert_same {β} (d : List (Str × β)) (k : Str) (v : β) (h : dictGet d k = some v) :
    dictInsert d k v = d := by
  induction d with
  | nil => cases h
  | cons kv r ih =>
    obtain ⟨k0, v0⟩ := kv
    rw [dictGet] at h
    rw [dictInsert]
    split at h
    · next e => cases h; rw [if_pos e]
    · next e => rw [if_neg e, ih h]

theorem dictGet_append {β} (a b : List (Str × β)) (k : Str) :
    dictGet (a ++ b) k = (dictGet a k).or (dictGet b k) := by
  induction a with
  | nil => rfl
  | cons kv r ih =>
    rw [List.cons_append, dictGet, dictGet]
    split
    · rfl
    · exact ih

theorem dictGet_map_val {α β} (g : α → β) (d : List (Str × α)) (k : Str) :
    dictGet (d.map fun kc => (kc.1, g kc.2)) k = (dictGet d k).map g := by
  induction d with
  | nil => rfl
  | cons kv r ih =>
    rw [List.map_cons, dictGet, dictGet]
    split
    · rfl
    · exact ih

theorem dictGet_map_of_mem (g : Cal → CalArr) (d : List (Str × Cal)) (hn : (keys d).Nodup) (k : Str) (c : Cal)
    (hm : (k, c) ∈ d) : dictGet (d.map fun kc => (kc.1, g kc.2)) k = some (g c) := by
  rw [dictGet_map_val, dictGet_of_mem d hn k c hm]
  rfl

theorem dictGet_perm {β} (d e : List (Str × β)) (h : d.Perm e) (hn : (keys d).Nodup) (k : Str) :
    dictGet d k = dictGet e k := by
  cases hg : dictGet e k with
  | none => exact (dictGet_eq_none_iff d k).mpr fun hk => (dictGet_eq_none_iff e k).mp hg ((h.map _).mem_iff.mp hk)
  | some v => exact dictGet_of_mem d hn k v (h.mem_iff.mpr (dictGet_mem e k v hg))

theorem dict_ext {β} (a b : List (Str × β)) (hk : keys a = keys b) (hn : (keys b).Nodup)
    (hg : ∀ k ∈ keys b, dictGet a k = dictGet b k) : a = b := by
  induction a generalizing b with
  | nil => cases b with
    | nil => rfl
    | cons y ys => cases hk
  | cons x xs ih =>
    cases b with
    | nil => cases hk
    | cons y ys =>
      obtain ⟨k, v⟩ := x
      obtain ⟨k', w⟩ := y
      injection hk with hk1 hk2
      cases hk1
      have hn' := List.nodup_cons.mp hn
      have h0 := hg k List.mem_cons_self
      rw [dictGet, dictGet, if_pos rfl, if_pos rfl] at h0
      cases h0
      refine congrArg _ (ih ys hk2 hn'.2 fun k' hk' => ?_)
      have := hg k' (List.mem_cons_of_mem _ hk')
      rwa [dictGet, dictGet, if_neg fun e : k = k' => hn'.1 (e ▸ hk'), if_neg fun e : k = k' => hn'.1 (e ▸ hk')] at this

theorem dictUpdate_same_keys {β} (b d : List (Str × β)) (hk : keys b = keys d) (hn : (keys d).Nodup) :
    dictUpdate b d = d :=
  dict_ext _ d ((keys_dictUpdate_of_subset b d fun k h => hk ▸ h).trans hk) hn fun k hk' => by
    obtain ⟨v, hv⟩ := exists_dictGet_of_mem_keys d k hk'
    rw [dictGet_dictUpdate b d hn, hv]
    rfl

theorem keys_dictErase {β} (d : List (Str × β)) (k : Str) : keys (dictErase d k) = (keys d).filter (· ≠ k) := by
  rw [keys, keys, List.filter_map]
  rfl

theorem not_mem_keys_dictErase {β} (d : List (Str × β)) (k : Str) : k ∉ keys (dictErase d k) := by
  rw [keys_dictErase]
  exact fun h => of_decide_eq_true (List.mem_filter.mp h).2 rfl

theorem dictGet_dictErase_ne {β} (d : List (Str × β)) (k k0 : Str) (h : k ≠ k0) :
    dictGet (dictErase d k0) k = dictGet d k := by
  induction d with
  | nil => rfl
  | cons kv r ih =>
    obtain ⟨k1, v1⟩ := kv
    rw [dictErase, List.filter_cons, dictGet]
    by_cases e : k1 = k0
    · rw [if_neg (by simpa using e), if_neg fun e' => h (e'.symm.trans e)]
      exact ih
    · rw [if_pos (by simpa using e), dictGet]
      exact congrArg _ ih

theorem dictGet_moveEnd {β} (d : List (Str × β)) (k : Str) (v : β) (h : dictGet d k = some v) (k' : Str) :
    dictGet (dictErase d k ++ [(k, v)]) k' = dictGet d k' := by
  rw [dictGet_append]
  by_cases e : k' = k
  · rw [e, (dictGet_eq_none_iff _ _).mpr (not_mem_keys_dictErase d k), h]
    exact if_pos rfl
  · rw [dictGet_dictErase_ne d k' k e]
    cases dictGet d k' with
    | some v => rfl
    | none => exact if_neg (Ne.symm e)

theorem moveEnd_idem {β} (d : List (Str × β)) (k : Str) (v : β) :
    dictErase (dictErase d k ++ [(k, v)]) k ++ [(k, v)] = dictErase d k ++ [(k, v)] := by
  unfold dictErase
  simp

theorem keys_calByName (fields : List (Str × Str)) (cal : List (Str × Cal)) : keys (calByName fields cal) = keys fields := by
  rw [keys, calByName, List.map_map]
  rfl

theorem dictGet_calByName (fields : List (Str × Str)) (cal : List (Str × Cal)) (k : Str) (hk : k ∈ keys fields) :
    dictGet (calByName fields cal) k = some ((dictGet cal k).getD Cal.default) := by
  induction fields with
  | nil => cases hk
  | cons f r ih =>
    rw [calByName, List.map_cons, dictGet]
    split
    · next e => rw [e]
    · next e => exact ih ((List.mem_cons.mp hk).resolve_left (Ne.symm e))

theorem calByName_congr (fields : List (Str × Str)) (d e : List (Str × Cal))
    (h : ∀ k ∈ keys fields, dictGet d k = dictGet e k) : calByName fields d = calByName fields e :=
  List.map_congr_left fun f hf => by rw [h f.1 (List.mem_map_of_mem hf)]

theorem calByName_idem (fields : List (Str × Str)) (cal : List (Str × Cal)) :
    calByName fields (calByName fields cal) = calByName fields cal :=
  List.map_congr_left fun f hf => by rw [dictGet_calByName fields cal f.1 (List.mem_map_of_mem hf)]; rfl

/-- the calibration line of `mkLaser` (`Laser.__init__`); the dict of defaults it starts from is `calByName fields []` unfolded,
which is how the `calByName` lemmas apply to it -/
theorem defaults_update (fields : List (Str × Str)) (cal : List (Str × Cal)) (hf : (keys fields).Nodup)
    (hn : (keys cal).Nodup) (hsub : ∀ k ∈ keys cal, k ∈ keys fields) :
    dictUpdate (fields.map fun f => (f.1, Cal.default)) cal = calByName fields cal :=
  dict_ext _ _ ((keys_dictUpdate_of_subset _ cal fun k hk => (keys_calByName _ []).symm ▸ hsub k hk).trans
      ((keys_calByName _ []).trans (keys_calByName _ _).symm)) (keys_calByName _ _ ▸ hf) fun k hk => by
    rw [keys_calByName] at hk
    have hd : dictGet (fields.map fun f => (f.1, Cal.default)) k = some Cal.default := dictGet_calByName fields [] k hk
    rw [dictGet_dictUpdate _ cal hn, dictGet_calByName _ _ _ hk, hd]
    cases dictGet cal k <;> rfl

end Pew.Npz
