import PewProofs.OtsuBins

/-! # C15 — NaN in the data

The boolean mask keeps the numbers in their order (`maskSelect_notNan`); a NaN that is left makes `np.min`/`np.max` NaN and
`np.histogram` raise (`outerEdges_nan`); an array of numbers goes through `histogramN` / `otsuArr false` as through
`histogram` (`otsuArr_false_map_some`). -/
namespace Pew.Otsu

theorem maskSelect_notNan (xs : List (Option Rat)) :
    maskSelect xs (xs.map (fun v => !v.isNone)) = (xs.filterMap id).map some := by
  induction xs with
  | nil => rfl
  | cons a l ih =>
    cases a with
    | none => exact ih
    | some q => exact congrArg (some q :: ·) ih

theorem reduceN_none_cons (f : Rat → Rat → Rat) (l : List (Option Rat)) : reduceN f (none :: l) = none := by
  induction l with
  | nil => rfl
  | cons b l ih => exact ih

theorem reduceN_map_some (f : Rat → Rat → Rat) (a : Rat) (l : List Rat) :
    reduceN f ((a :: l).map some) = some (l.foldl f a) := by
  induction l generalizing a with
  | nil => rfl
  | cons b l ih => exact ih (f a b)

theorem reduceN_nan (f : Rat → Rat → Rat) : ∀ (xs : List (Option Rat)), none ∈ xs → reduceN f xs = none
  | [], h => absurd h List.not_mem_nil
  | none :: l, _ => reduceN_none_cons f l
  | [some p], h => by simp at h
  | some p :: none :: l, _ => reduceN_none_cons f l
  -- one step of the fold: combining the first two numbers leaves the reduction as it is (`rfl`) and shortens the list
  | some p :: some q :: l, h => reduceN_nan f (some (f p q) :: l) (by simpa using h)
termination_by xs => xs.length

theorem outerEdges_map_some (ys : List Rat) (hne : ys ≠ []) : outerEdges (ys.map some) = some (histRange ys) := by
  cases ys with
  | nil => exact absurd rfl hne
  | cons a l =>
    unfold outerEdges
    rw [reduceN_map_some, reduceN_map_some]
    rfl

theorem outerEdges_nan (xs : List (Option Rat)) (h : none ∈ xs) : outerEdges xs = none := by
  unfold outerEdges
  have hne : xs.isEmpty = false := by
    cases xs with
    | nil => simp at h
    | cons _ _ => rfl
  rw [hne, reduceN_nan min xs h]
  simp

theorem keepInRange_all (lo hi : Rat) (ys : List Rat) (h : ∀ y ∈ ys, lo ≤ y ∧ y ≤ hi) :
    keepInRange lo hi (ys.map some) = ys := by
  unfold keepInRange
  induction ys with
  | nil => rfl
  | cons a l ih =>
    have ha := h a (by simp)
    have := ih (fun y hy => h y (by simp [hy]))
    simp [ha.1, ha.2, this]

theorem histRange_contains (ys : List Rat) (hne : ys ≠ []) :
    ∀ y ∈ ys, (histRange ys).1 ≤ y ∧ y ≤ (histRange ys).2 := by
  intro y hy
  have h1 := (minL_spec ys hne).2 y hy
  have h2 := (maxL_spec ys hne).2 y hy
  unfold histRange
  dsimp only
  split
  · exact ⟨(sub_le_self _ (by norm_num)).trans h1, h2.trans (le_add_of_nonneg_right (by norm_num))⟩
  · exact ⟨h1, h2⟩

theorem histogramN_map_some (ys : List Rat) (hne : ys ≠ []) (n : Nat) :
    histogramN (ys.map some) n = some (histogram ys n) := by
  unfold histogramN
  rw [outerEdges_map_some ys hne]
  simp only [Option.map_some]
  rw [keepInRange_all _ _ ys (histRange_contains ys hne)]
  rfl

theorem otsuArr_false_map_some (ys : List Rat) (hne : ys ≠ []) (n : Nat) :
    otsuArr false (ys.map some) n = some (otsuHistS (histogram ys n).1 (histogram ys n).2) := by
  unfold otsuArr
  simp only [Bool.false_eq_true, if_false]
  rw [histogramN_map_some ys hne]
  rfl

end Pew.Otsu
