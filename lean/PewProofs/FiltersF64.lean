import PewProofs.Filters

/-! The binary64 mechanism on a constant signal: away from the ends every window is `b` copies of `c` and all those
cells are one cell (`F64.meanCells1_replicate`), so that the evaluation of `f64_tenths` (fifteen copies of `0.1`: the
one kernel evaluation behind the witnesses of the known finding in `PewTheorems/C13`) meets one cell there, not nine. -/
namespace Pew.Filters

theorem slice_eq_replicate {α} (a m : Nat) (l : List α) (v : α) (h : ∀ k < m, l[a + k]? = some v) :
    slice a m l = List.replicate m v := by
  rw [slice_eq_map_range a m l (fun _ => v) h, List.map_const', List.length_range]

theorem eq_take_slice_drop {α} (a m : Nat) (l : List α) : l = l.take a ++ slice a m l ++ l.drop (a + m) := by
  rw [List.append_assoc, ← List.drop_drop, slice, List.take_append_drop, List.take_append_drop]

namespace F64

theorem getElem?_meanCells1 (b i : Nat) (x : List Float) (hi : i < x.length) :
    (meanCells1 b x)[i]? = some (meanCell x[i] 0 (b / 2) [slice i b (pad1 npMean (b / 2) x)]) := by
  have hw : i < (pad1 npMean (b / 2) x).length + 1 - b := by
    rw [pad1, padEnds_length]; omega
  -- the one row of `windows 1 b [p]`, by unfolding
  show (List.zipWith _ x ((List.range ((pad1 npMean (b / 2) x).length + 1 - b)).map
    fun j => [slice j b (pad1 npMean (b / 2) x)]))[i]? = _
  rw [List.getElem?_zipWith, List.getElem?_map, List.getElem?_range hw, List.getElem?_eq_getElem hi]
  rfl

theorem meanCells1_replicate (b n : Nat) (c : Float) (hb : 0 < b) :
    meanCells1 b (List.replicate n c) =
      (meanCells1 b (List.replicate n c)).take (b / 2)
        ++ List.replicate (n + 1 - b) (meanCell c 0 (b / 2) [List.replicate b c])
        ++ (meanCells1 b (List.replicate n c)).drop (b / 2 + (n + 1 - b)) := by
  rw [← slice_eq_replicate (b / 2) (n + 1 - b) (meanCells1 b (List.replicate n c))]
  · exact eq_take_slice_drop _ _ _
  · intro k hk
    have hi : b / 2 + k < (List.replicate n c).length := by rw [List.length_replicate]; omega
    rw [getElem?_meanCells1 b _ _ hi, pad1,
      slice_padEnds_interior _ _ _ _ _ _ (by omega) (by rw [List.length_replicate]; omega),
      slice_eq_replicate _ b _ c, List.getElem_replicate]
    intro j hj
    rw [List.getElem?_replicate, if_pos (by omega)]

end F64

theorem f64_tenths :
    F64.bits (List.replicate 15 0.1) = List.replicate 15 0x3FB999999999999A ∧
    F64.bits (F64.rollingMean1 7 0.0 (List.replicate 15 0.1)) = List.replicate 15 0x3FB999999999999B ∧
    F64.bits (F64.rollingMean1 7 1.0 (List.replicate 15 0.1))
      = List.replicate 3 0x3FB999999999999B ++ List.replicate 9 0x3FB999999999999A ++ List.replicate 3 0x3FB999999999999B ∧
    F64.bits (F64.rollingMean1 7 (1.0 / 0.0) (List.replicate 15 0.1)) = F64.bits (List.replicate 15 0.1) ∧
    F64.bits (F64.rollingMedian1 7 0.0 (List.replicate 15 0.1)) = F64.bits (List.replicate 15 0.1) ∧
    F64.bits (F64.rollingMean1 3 0.0 (List.replicate 15 0.1)) = F64.bits (List.replicate 15 0.1) ∧
    F64.bits (F64.rollingMean1 5 0.0 (List.replicate 15 0.1)) = F64.bits (List.replicate 15 0.1) := by
  simp only [F64.rollingMean1]
  rw [F64.meanCells1_replicate 7 15 0.1 (by decide), F64.meanCells1_replicate 3 15 0.1 (by decide),
    F64.meanCells1_replicate 5 15 0.1 (by decide)]
  decide +kernel

end Pew.Filters
