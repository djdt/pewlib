import PewProofs.ExportLists

/-! # C16 — the VTK blocks: the values in Fortran order; the appended section is, per block, a count and then the values,
and its bytes are 8 per word -/
namespace Pew.Export

variable {α : Type}

theorem ravelF_plane_length (w : Vol α) (k : Nat) :
    ((List.range w.n1).flatMap fun j => (List.range w.n0).map fun i => w.get i j k).length = w.n0 * w.n1 := by
  rw [Lists.length_flatMap_const _ w.n0 _ (by simp), List.length_range]

theorem ravelF_length (w : Vol α) : (ravelF w).length = w.n0 * w.n1 * w.n2 := by
  rw [ravelF, Lists.length_flatMap_const _ _ _ fun k _ => ravelF_plane_length w k, List.length_range]

/-- the block holds exactly `nx·ny·nz` values: the declared extents times 8 is the byte count -/
theorem vtk_block_length (v : Vol α) : (vtkBlock v).length = v.n1 * v.n0 * v.n2 :=
  ravelF_length (swap01 (flip0 v))

theorem ravelF_index (w : Vol α) (i j k : Nat) (hi : i < w.n0) (hj : j < w.n1) (hk : k < w.n2) :
    (ravelF w)[i + w.n0 * (j + w.n1 * k)]? = some (w.get i j k) := by
  have e : i + w.n0 * (j + w.n1 * k) = w.n0 * w.n1 * k + (w.n0 * j + i) := by
    rw [Nat.mul_add, Nat.mul_assoc]
    omega
  have hji : w.n0 * j + i < w.n0 * w.n1 := by
    rw [Nat.mul_comm, Nat.mul_comm w.n0]; exact Lists.mul_add_lt hj hi
  rw [ravelF, e, Lists.getElem?_flatMap_const _ _ _ (fun k _ => ravelF_plane_length w k) k _ (by simpa using hk) hji,
    Lists.getElem?_flatMap_const _ w.n0 _ (by simp) j i (by simpa using hj) hi]
  simp [hi]

theorem ravelF_eq_map (w : Vol α) :
    ravelF w = (List.range (w.n0 * w.n1 * w.n2)).map fun p => w.get (p % w.n0) (p / w.n0 % w.n1) (p / (w.n0 * w.n1)) := by
  refine List.ext_getElem (by rw [ravelF_length, List.length_map, List.length_range]) fun p hp _ => ?_
  rw [ravelF_length] at hp
  have hn0 : 0 < w.n0 := Nat.pos_of_ne_zero fun h => by simp [h] at hp
  have hn1 : 0 < w.n1 := Nat.pos_of_ne_zero fun h => by simp [h] at hp
  have hz : p / (w.n0 * w.n1) < w.n2 := by
    rw [Nat.div_lt_iff_lt_mul (Nat.mul_pos hn0 hn1), Nat.mul_comm]
    exact hp
  have e : p = p % w.n0 + w.n0 * (p / w.n0 % w.n1 + w.n1 * (p / (w.n0 * w.n1))) := by
    rw [← Nat.div_div_eq_div_mul, Nat.mod_add_div, Nat.mod_add_div]
  have h1 := ravelF_index w (p % w.n0) (p / w.n0 % w.n1) _ (Nat.mod_lt _ hn0) (Nat.mod_lt _ hn1) hz
  rw [← e] at h1
  exact Option.some.inj ((List.getElem?_eq_getElem _).symm.trans (h1.trans (by simp)))

theorem offsetsFrom_get (o : Nat) (ns : List Nat) (k : Nat) (hk : k < ns.length) :
    (offsetsFrom o ns)[k]? = some (o + ((ns.take k).map (fun n => n * 8 + 8)).sum) := by
  induction ns generalizing o k with
  | nil => simp at hk
  | cons n ns ih =>
    cases k with
    | zero => simp [offsetsFrom]
    | succ k =>
      simp only [offsetsFrom, List.getElem?_cons_succ, List.take_succ_cons, List.map_cons, List.sum_cons]
      rw [ih _ k (by simpa using hk)]
      congr 1
      omega

theorem offsetsFrom_length (o : Nat) (ns : List Nat) : (offsetsFrom o ns).length = ns.length := by
  induction ns generalizing o with
  | nil => rfl
  | cons n ns ih => simp [offsetsFrom, ih]

theorem appended_append (a b : List (List α)) : appended (a ++ b) = appended a ++ appended b := by
  induction a with
  | nil => rfl
  | cons x xs ih => simp [appended, ih]

theorem appended_length (bs : List (List α)) : (appended bs).length = (bs.map (fun b => b.length + 1)).sum := by
  induction bs with
  | nil => rfl
  | cons b bs ih => simp [appended, ih]; omega

theorem sum_bytes_eq_eight_mul_words (bs : List (List α)) : (bs.map (fun b => b.length * 8 + 8)).sum = 8 * (appended bs).length := by
  induction bs with
  | nil => rfl
  | cons b bs ih =>
    simp only [List.map_cons, List.sum_cons, ih, appended, List.length_cons, List.length_append, List.length_map]
    omega

theorem appended_at (blocks : List (List α)) (k : Nat) (hk : k < blocks.length) :
    appended blocks = appended (blocks.take k) ++
      Word.len (blocks[k].length * 8) :: (blocks[k].map Word.val ++ appended (blocks.drop (k + 1))) := by
  conv => lhs; rw [← List.take_append_drop k blocks, List.drop_eq_getElem_cons hk, appended_append, appended, List.cons_append]

theorem appended_block_words (blocks : List (List α)) (k : Nat) (hk : k < blocks.length) :
    ((appended blocks).drop ((appended (blocks.take k)).length + 1)).take blocks[k].length = blocks[k].map Word.val := by
  rw [appended_at blocks k hk, ← List.drop_drop, List.drop_left' rfl, List.drop_one, List.tail_cons,
    List.take_left' (List.length_map _)]

theorem appended_getElem?_len (blocks : List (List α)) (k : Nat) (hk : k < blocks.length) :
    (appended blocks)[(appended (blocks.take k)).length]? = some (Word.len (blocks[k].length * 8)) := by
  rw [appended_at blocks k hk, List.getElem?_append_right (Nat.le_refl _), Nat.sub_self]
  rfl

theorem appended_getElem?_val (blocks : List (List α)) (k : Nat) (hk : k < blocks.length) (p : Nat) (hp : p < blocks[k].length) :
    (appended blocks)[(appended (blocks.take k)).length + 1 + p]? = some (Word.val (blocks[k][p])) := by
  rw [← List.getElem?_drop, ← List.getElem?_take_of_lt hp, appended_block_words blocks k hk, List.getElem?_map,
    List.getElem?_eq_getElem hp]
  rfl

theorem groups8_flatMap {β : Type} (g : β → List Nat) (l : List β) (h : ∀ a ∈ l, (g a).length = 8) :
    groups8 l.length (l.flatMap g) = l.map g := by
  induction l with
  | nil => rfl
  | cons a t ih =>
    simp only [List.length_cons, groups8, List.flatMap_cons, List.map_cons]
    rw [List.take_left' (h a (by simp)), List.drop_left' (h a (by simp)), ih (fun x hx => h x (by simp [hx]))]

theorem le64_length (n : Nat) : (le64 n).length = 8 := by simp [le64]

theorem ofLe64_digits (k n : Nat) : ofLe64 ((List.range k).map fun i => n / 256 ^ i % 256) = n % 256 ^ k := by
  induction k generalizing n with
  | zero => rw [Nat.pow_zero, Nat.mod_one]; rfl
  | succ k ih =>
    have := ih (n / 256)
    simp only [Nat.div_div_eq_div_mul, ← Nat.pow_succ'] at this
    rw [List.range_succ_eq_map, List.map_cons, List.map_map, ofLe64, Function.comp_def, this, Nat.pow_succ', Nat.mod_mul,
      Nat.pow_zero, Nat.div_one]

theorem ofLe64_le64 (n : Nat) (h : n < 2 ^ 64) : ofLe64 (le64 n) = n := by
  rw [le64, ofLe64_digits, Nat.mod_eq_of_lt h]

theorem wordBytes_length (little : Bool) (enc : α → List Nat) (henc : ∀ a, (enc a).length = 8) (w : Word α) :
    (wordBytes little enc w).length = 8 := by
  cases w <;> cases little <;> simp [wordBytes, le64_length, henc]

theorem readU64_bodyBytes (little : Bool) (enc : α → List Nat) (henc : ∀ a, (enc a).length = 8)
    (ws : List (Word α)) (i n : Nat) (hi : ws[i]? = some (.len n)) (hn : n < 2 ^ 64) :
    readU64 little (bodyBytes little enc ws) (8 * i) = some n := by
  have h1 := flatMap_drop_take (wordBytes little enc) 8 ws (fun w _ => wordBytes_length little enc henc w) i _ hi
  rw [readU64, bodyBytes, h1, if_pos (wordBytes_length little enc henc _)]
  cases little <;> simp [wordBytes, ofLe64_le64 _ hn]

theorem readBlockBytes_bodyBytes (little : Bool) (enc : α → List Nat) (henc : ∀ a, (enc a).length = 8)
    (ws : List (Word α)) (i : Nat) (vs : List α) (hi : ws[i]? = some (.len (vs.length * 8)))
    (hvs : (ws.drop (i + 1)).take vs.length = vs.map Word.val) (hn : vs.length * 8 < 2 ^ 64) :
    readBlockBytes little (bodyBytes little enc ws) (8 * i) = some (vs.length * 8, vs.map enc) := by
  have hw : ∀ w ∈ ws, (wordBytes little enc w).length = 8 := fun w _ => wordBytes_length little enc henc w
  have hv : ∀ a ∈ vs, (wordBytes little enc (Word.val a)).length = 8 := fun a _ => wordBytes_length little enc henc _
  have hbody : ((bodyBytes little enc ws).drop (8 * i + 8)).take (vs.length * 8)
      = vs.flatMap (fun a => wordBytes little enc (Word.val a)) := by
    rw [bodyBytes, ← Nat.mul_succ, Lists.drop_flatMap_const _ 8 _ hw, Nat.mul_comm vs.length 8,
      flatMap_take_const _ 8 _ (fun w hwm => hw w (List.mem_of_mem_drop hwm)), hvs, List.flatMap_map]
  rw [readBlockBytes, readU64_bodyBytes little enc henc ws i _ hi hn]
  simp only [hbody, Lists.length_flatMap_const _ 8 _ hv]
  have h8 : vs.length * 8 % 8 = 0 ∧ 8 * vs.length = vs.length * 8 := by omega
  rw [if_pos h8, Nat.mul_div_cancel _ (by decide : 0 < 8), groups8_flatMap _ _ hv, List.map_map]
  congr 2
  apply List.map_congr_left
  intro a _
  cases little <;> simp [wordBytes]

end Pew.Export
