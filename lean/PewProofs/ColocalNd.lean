import PewModel.ColocalNd
import PewProofs.Colocal
import Mathlib.Data.List.Perm.Subperm

/-! Block shuffling in any dimension.  Per-axis facts (`divL`, `modL`, `recomb`) go by `ltAll_induction` where an `ltAll`
hypothesis fixes the lengths, flat block indices by the round trips of `ravel`/`unravel`; on top of them the pixel map
`phiNd` has the pixel map of the exchanged lists as its inverse (`phiNd_phiNd`), whence injectivity and conservation.
The 2-D model enters only at the end: the `_two` lemmas read each n-D definition on two-entry lists, and
`pixels_nodup`, `shuffleIdx_shape`, `phi_inj` are n-D facts carried across them (the pixel map is shown injective in n-D
only). -/
namespace Pew.Colocal

theorem ltAll_cons (a n : Nat) (as ns : List Nat) :
    ltAll (a :: as) (n :: ns) = true ↔ a < n ∧ ltAll as ns = true := by
  simp only [ltAll, Bool.and_eq_true, decide_eq_true_eq]

/-- `ltAll a n = true` forces equal lengths: induction along both lists at once, without the mismatch cases -/
@[elab_as_elim]
theorem ltAll_induction {P : ∀ a n : List Nat, ltAll a n = true → Prop} (nil : P [] [] rfl)
    (cons : ∀ a n as ns (h : ltAll (a :: as) (n :: ns) = true) (_ : a < n) (hs : ltAll as ns = true),
      P as ns hs → P (a :: as) (n :: ns) h) :
    ∀ a n (h : ltAll a n = true), P a n h
  | [], [], _ => nil
  | a :: as, n :: ns, h =>
    have h' := (ltAll_cons a n as ns).mp h
    cons a n as ns h h'.1 h'.2 (ltAll_induction nil cons as ns h'.2)
  | [], _ :: _, h => (Bool.false_ne_true h).elim
  | _ :: _, [], h => (Bool.false_ne_true h).elim

theorem ltAll_length {a n : List Nat} (h : ltAll a n = true) : a.length = n.length := by
  induction a, n, h using ltAll_induction with
  | nil => rfl
  | cons _ _ _ _ _ _ _ ih => exact congrArg (· + 1) ih

theorem divL_cons (c b : Nat) (cs bs : List Nat) : divL (c :: cs) (b :: bs) = c / b :: divL cs bs := rfl

theorem modL_cons (c b : Nat) (cs bs : List Nat) : modL (c :: cs) (b :: bs) = c % b :: modL cs bs := rfl

theorem recomb_cons (g b o : Nat) (G bs os : List Nat) :
    recomb (g :: G) (b :: bs) (o :: os) = (g * b + o) :: recomb G bs os := rfl

theorem length_divL (c b : List Nat) : (divL c b).length = min c.length b.length := List.length_zipWith

theorem div_mod_recomb (G b o : List Nat) (hG : G.length = b.length) (ho : ltAll o b = true) :
    divL (recomb G b o) b = G ∧ modL (recomb G b o) b = o := by
  induction o, b, ho using ltAll_induction generalizing G with
  | nil => cases G with
    | nil => exact ⟨rfl, rfl⟩
    | cons _ _ => cases hG
  | cons a n as ns _ han _ ih => cases G with
    | nil => cases hG
    | cons g gs =>
      rw [recomb_cons, divL_cons, modL_cons, blk_div _ _ _ han, Nat.mul_add_mod_of_lt han,
        (ih gs (Nat.succ.inj hG)).1, (ih gs (Nat.succ.inj hG)).2]
      exact ⟨rfl, rfl⟩

theorem recomb_div_mod (c b : List Nat) (h : c.length = b.length) : recomb (divL c b) b (modL c b) = c := by
  induction c generalizing b with
  | nil => cases b <;> rfl
  | cons a as ih => cases b with
    | nil => cases h
    | cons n ns => rw [divL_cons, modL_cons, recomb_cons, Nat.div_add_mod', ih ns (Nat.succ.inj h)]

theorem modL_lt (c b : List Nat) (h : c.length = b.length) (hpos : ∀ v ∈ b, 0 < v) : ltAll (modL c b) b = true := by
  induction c generalizing b with
  | nil => cases b with
    | nil => rfl
    | cons _ _ => cases h
  | cons a as ih => cases b with
    | nil => cases h
    | cons n ns =>
      rw [modL_cons, ltAll_cons]
      exact ⟨Nat.mod_lt _ (hpos n List.mem_cons_self),
        ih ns (Nat.succ.inj h) (fun v hv => hpos v (List.mem_cons_of_mem _ hv))⟩

theorem recomb_lt (G b o N : List Nat) (hN : N.length = b.length) (hG : ltAll G (divL N b) = true)
    (ho : ltAll o b = true) : ltAll (recomb G b o) N = true := by
  induction o, b, ho using ltAll_induction generalizing G N with
  | nil => cases N with
    | nil => cases G with
      | nil => rfl
      | cons _ _ => exact (Bool.false_ne_true hG).elim
    | cons _ _ => cases hN
  | cons a n as ns _ han _ ih => cases N with
    | nil => cases hN
    | cons m ms => cases G with
      | nil => exact (Bool.false_ne_true hG).elim
      | cons g gs =>
        rw [divL_cons, ltAll_cons] at hG
        rw [recomb_cons, ltAll_cons]
        exact ⟨Nat.lt_of_lt_of_le (Lists.mul_add_lt hG.1 han) (Nat.div_mul_le_self m n),
          ih gs ms (Nat.succ.inj hN) hG.2⟩

theorem unravel_length (sh : List Nat) (f : Nat) : (unravel sh f).length = sh.length := by
  induction sh generalizing f with
  | nil => rfl
  | cons n ns ih => simp [unravel, ih]

theorem ravel_lt (sh c : List Nat) (h : ltAll c sh = true) : ravel sh c < prodL sh := by
  induction c, sh, h using ltAll_induction with
  | nil => exact Nat.one_pos
  | cons i n is ns _ hin _ ih => exact Lists.mul_add_lt hin ih

theorem unravel_ravel (sh c : List Nat) (h : ltAll c sh = true) : unravel sh (ravel sh c) = c := by
  induction c, sh, h using ltAll_induction with
  | nil => rfl
  | cons i n is ns _ _ hs ih =>
    show (i * prodL ns + ravel ns is) / prodL ns :: unravel ns ((i * prodL ns + ravel ns is) % prodL ns) = i :: is
    rw [blk_div _ _ _ (ravel_lt ns is hs), Nat.mul_add_mod_of_lt (ravel_lt ns is hs), ih]

theorem ravel_unravel (sh : List Nat) (f : Nat) (h : f < prodL sh) : ravel sh (unravel sh f) = f := by
  induction sh generalizing f with
  | nil => simp [prodL] at h; simp [ravel, h]
  | cons n ns ih =>
    have hP : 0 < prodL ns := Nat.pos_of_lt_mul_left h
    simp only [unravel, ravel]
    rw [ih _ (Nat.mod_lt _ hP)]
    exact Nat.div_add_mod' _ _

theorem unravel_lt (sh : List Nat) (f : Nat) (h : f < prodL sh) : ltAll (unravel sh f) sh = true := by
  induction sh generalizing f with
  | nil => simp [unravel, ltAll]
  | cons n ns ih =>
    have hP : 0 < prodL ns := Nat.pos_of_lt_mul_left h
    simp only [unravel, ltAll, Bool.and_eq_true, decide_eq_true_eq]
    exact ⟨(Nat.div_lt_iff_lt_mul hP).mpr h, ih _ (Nat.mod_lt _ hP)⟩

theorem ravel_inj {sh c c' : List Nat} (h : ltAll c sh = true) (h' : ltAll c' sh = true)
    (e : ravel sh c = ravel sh c') : c = c' := by
  rw [← unravel_ravel sh c h, e, unravel_ravel sh c' h']

theorem unravel_inj {sh : List Nat} {f f' : Nat} (h : f < prodL sh) (h' : f' < prodL sh)
    (e : unravel sh f = unravel sh f') : f = f' := by
  rw [← ravel_unravel sh f h, e, ravel_unravel sh f' h']

theorem mem_coords (sh c : List Nat) : c ∈ coords sh ↔ ltAll c sh = true := by
  induction sh generalizing c with
  | nil => cases c <;> simp [coords, ltAll]
  | cons n ns ih =>
    simp only [coords, List.mem_flatMap, List.mem_range, List.mem_map]
    constructor
    · rintro ⟨i, hi, c', hc', rfl⟩
      simp [ltAll, hi, (ih c').mp hc']
    · intro h
      cases c with
      | nil => simp [ltAll] at h
      | cons i is =>
        simp only [ltAll, Bool.and_eq_true, decide_eq_true_eq] at h
        exact ⟨i, h.1, is, (ih is).mpr h.2, rfl⟩

theorem coords_nodup (sh : List Nat) : (coords sh).Nodup := by
  induction sh with
  | nil => simp [coords]
  | cons n ns ih =>
    simp only [coords]
    rw [List.nodup_flatMap]
    constructor
    · intro i _
      exact List.Nodup.map (fun a b h => by injection h) ih
    · apply List.Pairwise.imp _ (List.nodup_range (n := n))
      intro a b hab
      simp only [Function.onFun, List.disjoint_left, List.mem_map]
      rintro q ⟨c, _, rfl⟩ ⟨c', _, h⟩
      injection h with h1 _
      exact hab h1.symm

theorem selectedNd_lt (M : List Nat → Bool) (block nb : List Nat) (part : Bool) (f : Nat)
    (hf : f ∈ selectedNd M block nb part) : f < prodL nb := by
  simp only [selectedNd, List.mem_filter, List.mem_range] at hf
  exact hf.1

theorem inSelectedNd_eq_true (block nb idx c : List Nat) :
    inSelectedNd block nb idx c = true ↔ ltAll (divL c block) nb = true ∧ ravel nb (divL c block) ∈ idx := by
  simp only [inSelectedNd, Bool.and_eq_true, List.contains_iff_mem]

/-- the hypotheses under which `phiNd block nb idx nidx` is a bijection of the box `N` (working shape `N`, block grid
`nb`).  The grid shape `nb` is a parameter tied by `hnb`, and not `divL N block` itself, because the statements that use
the bundle name it (`nBlocksL p.N block`) -/
structure GeoNd (block nb N idx nidx : List Nat) : Prop where
  hpos : ∀ v ∈ block, 0 < v
  hlenN : N.length = block.length
  hnb : nb = divL N block
  hp : nidx.Perm idx
  hnd : idx.Nodup
  hlt : ∀ f ∈ idx, f < prodL nb

section phiNd
variable {block nb N idx nidx : List Nat}

theorem GeoNd.nb_length (G : GeoNd block nb N idx nidx) : nb.length = block.length := by
  rw [G.hnb, length_divL, G.hlenN, Nat.min_self]

theorem phiNd_valid (c : List Nat) (h : ltAll (divL c block) nb = true) :
    phiNd block nb idx nidx c
      = recomb (unravel nb (src idx nidx (ravel nb (divL c block)))) block (modL c block) := by
  unfold phiNd; rw [if_pos h]

theorem phiNd_invalid (c : List Nat) (h : ¬ ltAll (divL c block) nb = true) :
    phiNd block nb idx nidx c = c := by
  unfold phiNd; rw [if_neg h]

theorem phiNd_div_mod (G : GeoNd block nb N idx nidx) (c : List Nat) (hc : c.length = block.length)
    (h : ltAll (divL c block) nb = true) :
    divL (phiNd block nb idx nidx c) block = unravel nb (src idx nidx (ravel nb (divL c block))) ∧
    modL (phiNd block nb idx nidx c) block = modL c block := by
  rw [phiNd_valid c h]
  exact div_mod_recomb _ _ _ (by rw [unravel_length, G.nb_length]) (modL_lt c block hc G.hpos)

theorem phiNd_block (hnb : nb.length = block.length) (F : Nat) (hF : F < prodL nb) (o : List Nat)
    (ho : ltAll o block = true) :
    phiNd block nb idx nidx (recomb (unravel nb F) block o) = recomb (unravel nb (src idx nidx F)) block o := by
  have hul : (unravel nb F).length = block.length := by rw [unravel_length, hnb]
  obtain ⟨hd, hm⟩ := div_mod_recomb _ _ _ hul ho
  rw [phiNd_valid _ (by rw [hd]; exact unravel_lt _ _ hF), hd, hm, ravel_unravel _ _ hF]

theorem phiNd_in_box (G : GeoNd block nb N idx nidx) (c : List Nat) (hc : ltAll c N = true) :
    ltAll (phiNd block nb idx nidx c) N = true := by
  have hcl : c.length = block.length := (ltAll_length hc).trans G.hlenN
  by_cases h : ltAll (divL c block) nb = true
  · rw [phiNd_valid c h]
    refine recomb_lt _ _ _ _ G.hlenN ?_ (modL_lt c block hcl G.hpos)
    rw [← G.hnb]
    exact unravel_lt _ _ (src_lt idx nidx G.hp _ G.hlt _ (ravel_lt _ _ h))
  · rw [phiNd_invalid c h]; exact hc

theorem phiNd_eq_self (c : List Nat) (hc : c.length = block.length)
    (h : ltAll (divL c block) nb = true → src idx nidx (ravel nb (divL c block)) = ravel nb (divL c block)) :
    phiNd block nb idx nidx c = c := by
  by_cases hv : ltAll (divL c block) nb = true
  · rw [phiNd_valid c hv, h hv, unravel_ravel _ _ hv]
    exact recomb_div_mod c block hc
  · exact phiNd_invalid c hv

theorem phiNd_fix (c : List Nat) (hc : c.length = block.length) (h : inSelectedNd block nb idx c = false) :
    phiNd block nb idx nidx c = c :=
  phiNd_eq_self c hc (fun hv => src_of_not_mem idx nidx _
    (fun hm => Bool.eq_false_iff.mp h ((inSelectedNd_eq_true _ _ _ _).mpr ⟨hv, hm⟩)))

theorem phiNd_self (c : List Nat) (hc : c.length = block.length) : phiNd block nb idx idx c = c :=
  phiNd_eq_self c hc (fun _ => src_self idx _)

theorem phiNd_phiNd (G : GeoNd block nb N idx nidx) (c : List Nat) (hc : c.length = block.length) :
    phiNd block nb nidx idx (phiNd block nb idx nidx c) = c := by
  by_cases hv : ltAll (divL c block) nb = true
  · obtain ⟨hd, hm⟩ := phiNd_div_mod G c hc hv
    have hs := src_lt idx nidx G.hp _ G.hlt _ (ravel_lt _ _ hv)
    rw [phiNd_valid (phiNd block nb idx nidx c) (by rw [hd]; exact unravel_lt _ _ hs), hd, hm,
      ravel_unravel _ _ hs, src_src idx nidx G.hp G.hnd, unravel_ravel _ _ hv]
    exact recomb_div_mod c block hc
  · rw [phiNd_invalid c hv, phiNd_invalid c hv]

theorem phiNd_inj (G : GeoNd block nb N idx nidx) (c c' : List Nat) (hc : c.length = block.length)
    (hc' : c'.length = block.length)
    (h : phiNd block nb idx nidx c = phiNd block nb idx nidx c') : c = c' := by
  rw [← phiNd_phiNd G c hc, h, phiNd_phiNd G c' hc']

end phiNd

theorem map_perm_of_inj {α} (l : List α) (f : α → α) (hnd : l.Nodup)
    (hmap : ∀ a ∈ l, f a ∈ l) (hinj : ∀ a ∈ l, ∀ b ∈ l, f a = f b → a = b) : (l.map f).Perm l := by
  have h1 : (l.map f).Nodup := hnd.map_on hinj
  have h2 : l.map f ⊆ l := by
    intro a ha
    rw [List.mem_map] at ha
    obtain ⟨b, hb, rfl⟩ := ha
    exact hmap b hb
  exact (List.subperm_of_subset h1 h2).perm_of_length_le (by simp)

theorem conserved_working_nd {α} (X : List Nat → α) {block nb N idx nidx : List Nat}
    (G : GeoNd block nb N idx nidx) :
    ((coords N).map (fun c => X (phiNd block nb idx nidx c))).Perm ((coords N).map X) := by
  have hperm := map_perm_of_inj (coords N) (phiNd block nb idx nidx) (coords_nodup N)
    (by
      intro c hc
      rw [mem_coords] at hc ⊢
      exact phiNd_in_box G c hc)
    (by
      intro c hc c' hc' h
      rw [mem_coords] at hc hc'
      exact phiNd_inj G c c' ((ltAll_length hc).trans G.hlenN) ((ltAll_length hc').trans G.hlenN) h)
  have := hperm.map X
  rwa [List.map_map] at this

theorem zipWith_edge_of_ltAll (shape c : List Nat) (h : ltAll c shape = true) : List.zipWith edge shape c = c := by
  induction c, shape, h using ltAll_induction with
  | nil => rfl
  | cons a n as ns _ han _ ih =>
    rw [List.zipWith_cons_cons, ih, edge_of_lt han]

theorem padExt_list_of_multiple (shape block : List Nat) (hlen : block.length = shape.length)
    (h : (List.zipWith (fun s b => s % b == 0) shape block).all id = true) :
    List.zipWith padExt shape block = shape := by
  induction shape generalizing block with
  | nil => cases block <;> rfl
  | cons s ss ih => cases block with
    | nil => cases hlen
    | cons b bs =>
      rw [List.zipWith_cons_cons, List.all_cons, Bool.and_eq_true, id, beq_iff_eq] at h
      rw [List.zipWith_cons_cons, padExt_of_multiple _ _ h.1, ih bs (Nat.succ.inj hlen) h.2]

theorem prepareNd_N_of_applies {α} (x : NdImg α) (mask : List Nat → Bool) (block : List Nat) (padMode : Bool)
    (hlen : block.length = x.shape.length) (happ : conservedAppliesNd x block padMode = true) :
    (prepareNd x mask block padMode).N = x.shape := by
  cases padMode with
  | false => rfl
  | true => exact padExt_list_of_multiple _ _ hlen happ

theorem foldl_cutAxis (L : List (Nat × Nat)) (mask : List Nat → Bool) :
    (L.map (fun tk => cutAxis tk.2 tk.1)).foldl (fun M cut => cut M) mask
      = fun c => mask c && L.all (fun tk => decide (c.getD tk.2 0 < tk.1)) := by
  induction L generalizing mask with
  | nil => funext c; rw [List.all_nil, Bool.and_true]; rfl
  | cons tk L ih =>
    rw [List.map_cons, List.foldl_cons, ih]
    funext c
    rw [List.all_cons, ← Bool.and_assoc]
    rfl

section callNd
variable {α : Type} (x : NdImg α) (mask : List Nat → Bool) (block : List Nat) (padMode part : Bool) (nidx : List Nat)

theorem prepareNd_N_length (hlen : block.length = x.shape.length) : (prepareNd x mask block padMode).N.length = block.length := by
  cases padMode <;> simp [prepareNd, hlen]

theorem nBlocksL_length (hlen : block.length = x.shape.length) :
    (nBlocksL (prepareNd x mask block padMode).N block).length = block.length := by
  rw [nBlocksL, length_divL, prepareNd_N_length x mask block padMode hlen, Nat.min_self]

theorem geoNd_of_call (hlen : block.length = x.shape.length) (hpos : ∀ v ∈ block, 0 < v)
    (hp : nidx.Perm (shuffleIdxNd x mask block padMode part)) :
    GeoNd block (nBlocksL (prepareNd x mask block padMode).N block) (prepareNd x mask block padMode).N
      (shuffleIdxNd x mask block padMode part) nidx :=
  { hpos := hpos, hlenN := prepareNd_N_length x mask block padMode hlen, hnb := rfl, hp := hp,
    hnd := List.Nodup.filter _ List.nodup_range, hlt := fun f hf => selectedNd_lt _ _ _ _ f hf }

theorem shuffleBlocksNd_get (c : List Nat) :
    (shuffleBlocksNd x mask block padMode part nidx).get c
      = (prepareNd x mask block padMode).X (phiNd block (nBlocksL (prepareNd x mask block padMode).N block)
          (shuffleIdxNd x mask block padMode part) nidx c) := rfl

theorem shuffleBlocksLayoutNd_get (aliases : Bool) (c : List Nat) :
    (shuffleBlocksLayoutNd aliases x mask block padMode part nidx).get c
      = (prepareNd x mask block padMode).X (phiNd block (nBlocksL (prepareNd x mask block padMode).N block)
          (shuffleIdxNd x mask block padMode part)
          (if aliases then nidx else shuffleIdxNd x mask block padMode part) c) := rfl

theorem prepareNd_X (c : List Nat) (h : ltAll c x.shape = true) : (prepareNd x mask block padMode).X c = x.get c := by
  cases padMode with
  | false => rfl
  | true => simp [prepareNd, zipWith_edge_of_ltAll _ _ h]

theorem foldl_trimCutsNd :
    (trimCutsNd x.shape block).foldl (fun M cut => cut M) mask = (prepareNd x mask block false).M := by
  unfold trimCutsNd
  rw [foldl_cutAxis]
  rfl

theorem shuffleCallNd_ret (copies aliases : Bool) :
    (shuffleCallNd copies aliases x mask block padMode part nidx).ret
      = shuffleBlocksLayoutNd aliases x mask block padMode part nidx := by
  cases padMode with
  | true => rfl
  | false =>
    have h := (inplaceMask_read copies (trimCutsNd x.shape block) mask).trans (foldl_trimCutsNd x mask block)
    simp only [shuffleCallNd, Bool.false_eq_true, if_false, h]
    rfl

theorem shuffleCallNd_xAfter (copies aliases : Bool) :
    (shuffleCallNd copies aliases x mask block padMode part nidx).xAfter
      = if padMode then x else (shuffleCallNd copies aliases x mask block padMode part nidx).ret := by
  cases padMode <;> rfl

theorem shuffleCallNd_maskAfter_copies (aliases : Bool) :
    (shuffleCallNd true aliases x mask block padMode part nidx).maskAfter = mask := by
  cases padMode with
  | true => rfl
  | false => exact inplaceMask_frame _ mask

end callNd

theorem shuffleIdxNd_shape {α β} (x : NdImg α) (y : NdImg β) (mask : List Nat → Bool) (block : List Nat)
    (padMode part : Bool) (h : x.shape = y.shape) :
    shuffleIdxNd x mask block padMode part = shuffleIdxNd y mask block padMode part := by
  unfold shuffleIdxNd prepareNd
  cases padMode <;> simp [h]

section specNd
variable (x out : NdImg Rat) (mask : List Nat → Bool) (block : List Nat) (padMode part : Bool)

theorem specOutsideNd_iff :
    specOutsideNd x out mask block padMode part = true ↔
      ∀ c, ltAll c x.shape = true →
        inSelectedNd block (nBlocksL (prepareNd x mask block padMode).N block)
          (shuffleIdxNd x mask block padMode part) c = false → out.get c = x.get c := by
  unfold specOutsideNd
  simp only [List.all_eq_true, mem_coords, Bool.or_eq_true, decide_eq_true_eq]
  exact forall₂_congr (fun _ _ => eq_true_or_iff _ _)

theorem specBlocksNd_iff :
    specBlocksNd x out mask block padMode part = true ↔
      ∀ f ∈ shuffleIdxNd x mask block padMode part, ∃ g ∈ shuffleIdxNd x mask block padMode part,
        ∀ o, ltAll o block = true →
          ltAll (recomb (unravel (nBlocksL (prepareNd x mask block padMode).N block) f) block o) x.shape = true →
          out.get (recomb (unravel (nBlocksL (prepareNd x mask block padMode).N block) f) block o)
            = (prepareNd x mask block padMode).X
                (recomb (unravel (nBlocksL (prepareNd x mask block padMode).N block) g) block o) := by
  unfold specBlocksNd
  simp only [List.all_eq_true, List.any_eq_true, mem_coords, not_or_eq_true, decide_eq_true_eq]
  exact Iff.rfl
end specNd

/-! ### the 2-D model is the n-D model on shapes `[n0, n1]` -/

theorem ltAll_two (i j a b : Nat) : ltAll [i, j] [a, b] = true ↔ i < a ∧ j < b := by
  simp only [ltAll, Bool.and_true, Bool.and_eq_true, decide_eq_true_eq]

theorem ravel_two (a b i j : Nat) : ravel [a, b] [i, j] = i * b + j := by
  simp only [ravel, prodL, Nat.mul_one, Nat.add_zero]

theorem unravel_two (a b f : Nat) : unravel [a, b] f = [f / b, f % b] := by
  simp only [unravel, prodL, Nat.mul_one, Nat.div_one]

theorem coords_two (a b : Nat) : coords [a, b] = (pixels a b).map (fun q => [q.1, q.2]) := by
  have h1 : ∀ l : List Nat, l.flatMap (fun i => [[i]]) = l.map (fun i => [i]) := by
    intro l; induction l with
    | nil => rfl
    | cons a l ih => simp [ih]
  simp [coords, pixels, h1, List.map_flatMap, Function.comp_def]

theorem pixels_nodup (n0 n1 : Nat) : (pixels n0 n1).Nodup := by
  have := coords_nodup [n0, n1]
  rw [coords_two] at this
  exact this.of_map _

theorem blockMaskNd_two (M : List Nat → Bool) (M2 : Nat → Nat → Bool) (h : ∀ i j, M [i, j] = M2 i j)
    (b0 b1 : Nat) (part : Bool) (B0 B1 : Nat) :
    blockMaskNd M [b0, b1] part [B0, B1] = blockMask M2 b0 b1 part B0 B1 := by
  have : blockCellsNd M [b0, b1] [B0, B1] = blockCells M2 b0 b1 B0 B1 := by
    simp [blockCellsNd, blockCells, coords_two, pixels, List.map_flatMap, recomb, Function.comp_def, h]
  simp [blockMaskNd, blockMask, this]

theorem selectedNd_two (M : List Nat → Bool) (M2 : Nat → Nat → Bool) (h : ∀ i j, M [i, j] = M2 i j)
    (b0 b1 nb0 nb1 : Nat) (part : Bool) :
    selectedNd M [b0, b1] [nb0, nb1] part = selected M2 b0 b1 nb0 nb1 part := by
  simp only [selectedNd, selected, unravel_two, blockMaskNd_two M M2 h, prodL, Nat.mul_one]

theorem phiNd_two (b0 b1 nb0 nb1 : Nat) (idx nidx : List Nat) (i j : Nat) :
    phiNd [b0, b1] [nb0, nb1] idx nidx [i, j]
      = [(phi b0 b1 nb0 nb1 idx nidx i j).1, (phi b0 b1 nb0 nb1 idx nidx i j).2] := by
  by_cases h : i / b0 < nb0 ∧ j / b1 < nb1
  · rw [phi_valid i j h.1 h.2, phiNd_valid (block := [b0, b1]) [i, j] ((ltAll_two _ _ _ _).mpr h)]
    show recomb (unravel [nb0, nb1] (src idx nidx (ravel [nb0, nb1] [i / b0, j / b1]))) [b0, b1] [i % b0, j % b1] = _
    rw [ravel_two, unravel_two]
    rfl
  · rw [phi_invalid i j h, phiNd_invalid (block := [b0, b1]) [i, j] (fun hv => h ((ltAll_two _ _ _ _).mp hv))]

theorem nBlocksL_two (N0 N1 b0 b1 : Nat) : nBlocksL [N0, N1] [b0, b1] = [nBlocks N0 b0, nBlocks N1 b1] := rfl

theorem pos_two {b0 b1 : Nat} (hb0 : 0 < b0) (hb1 : 0 < b1) : ∀ v ∈ [b0, b1], 0 < v :=
  List.forall_mem_cons.mpr ⟨hb0, List.forall_mem_cons.mpr ⟨hb1, fun _ h => nomatch h⟩⟩

section two
variable {α : Type} (x : Img α) (mask : Nat → Nat → Bool) (b0 b1 : Nat) (padMode part : Bool) (nidx : List Nat)

theorem prepareNd_two_N :
    (prepareNd x.toNd (maskToNd mask) [b0, b1] padMode).N
      = [(prepare x mask b0 b1 padMode).N0, (prepare x mask b0 b1 padMode).N1] := by
  cases padMode <;> rfl

theorem prepareNd_two_X (i j : Nat) :
    (prepareNd x.toNd (maskToNd mask) [b0, b1] padMode).X [i, j] = (prepare x mask b0 b1 padMode).X i j := by
  cases padMode <;> rfl

theorem prepareNd_two_M (i j : Nat) :
    (prepareNd x.toNd (maskToNd mask) [b0, b1] padMode).M [i, j] = (prepare x mask b0 b1 padMode).M i j := by
  cases padMode with
  | true => rfl
  | false =>
    -- `inTrim` runs over the list of axes and ends in `&& true`
    show (mask i j && (decide (i < _) && (decide (j < _) && true))) = (mask i j && decide (i < _) && decide (j < _))
    rw [Bool.and_true, Bool.and_assoc]

theorem shuffleIdxNd_two :
    shuffleIdxNd x.toNd (maskToNd mask) [b0, b1] padMode part = shuffleIdx x mask b0 b1 padMode part := by
  unfold shuffleIdxNd shuffleIdx
  simp only [prepareNd_two_N, nBlocksL_two]
  exact selectedNd_two _ _ (prepareNd_two_M x mask b0 b1 padMode) _ _ _ _ _

theorem conservedAppliesNd_two :
    conservedAppliesNd x.toNd [b0, b1] padMode = conservedApplies x b0 b1 padMode := by
  show (!padMode || (x.n0 % b0 == 0 && (x.n1 % b1 == 0 && true))) = _
  rw [Bool.and_true]
  rfl

end two

theorem shuffleIdx_shape {α β} (x : Img α) (y : Img β) (mask : Nat → Nat → Bool) (b0 b1 : Nat)
    (padMode part : Bool) (h0 : x.n0 = y.n0) (h1 : x.n1 = y.n1) :
    shuffleIdx x mask b0 b1 padMode part = shuffleIdx y mask b0 b1 padMode part := by
  rw [← shuffleIdxNd_two x, ← shuffleIdxNd_two y]
  exact shuffleIdxNd_shape _ _ _ _ _ _ (by rw [Img.toNd, Img.toNd, h0, h1])

section phi
variable {b0 b1 nb0 nb1 N0 N1 : Nat} {idx nidx : List Nat}

theorem phi_inj (G : GeoNd [b0, b1] [nb0, nb1] [N0, N1] idx nidx) (i j i' j' : Nat)
    (h : phi b0 b1 nb0 nb1 idx nidx i j = phi b0 b1 nb0 nb1 idx nidx i' j') : (i, j) = (i', j') := by
  have := phiNd_inj G [i, j] [i', j'] rfl rfl (by rw [phiNd_two, phiNd_two, h])
  injection this with hi t
  injection t with hj _
  rw [hi, hj]

end phi

end Pew.Colocal
