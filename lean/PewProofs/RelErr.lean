import Mathlib.Algebra.Order.Field.Rat
import Mathlib.Algebra.Order.Field.Power
import Mathlib.Algebra.Order.Ring.Abs
import Mathlib.Tactic.Linarith
import Mathlib.Tactic.Ring

/-! Errors of roundings in a row, about rational variables only (no model, no float format): one more rounding on top
of an error already made; relative errors under multiplication and division; `2 ^ k` for an integer `k` as the models
write it. -/
namespace Pew

/-- `y` is off `x` by at most `d`, and `z` is `y` rounded (relative error `u`, absolute error `η`) -/
theorem abs_rounded_sub_le {x y z d u η : Rat} (hu : 0 ≤ u) (h1 : |y - x| ≤ d) (h2 : |z - y| ≤ u * |y| + η) :
    |z - x| ≤ u * (|x| + d) + η + d := by
  have hy : |y| ≤ |x| + d := by linarith [abs_sub_abs_le_abs_sub y x]
  linarith [abs_sub_le z y x, mul_le_mul_of_nonneg_left hy hu]

/-- both errors relative to a bound `e` of `|x|`: the factors compose as `(1 + α) (1 + β) - 1` -/
theorem relerr_comp {x y z e α β : Rat} (hβ : 0 ≤ β) (hx : |x| ≤ e) (h1 : |y - x| ≤ α * e) (h2 : |z - y| ≤ β * |y|) :
    |z - x| ≤ (α + β + α * β) * e := by
  have h := abs_rounded_sub_le (η := 0) hβ h1 (by rwa [add_zero])
  have := mul_le_mul_of_nonneg_left hx hβ
  linarith

theorem relerr_mul {x y a : Rat} (s : Rat) (h : |y - x| ≤ |x| / a) : |y * s - x * s| ≤ |x * s| / a := by
  rw [← sub_mul, abs_mul, abs_mul, ← div_mul_eq_mul_div]
  exact mul_le_mul_of_nonneg_right h (abs_nonneg s)

theorem relerr_div {x y a s : Rat} (hs : s ≠ 0) (h : |y - x * s| ≤ |x * s| / a) : |y / s - x| ≤ |x| / a := by
  have := relerr_mul s⁻¹ h
  rwa [mul_inv_cancel_right₀ hs, ← div_eq_mul_inv] at this

/-- `e` is `|x|` or a bound of it; `hc` is `(1 + 1/a) (1 + 1/b) - 1 ≤ 1/c` -/
theorem relerr_trans {x y z e a b c : Rat} (hb : 0 < b) (hx : |x| ≤ e) (h1 : |y - x| ≤ e / a)
    (h2 : |z - y| ≤ |y| / b) (hc : 1 / a + 1 / b + 1 / (a * b) ≤ 1 / c) : |z - x| ≤ e / c := by
  rw [← one_div_mul_eq_div] at h1 h2 ⊢
  rw [← one_div_mul_one_div] at hc
  exact (relerr_comp (one_div_nonneg.mpr hb.le) hx h1 h2).trans
    (mul_le_mul_of_nonneg_right hc ((abs_nonneg x).trans hx))

/-- `2 ^ k` for an integer `k` as `Pew.scale2` and `Pew.Otsu.pow2` write it -/
theorem natPow_ite_eq_zpow (k : Int) :
    (if 0 ≤ k then ((2 ^ k.toNat : Nat) : Rat) else 1 / ((2 ^ (-k).toNat : Nat) : Rat)) = (2 : ℚ) ^ k := by
  have e : ∀ n : Nat, ((2 ^ n : ℕ) : ℚ) = (2 : ℚ) ^ (n : ℤ) := fun n => by rw [Nat.cast_pow, Nat.cast_ofNat, zpow_natCast]
  split
  · rename_i h
    rw [e, Int.toNat_of_nonneg h]
  · rw [e, Int.toNat_of_nonneg (by omega), zpow_neg, one_div, inv_inv]

end Pew
