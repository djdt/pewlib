import PewModel.Colocal
import PewProofs.SortKey
import PewProofs.Lists
import Mathlib.Algebra.Order.Ring.Rat
import Mathlib.Data.List.Nodup

/-! Block shuffling, 2-D.  Everything rests on `src idx nidx`, the permutation of flat block indices that
`blocks[idx] = blocks[nidx]` performs: the pixel map `phi` moves a pixel by moving its block along `src`, the
specification relations say (as Props, through `BlockEq`) that an output follows `src`, and the call and the loop add
who owns which buffer. -/
namespace Pew.Colocal

section src
variable (idx nidx : List Nat)

theorem src_of_not_mem (f : Nat) (hf : f ∉ idx) : src idx nidx f = f := by
  unfold src
  rw [if_neg]
  rw [List.idxOf_lt_length_iff]; exact hf

theorem src_of_mem (hl : nidx.length = idx.length) (f : Nat) (hf : f ∈ idx) :
    ∃ (h : idx.idxOf f < nidx.length), src idx nidx f = nidx[idx.idxOf f] := by
  have h1 : idx.idxOf f < idx.length := List.idxOf_lt_length_iff.mpr hf
  have h2 : idx.idxOf f < nidx.length := by rw [hl]; exact h1
  refine ⟨h2, ?_⟩
  unfold src
  rw [if_pos h1, List.getD_eq_getElem?_getD, List.getElem?_eq_getElem h2]
  rfl

theorem src_mem (hp : nidx.Perm idx) (f : Nat) (hf : f ∈ idx) : src idx nidx f ∈ idx := by
  obtain ⟨h, e⟩ := src_of_mem idx nidx hp.length_eq f hf
  rw [e]
  exact hp.mem_iff.mp (List.getElem_mem h)

theorem src_mem_iff (hp : nidx.Perm idx) (f : Nat) : src idx nidx f ∈ idx ↔ f ∈ idx := by
  constructor
  · intro h
    by_contra hf
    rw [src_of_not_mem idx nidx f hf] at h
    exact hf h
  · exact src_mem idx nidx hp f

theorem src_self (f : Nat) : src idx idx f = f := by
  unfold src
  split
  · rename_i hlt
    rw [List.getD_eq_getElem?_getD, List.getElem?_eq_getElem hlt]
    exact List.getElem_idxOf hlt
  · rfl

theorem src_lt (hp : nidx.Perm idx) (K : Nat) (hK : ∀ f ∈ idx, f < K) (f : Nat) (hf : f < K) :
    src idx nidx f < K := by
  by_cases h : f ∈ idx
  · exact hK _ (src_mem idx nidx hp f h)
  · rw [src_of_not_mem idx nidx f h]; exact hf

theorem src_getElem (hnd : idx.Nodup) (k : Nat) (h1 : k < idx.length) (h2 : k < nidx.length) :
    src idx nidx idx[k] = nidx[k] := by
  unfold src
  rw [hnd.idxOf_getElem k h1, if_pos h1, List.getD_eq_getElem?_getD, List.getElem?_eq_getElem h2]
  rfl

/-- `blocks[nidx] = blocks[idx]` undoes `blocks[idx] = blocks[nidx]` -/
theorem src_src (hp : nidx.Perm idx) (hnd : idx.Nodup) (f : Nat) : src nidx idx (src idx nidx f) = f := by
  by_cases hf : f ∈ idx
  · obtain ⟨k, hk, rfl⟩ := List.mem_iff_getElem.mp hf
    have hk' : k < nidx.length := hp.length_eq ▸ hk
    rw [src_getElem idx nidx hnd k hk hk', src_getElem nidx idx (hp.nodup_iff.mpr hnd) k hk' hk]
  · rw [src_of_not_mem idx nidx f hf, src_of_not_mem nidx idx f (mt hp.mem_iff.mp hf)]

theorem zip_eq_map_src (hl : nidx.length = idx.length) (hnd : idx.Nodup) :
    idx.zip nidx = idx.map (fun f => (f, src idx nidx f)) := by
  apply List.ext_getElem
  · simp [hl]
  · intro k h1 h2
    rw [List.length_zip, Nat.lt_min] at h1
    rw [List.getElem_zip, List.getElem_map, src_getElem idx nidx hnd k h1.1 h1.2]

theorem map_src_eq (hp : nidx.Perm idx) (hnd : idx.Nodup) {β : Type} (k : Nat → β) :
    idx.map (fun f => k (src idx nidx f)) = nidx.map k := by
  have h := congrArg (fun l : List (Nat × Nat) => (l.map Prod.snd).map k) (zip_eq_map_src idx nidx hp.length_eq hnd)
  simp only [List.map_snd_zip (Nat.le_of_eq hp.length_eq), List.map_map] at h
  exact h.symm

end src

theorem blk_div (q b r : Nat) (hr : r < b) : (q * b + r) / b = q := by
  have hb : 0 < b := by omega
  rw [Nat.mul_comm, Nat.mul_add_div hb, Nat.div_eq_of_lt hr, Nat.add_zero]

theorem pos_of_lt_nBlocks {q N b : Nat} (h : q < nBlocks N b) : 0 < b :=
  Nat.pos_of_ne_zero (fun hb => by rw [hb, nBlocks, Nat.div_zero] at h; exact Nat.not_lt_zero _ h)

theorem inSelected_eq_true (b0 b1 nb0 nb1 : Nat) (idx : List Nat) (i j : Nat) :
    inSelected b0 b1 nb0 nb1 idx i j = true ↔ (i / b0 < nb0 ∧ j / b1 < nb1) ∧ i / b0 * nb1 + j / b1 ∈ idx := by
  simp only [inSelected, Bool.and_eq_true, decide_eq_true_eq, List.contains_iff_mem]

section phi
variable {b0 b1 nb0 nb1 : Nat} {idx nidx : List Nat}

theorem phi_valid (i j : Nat) (h0 : i / b0 < nb0) (h1 : j / b1 < nb1) :
    phi b0 b1 nb0 nb1 idx nidx i j
      = (src idx nidx (i / b0 * nb1 + j / b1) / nb1 * b0 + i % b0,
         src idx nidx (i / b0 * nb1 + j / b1) % nb1 * b1 + j % b1) := by
  unfold phi
  rw [if_pos ⟨h0, h1⟩]

theorem phi_invalid (i j : Nat) (h : ¬ (i / b0 < nb0 ∧ j / b1 < nb1)) :
    phi b0 b1 nb0 nb1 idx nidx i j = (i, j) := by
  unfold phi
  rw [if_neg h]

theorem phi_block (F o0 o1 : Nat) (hF : F < nb0 * nb1) (h0 : o0 < b0) (h1 : o1 < b1) :
    phi b0 b1 nb0 nb1 idx nidx (F / nb1 * b0 + o0) (F % nb1 * b1 + o1)
      = (src idx nidx F / nb1 * b0 + o0, src idx nidx F % nb1 * b1 + o1) := by
  have hnb1 : 0 < nb1 := Nat.pos_of_lt_mul_left hF
  rw [phi_valid _ _ (by rw [blk_div _ _ _ h0]; exact (Nat.div_lt_iff_lt_mul hnb1).mpr hF)
      (by rw [blk_div _ _ _ h1]; exact Nat.mod_lt _ hnb1),
    blk_div _ _ _ h0, blk_div _ _ _ h1, Nat.mul_add_mod_of_lt h0, Nat.mul_add_mod_of_lt h1, Nat.div_add_mod']

theorem phi_eq_self (i j : Nat)
    (h : i / b0 < nb0 → j / b1 < nb1 → src idx nidx (i / b0 * nb1 + j / b1) = i / b0 * nb1 + j / b1) :
    phi b0 b1 nb0 nb1 idx nidx i j = (i, j) := by
  by_cases hv : i / b0 < nb0 ∧ j / b1 < nb1
  · rw [phi_valid i j hv.1 hv.2, h hv.1 hv.2, blk_div _ _ _ hv.2, Nat.mul_add_mod_of_lt hv.2, Nat.div_add_mod', Nat.div_add_mod']
  · exact phi_invalid i j hv

theorem phi_fix (i j : Nat) (h : inSelected b0 b1 nb0 nb1 idx i j = false) :
    phi b0 b1 nb0 nb1 idx nidx i j = (i, j) :=
  phi_eq_self i j (fun h0 h1 => src_of_not_mem idx nidx _
    (fun hm => Bool.eq_false_iff.mp h ((inSelected_eq_true _ _ _ _ _ _ _).mpr ⟨⟨h0, h1⟩, hm⟩)))

theorem phi_self (i j : Nat) : phi b0 b1 nb0 nb1 idx idx i j = (i, j) :=
  phi_eq_self i j (fun _ _ => src_self idx _)

end phi

theorem Mem.read_write {μ} (m : Mem μ) (r : Ref) (v : μ) : (m.write r v).read r = v := by
  cases r <;> rfl

theorem foldl_write_read {μ} (r : Ref) (cuts : List (μ → μ)) (mem : Mem μ) :
    (cuts.foldl (fun m cut => m.write r (cut (m.read r))) mem).read r
      = cuts.foldl (fun M cut => cut M) (mem.read r) := by
  induction cuts generalizing mem with
  | nil => rfl
  | cons c cs ih => rw [List.foldl_cons, List.foldl_cons, ih, Mem.read_write]

theorem foldl_write_caller_of_copy {μ} (cuts : List (μ → μ)) (mem : Mem μ) :
    (cuts.foldl (fun m cut => m.write .copy (cut (m.read .copy))) mem).caller = mem.caller := by
  induction cuts generalizing mem with
  | nil => rfl
  | cons c cs ih => rw [List.foldl_cons, ih]; rfl

theorem inplaceMask_read {μ} (copies : Bool) (cuts : List (μ → μ)) (m : μ) :
    (inplaceMask copies cuts { caller := m }).2.read (inplaceMask copies cuts { caller := m }).1
      = cuts.foldl (fun M cut => cut M) m := by
  cases copies with
  | true => exact foldl_write_read .copy cuts _
  | false => exact foldl_write_read .caller cuts _

theorem inplaceMask_frame {μ} (cuts : List (μ → μ)) (m : μ) :
    (inplaceMask true cuts { caller := m }).2.caller = m :=
  foldl_write_caller_of_copy cuts _

theorem inplaceMask_without_copy {μ} (cuts : List (μ → μ)) (m : μ) :
    (inplaceMask false cuts { caller := m }).2.caller = cuts.foldl (fun M cut => cut M) m :=
  foldl_write_read .caller cuts _

theorem padExt_multiple (s b : Nat) (hb : 0 < b) : padExt s b % b = 0 := by
  rw [padExt, Nat.add_mod_mod, ← Nat.mod_add_mod, Nat.add_sub_cancel' (Nat.mod_lt s hb).le, Nat.mod_self]

theorem padExt_of_multiple (s b : Nat) (h : s % b = 0) : padExt s b = s := by
  unfold padExt
  rw [h, Nat.sub_zero, Nat.mod_self, Nat.add_zero]

theorem le_padExt (s b : Nat) : s ≤ padExt s b := by unfold padExt; omega

theorem edge_of_lt {s i : Nat} (h : i < s) : edge s i = i := Nat.min_eq_left (Nat.le_sub_one_of_lt h)

theorem mem_selected (M : Nat → Nat → Bool) (b0 b1 nb0 nb1 : Nat) (part : Bool) (f : Nat) :
    f ∈ selected M b0 b1 nb0 nb1 part ↔ f < nb0 * nb1 ∧ blockMask M b0 b1 part (f / nb1) (f % nb1) = true := by
  simp [selected]

section call
variable {α : Type} (x : Img α) (mask : Nat → Nat → Bool) (b0 b1 : Nat) (padMode part : Bool) (nidx : List Nat)

theorem prepare_X (i j : Nat) (hi : i < x.n0) (hj : j < x.n1) : (prepare x mask b0 b1 padMode).X i j = x.get i j := by
  cases padMode with
  | false => rfl
  | true =>
    show x.get (edge x.n0 i) (edge x.n1 j) = _
    rw [edge_of_lt hi, edge_of_lt hj]

theorem shuffleIdx_nodup : (shuffleIdx x mask b0 b1 padMode part).Nodup :=
  List.Nodup.filter _ List.nodup_range

theorem shuffleIdx_lt (f : Nat) (hf : f ∈ shuffleIdx x mask b0 b1 padMode part) :
    f < nBlocks (prepare x mask b0 b1 padMode).N0 b0 * nBlocks (prepare x mask b0 b1 padMode).N1 b1 :=
  ((mem_selected _ _ _ _ _ _ f).mp hf).1

theorem shuffleBlocks_get (i j : Nat) :
    (shuffleBlocks x mask b0 b1 padMode part nidx).get i j
      = (prepare x mask b0 b1 padMode).X
          (phi b0 b1 (nBlocks (prepare x mask b0 b1 padMode).N0 b0) (nBlocks (prepare x mask b0 b1 padMode).N1 b1)
            (shuffleIdx x mask b0 b1 padMode part) nidx i j).1
          (phi b0 b1 (nBlocks (prepare x mask b0 b1 padMode).N0 b0) (nBlocks (prepare x mask b0 b1 padMode).N1 b1)
            (shuffleIdx x mask b0 b1 padMode part) nidx i j).2 := rfl

theorem shuffleBlocksLayout_false :
    shuffleBlocksLayout false x mask b0 b1 padMode part nidx
      = shuffleBlocks x mask b0 b1 padMode part (shuffleIdx x mask b0 b1 padMode part) := rfl

theorem shuffleCall_ret (copies aliases : Bool) :
    (shuffleCall copies aliases x mask b0 b1 padMode part nidx).ret
      = shuffleBlocksLayout aliases x mask b0 b1 padMode part nidx := by
  cases padMode with
  | true => rfl
  | false =>
    have h := inplaceMask_read copies (trimCuts x.n0 x.n1 b0 b1) mask
    simp only [shuffleCall, Bool.false_eq_true, if_false, h]
    -- folding `[cut0 t0, cut1 t1]` over `mask` is, by unfolding, the mask of `prepare … false`
    rfl

theorem shuffleCall_xAfter (copies aliases : Bool) :
    (shuffleCall copies aliases x mask b0 b1 padMode part nidx).xAfter
      = if padMode then x else (shuffleCall copies aliases x mask b0 b1 padMode part nidx).ret := by
  cases padMode <;> rfl

theorem shuffleCall_maskAfter_copies (aliases : Bool) :
    (shuffleCall true aliases x mask b0 b1 padMode part nidx).maskAfter = mask := by
  cases padMode with
  | true => rfl
  | false => exact inplaceMask_frame _ mask

end call

theorem mem_pixels (n0 n1 : Nat) (q : Nat × Nat) : q ∈ pixels n0 n1 ↔ q.1 < n0 ∧ q.2 < n1 := by
  unfold pixels
  simp only [List.mem_flatMap, List.mem_range, List.mem_map]
  constructor
  · rintro ⟨i, hi, j, hj, rfl⟩; exact ⟨hi, hj⟩
  · rintro ⟨h1, h2⟩; exact ⟨q.1, h1, q.2, h2, rfl⟩

theorem not_or_eq_true (a b : Bool) : (!a || b) = true ↔ (a = true → b = true) := by
  cases a <;> simp

theorem eq_true_or_iff (a : Bool) (P : Prop) : a = true ∨ P ↔ (a = false → P) := by
  cases a <;> simp

/-- the part of block `f` of `out` that lies inside `n0 × n1` is the same part of block `g` of `X` -/
def BlockEq {α} (out X : Nat → Nat → α) (b0 b1 nb1 n0 n1 f g : Nat) : Prop :=
  ∀ o0 o1, o0 < b0 → o1 < b1 → f / nb1 * b0 + o0 < n0 → f % nb1 * b1 + o1 < n1 →
    out (f / nb1 * b0 + o0) (f % nb1 * b1 + o1) = X (g / nb1 * b0 + o0) (g % nb1 * b1 + o1)

section spec
variable (x out : Img Rat) (mask : Nat → Nat → Bool) (b0 b1 : Nat) (padMode part : Bool)

theorem specOutside_iff :
    specOutside x out mask b0 b1 padMode part = true ↔
      ∀ i j, i < x.n0 → j < x.n1 →
        inSelected b0 b1 (nBlocks (prepare x mask b0 b1 padMode).N0 b0) (nBlocks (prepare x mask b0 b1 padMode).N1 b1)
          (shuffleIdx x mask b0 b1 padMode part) i j = false → out.get i j = x.get i j := by
  unfold specOutside
  simp only [List.all_eq_true, mem_pixels, Prod.forall, and_imp, Bool.or_eq_true, decide_eq_true_eq]
  exact forall₄_congr (fun _ _ _ _ => eq_true_or_iff _ _)

theorem specBlocks_iff :
    specBlocks x out mask b0 b1 padMode part = true ↔
      ∀ f ∈ shuffleIdx x mask b0 b1 padMode part, ∃ g ∈ shuffleIdx x mask b0 b1 padMode part,
        BlockEq out.get (prepare x mask b0 b1 padMode).X b0 b1 (nBlocks (prepare x mask b0 b1 padMode).N1 b1)
          x.n0 x.n1 f g := by
  unfold specBlocks
  simp only [List.all_eq_true, List.any_eq_true, mem_pixels, not_or_eq_true, Bool.and_eq_true, decide_eq_true_eq,
    Prod.forall, and_imp]
  exact Iff.rfl

theorem specApplied_iff (nidx : List Nat) :
    specApplied x out mask b0 b1 padMode part nidx = true ↔
      nidx.length = (shuffleIdx x mask b0 b1 padMode part).length ∧
      ∀ f ∈ shuffleIdx x mask b0 b1 padMode part,
        BlockEq out.get (prepare x mask b0 b1 padMode).X b0 b1 (nBlocks (prepare x mask b0 b1 padMode).N1 b1)
          x.n0 x.n1 f (src (shuffleIdx x mask b0 b1 padMode part) nidx f) := by
  unfold specApplied
  simp only [Bool.and_eq_true, beq_iff_eq, List.all_eq_true]
  refine and_congr_right (fun hl => ?_)
  rw [zip_eq_map_src _ nidx hl (shuffleIdx_nodup x mask b0 b1 padMode part), List.forall_mem_map]
  simp only [mem_pixels, not_or_eq_true, Bool.and_eq_true, decide_eq_true_eq, Prod.forall, and_imp]
  exact Iff.rfl

end spec

theorem shuffleBlocks_blockEq {α} (x : Img α) (mask : Nat → Nat → Bool) (b0 b1 : Nat) (padMode part : Bool)
    (nidx : List Nat) (n0 n1 f : Nat) (hf : f ∈ shuffleIdx x mask b0 b1 padMode part) :
    BlockEq (shuffleBlocks x mask b0 b1 padMode part nidx).get (prepare x mask b0 b1 padMode).X b0 b1
      (nBlocks (prepare x mask b0 b1 padMode).N1 b1) n0 n1 f (src (shuffleIdx x mask b0 b1 padMode part) nidx f) := by
  intro o0 o1 h0 h1 _ _
  rw [shuffleBlocks_get, phi_block f o0 o1 (shuffleIdx_lt _ _ _ _ _ _ f hf) h0 h1]

/-- what `specConserved` and `specConservedNd` decide -/
theorem sortR_beq_iff (a b : List Rat) : (sortR a == sortR b) = true ↔ a.Perm b := by
  rw [beq_iff_eq]
  refine ⟨fun h => ?_, fun h => SortKey.sortKey_perm_invariant id a b h (fun _ _ _ _ e => e)⟩
  have ha : (sortR a).Perm a := List.mergeSort_perm a _
  rw [h] at ha
  exact ha.symm.trans (List.mergeSort_perm b _)

theorem inSelected_selected (M : Nat → Nat → Bool) (b0 b1 nb0 nb1 : Nat) (part : Bool) (i j : Nat) :
    inSelected b0 b1 nb0 nb1 (selected M b0 b1 nb0 nb1 part) i j
      = (decide (i / b0 < nb0) && decide (j / b1 < nb1) && blockMask M b0 b1 part (i / b0) (j / b1)) := by
  rw [Bool.eq_iff_iff, inSelected_eq_true, mem_selected, Bool.and_eq_true, Bool.and_eq_true, decide_eq_true_eq,
    decide_eq_true_eq]
  refine and_congr_right (fun h => ?_)
  rw [blk_div _ _ _ h.2, Nat.mul_add_mod_of_lt h.2]
  exact and_iff_right (Lists.mul_add_lt h.1 h.2)

theorem lt_visExt (n b F o : Nat) : o < visExt n b F ↔ o < b ∧ F * b + o < n := by
  rw [visExt, Nat.lt_min, Nat.lt_sub_iff_add_lt']

theorem blockKey_eq_iff (out X : Nat → Nat → Rat) (b0 b1 nb1 n0 n1 f g : Nat) :
    blockKey out b0 b1 (visExt n0 b0 (f / nb1)) (visExt n1 b1 (f % nb1)) (f / nb1) (f % nb1)
        = blockKey X b0 b1 (visExt n0 b0 (f / nb1)) (visExt n1 b1 (f % nb1)) (g / nb1) (g % nb1)
      ↔ BlockEq out X b0 b1 nb1 n0 n1 f g := by
  unfold blockKey
  simp only [List.map_inj_left, mem_pixels, lt_visExt, Prod.forall, and_imp]
  exact ⟨fun h o0 o1 h0 h1 hi hj => h o0 o1 h0 hi h1 hj, fun h o0 o1 h0 hi h1 hj => h o0 o1 h0 h1 hi hj⟩

theorem contains_ofList_pairs {κ β γ : Type} [BEq κ] [Hashable κ] [LawfulBEq κ] [BEq β] [Hashable β] [LawfulBEq β]
    (cs : List κ) (l : List γ) (k : κ → γ → β) (v : κ) (hv : v ∈ cs) (a : β) :
    (Std.HashSet.ofList (cs.flatMap (fun v => l.map (fun g => (v, k v g))))).contains (v, a) = true
      ↔ ∃ g ∈ l, a = k v g := by
  rw [Std.HashSet.contains_ofList, List.contains_iff_mem]
  simp only [List.mem_flatMap, List.mem_map, Prod.mk.injEq]
  constructor
  · rintro ⟨w, _, g, hg, rfl, hk⟩
    exact ⟨g, hg, hk.symm⟩
  · rintro ⟨g, hg, hk⟩
    exact ⟨v, hv, g, hg, rfl, hk.symm⟩

theorem masked_eq_filter_map (a : Img Rat) (mask : Nat → Nat → Bool) :
    masked a mask = ((pixels a.n0 a.n1).filter (fun q => mask q.1 q.2)).map (fun q => a.get q.1 q.2) := by
  unfold masked
  generalize pixels a.n0 a.n1 = l
  induction l with
  | nil => rfl
  | cons q l ih =>
    rw [List.filterMap_cons, List.filter_cons]
    cases mask q.1 q.2
    · exact ih
    · exact congrArg (_ :: ·) ih

theorem shuffleSeq_length (y : Img Rat) (mask : Nat → Nat → Bool) (b : Nat) (part : Bool) (sg : List (List Nat)) :
    (shuffleSeq y mask b part sg).length = sg.length := by
  induction sg generalizing y with
  | nil => rfl
  | cons s ss ih => simp [shuffleSeq, ih]

theorem shuffleSeq_forall {P : Img Rat → Prop} (mask : Nat → Nat → Bool) (b : Nat) (part : Bool)
    (sg : List (List Nat)) (y : Img Rat) (h0 : P y)
    (hstep : ∀ y' s, s ∈ sg → P y' → P (shuffleBlocksLayout true y' mask b b false part s)) :
    ∀ yi ∈ shuffleSeq y mask b part sg, P yi := by
  induction sg generalizing y with
  | nil => exact fun _ h => nomatch h
  | cons s ss ih =>
    have h1 := hstep y s List.mem_cons_self h0
    intro yi hyi
    rcases List.mem_cons.mp hyi with rfl | hyi
    · exact h1
    · exact ih _ h1 (fun y' s' hs' => hstep y' s' (List.mem_cons_of_mem _ hs')) yi hyi

theorem loopStep_copy (b : Nat) (part : Bool) (st : LoopState) (a : Img Rat)
    (hs : st.sref = .copy) (hc : st.sC = true) (ha : st.yMem.copy = some a) (s : List Nat) :
    loopStep true b part st s
      = ({ st with yMem := { st.yMem with copy := some (shuffleBlocksLayout true a st.mask b b false part s) } },
         { mask := st.mask, shuffled := shuffleBlocksLayout true a st.mask b b false part s }) := by
  obtain ⟨⟨caller, copy⟩, sref, sC, sF, mask⟩ := st
  subst hs hc ha
  simp only [loopStep, shuffleCall_xAfter, shuffleCall_ret, shuffleCall_maskAfter_copies]
  rfl

/-- The loop as the code runs it (mask copied inside every call, `shuffled` bound to the C-contiguous `y.copy()`):
the rounds read the pure iteration `shuffleSeq` of the copy under the unchanged mask; the mask array and the
caller's `y` are as before. -/
theorem loopRun_spec (b : Nat) (part : Bool) (st : LoopState) (a : Img Rat)
    (hs : st.sref = .copy) (hc : st.sC = true) (ha : st.yMem.copy = some a) (sigmas : List (List Nat)) :
    (loopRun true b part st sigmas).1
        = (shuffleSeq a st.mask b part sigmas).map (fun yi => { mask := st.mask, shuffled := yi }) ∧
    (loopRun true b part st sigmas).2.mask = st.mask ∧
    (loopRun true b part st sigmas).2.yMem.caller = st.yMem.caller := by
  induction sigmas generalizing st a with
  | nil => exact ⟨rfl, rfl, rfl⟩
  | cons s ss ih =>
    simp only [loopRun, loopStep_copy b part st a hs hc ha s]
    obtain ⟨i1, i2, i3⟩ := ih
      { st with yMem := { st.yMem with copy := some (shuffleBlocksLayout true a st.mask b b false part s) } } _
      hs hc rfl
    exact ⟨congrArg _ i1, i2, i3⟩

end Pew.Colocal
