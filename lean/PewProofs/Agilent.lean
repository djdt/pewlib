import PewProofs.AgilentCollect
import PewProofs.AgilentBinary
import PewProofs.AgilentCsv
import Mathlib.Tactic.Linarith
import Mathlib.Tactic.Positivity

/-! C02, whole imports and calls: pixels of an image of one shape (`Uniform`), which column `drop_names` leaves under a
kept name, what a returning specified import is, the entry points with their options in normal form, and the pixelwise
agreement of two images with its rational arithmetic. -/
namespace Pew.Agilent

theorem px_eq_some {β : Type} (img : List (List (List β))) (i j r : Nat) (x : β) :
    px img i j r = some x ↔ ∃ line col, img[i]? = some line ∧ line[j]? = some col ∧ col[r]? = some x := by
  simp only [px, Option.bind_eq_some_iff]
  constructor
  · rintro ⟨col, ⟨line, h1, h2⟩, h3⟩
    exact ⟨line, col, h1, h2, h3⟩
  · rintro ⟨line, col, h1, h2, h3⟩
    exact ⟨col, ⟨line, h1, h2⟩, h3⟩

def Uniform {β : Type} (k R : Nat) (img : List (List (List β))) : Prop :=
  ∀ line ∈ img, line.length = k ∧ ∀ col ∈ line, col.length = R

theorem Uniform.px_lt {β : Type} {k R : Nat} {img : List (List (List β))} (u : Uniform k R img) {i j r : Nat} {x : β}
    (h : px img i j r = some x) : j < k ∧ r < R := by
  obtain ⟨line, col, hl, hc, hx⟩ := (px_eq_some img i j r x).mp h
  obtain ⟨h1, h2⟩ := u line (List.mem_of_getElem? hl)
  exact ⟨h1 ▸ (List.getElem?_eq_some_iff.mp hc).1, h2 col (List.mem_of_getElem? hc) ▸ (List.getElem?_eq_some_iff.mp hx).1⟩

theorem Uniform.sameShape {β : Type} {k R : Nat} {a b : List (List (List β))} (ua : Uniform k R a) (ub : Uniform k R b)
    (present : List Bool) (hab : a.length = b.length) (hp : a.length = present.length) : SameShape present a b := by
  refine ⟨hab, hp, fun i la lb _ hla hlb => ?_⟩
  obtain ⟨a1, a2⟩ := ua la (List.mem_of_getElem? hla)
  obtain ⟨b1, b2⟩ := ub lb (List.mem_of_getElem? hlb)
  exact ⟨a1.trans b1.symm, fun j ca cb hca hcb =>
    (a2 ca (List.mem_of_getElem? hca)).trans (b2 cb (List.mem_of_getElem? hcb)).symm⟩

theorem Uniform.cps {k R : Nat} {im : Image Rat} (u : Uniform k R im.img) (ms : List MassInfo) (hk : ms.length = k) :
    Uniform k R (cps ms im).img := by
  intro line hline
  obtain ⟨l0, hl0, rfl⟩ := List.mem_map.mp hline
  obtain ⟨h1, h2⟩ := u l0 hl0
  refine ⟨by rw [List.length_map, List.length_zip, h1, hk, Nat.min_self], fun col hcol => ?_⟩
  obtain ⟨⟨c0, mj⟩, hz, rfl⟩ := List.mem_map.mp hcol
  rw [List.length_map]
  exact h2 c0 (List.of_mem_zip hz).1

theorem filter_zip_cons {α β : Type} (p : α → Bool) (a : α) (rest : List α) (x : β) (xs : List β) :
    (((a :: rest).zip (x :: xs)).filter (fun q => p q.1)).map (·.2)
      = if p a = true then x :: ((rest.zip xs).filter (fun q => p q.1)).map (·.2)
        else ((rest.zip xs).filter (fun q => p q.1)).map (·.2) := by
  rw [List.zip_cons_cons, List.filter_cons]
  split <;> rfl

theorem filter_zip_getElem? {α : Type} (p : α → Bool) (names : List α) (j' : Nat) (n : α)
    (h : (names.filter p)[j']? = some n) :
    ∃ j : Nat, names[j]? = some n ∧ p n = true ∧
      ∀ {β : Type} (line : List β), (((names.zip line).filter (fun q => p q.1)).map (·.2))[j']? = line[j]? := by
  induction names generalizing j' with
  | nil => cases h
  | cons a rest ih =>
    cases hp : p a with
    | false =>
      rw [List.filter_cons_of_neg (by rw [hp]; exact Bool.false_ne_true)] at h
      obtain ⟨j, h1, h2, h3⟩ := ih j' h
      refine ⟨j + 1, h1, h2, fun line => ?_⟩
      cases line with
      | nil => rfl
      | cons x xs => rw [filter_zip_cons, hp, if_neg Bool.false_ne_true, h3 xs]; rfl
    | true =>
      rw [List.filter_cons_of_pos hp] at h
      cases j' with
      | zero =>
        cases h
        refine ⟨0, rfl, hp, fun line => ?_⟩
        cases line with
        | nil => rfl
        | cons x xs => rw [filter_zip_cons, hp, if_pos rfl]; rfl
      | succ j'' =>
        obtain ⟨j, h1, h2, h3⟩ := ih j'' h
        refine ⟨j + 1, h1, h2, fun line => ?_⟩
        cases line with
        | nil => rfl
        | cons x xs => rw [filter_zip_cons, hp, if_pos rfl]; exact h3 xs

theorem dropElems_getElem? {β : Type} (d : List Name) (im : Image β) (j' : Nat) (n : Name)
    (h : (dropElems (some d) im).names[j']? = some n) :
    ∃ j, im.names[j]? = some n ∧ d.contains n = false ∧
      ∀ i s, px (dropElems (some d) im).img i j' s = px im.img i j s := by
  obtain ⟨j, h1, h2, h3⟩ := filter_zip_getElem? (fun n => !d.contains n) im.names j' n h
  refine ⟨j, h1, (Bool.not_eq_true' _).mp h2, fun i s => ?_⟩
  simp only [px, dropElems, List.getElem?_map]
  cases im.img[i]? with
  | none => rfl
  | some line => simp only [Option.map_some, Option.bind_some, h3 line]

theorem of_loadBinarySpec_eq_ok {α : Type} {m : Meta} {files : List (DataFile α)} {masses : List MassInfo}
    {methods : List Method} {im : Image α} (h : loadBinarySpec m files masses methods = .ok im) :
    ∃ (lines : List Name) (dfs : List (DataFile α)),
      linesOf m true methods = .ok lines ∧ lines.map (findFile files) = dfs.map some ∧
      (∀ f ∈ dfs, f.hasBinary = true) ∧
      im = { names := masses.map (·.str),
             img := dfs.map (fun f => (List.range masses.length).map (column f.profile)),
             times := dfs.map (fun f => f.scans.map (fun s => s.time * 60)) } := by
  unfold loadBinarySpec at h
  cases hl : linesOf m true methods with
  | error e => rw [hl] at h; cases h
  | ok lines =>
    rw [hl] at h
    simp only [bind, Except.bind] at h
    cases hd : allSome (lines.map (findFile files)) with
    | none => rw [hd] at h; cases h
    | some dfs =>
      rw [hd] at h
      simp only [orErr] at h
      split at h
      · cases h
      · rename_i hb
        exact ⟨lines, dfs, rfl, (allSome_eq_some_iff _ _).mp hd, List.all_eq_true.mp (by rwa [Bool.not_eq_true', Bool.not_eq_false] at hb),
          (Except.ok.inj h).symm⟩

theorem of_loadCsvSpec_eq_ok {α : Type} {m : Meta} {files : List (DataFile α)} {names : Option (List Name)}
    {methods : List Method} {im : Image Rat} (h : loadCsvSpec m files names methods = .ok im) :
    ∃ (lines : List Name) (dfs : List (DataFile α)) (c0 : CsvFile) (cols : List (List (List Rat))),
      linesOf m true methods = .ok lines ∧ lines.map (findFile files) = dfs.map some ∧
      (∃ f ∈ dfs, f.csv = some c0) ∧
      dfs.map (fun f => csvLineSpec c0.header.length c0.rows.length f.csv) = cols.map some ∧
      im.img = cols.map (·.drop 1) ∧ im.times = cols.map (·.headD []) := by
  unfold loadCsvSpec at h
  cases hl : linesOf m true methods with
  | error e => rw [hl] at h; cases h
  | ok lines =>
    rw [hl] at h
    dsimp only at h
    cases hd : allSome (lines.map (findFile files)) with
    | none => rw [hd] at h; cases h
    | some dfs =>
      rw [hd] at h
      dsimp only at h
      cases hcs : dfs.filterMap (·.csv) with
      | nil => rw [hcs] at h; cases h
      | cons c0 rest =>
        rw [hcs] at h
        dsimp only at h
        cases hc : allSome (dfs.map (fun f => csvLineSpec c0.header.length c0.rows.length f.csv)) with
        | none => rw [hc] at h; cases h
        | some cols =>
          rw [hc] at h
          cases h
          have h0 : c0 ∈ dfs.filterMap (·.csv) := hcs ▸ List.mem_cons_self
          obtain ⟨f0, hf0, e0⟩ := List.mem_filterMap.mp h0
          exact ⟨lines, dfs, c0, cols, rfl, (allSome_eq_some_iff _ _).mp hd, ⟨f0, hf0, e0⟩,
            (allSome_eq_some_iff _ _).mp hc, rfl, rfl⟩

theorem of_loadCsvSpec_eq_ok_wf {α : Type} {m : Meta} {files : List (DataFile α)} {names : Option (List Name)}
    {methods : List Method} {ncol nscan : Nat} {im : Image Rat} (h : loadCsvSpec m files names methods = .ok im)
    (hfiles : ∀ f ∈ files, ∀ c, f.csv = some c →
      CsvWF c ∧ c.header.length = ncol ∧ c.rows.length = nscan ∧ (c.header.head?).map validName = some timeName) :
    ∃ (lines : List Name) (dfs : List (DataFile α)), linesOf m true methods = .ok lines ∧
      lines.map (findFile files) = dfs.map some ∧ 0 < ncol ∧
      im.img = dfs.map (fun f => (csvCols ncol nscan (f.csv.map tableOf)).drop 1) ∧
      im.times = dfs.map (fun f => (csvCols ncol nscan (f.csv.map tableOf)).headD []) := by
  obtain ⟨lines, dfs, c0, cols, hl, hmap, ⟨f0, hf0, e0⟩, hcols, himg, htimes⟩ := of_loadCsvSpec_eq_ok h
  have hmem := mem_files_of_lines hmap
  obtain ⟨W0, hcol0, hrow0, -⟩ := hfiles f0 (hmem f0 hf0) c0 e0
  rw [hcol0, hrow0, List.map_congr_left fun f hf => csvLineSpec_eq_csvCols (hfiles f (hmem f hf))] at hcols
  obtain rfl : cols = dfs.map fun f => csvCols ncol nscan (f.csv.map tableOf) :=
    List.map_injective_iff.mpr (Option.some_injective _) (hcols.symm.trans List.map_map.symm)
  exact ⟨lines, dfs, hl, hmap, hcol0 ▸ List.length_pos_iff.mpr W0.header_ne, by rw [himg, List.map_map]; rfl,
    by rw [htimes, List.map_map]; rfl⟩

theorem load_map {γ δ : Type} (g : γ → δ) (b c : Except Err γ) :
    (load b c).map g = load (b.map g) (c.map g) := by
  cases b <;> rfl

theorem loadBinaryCall_eq_map {α : Type} (m : Meta) (files : List (DataFile α)) (masses : Option (List MassInfo))
    (divide : List MassInfo → Image α → Image α) (o : CallOpts) :
    loadBinaryCall m files masses divide o = (loadBinary m files masses o.methodsV).map fun data =>
      { retOf binTimeName o.drop o.fullV (if o.cpsV then divide (masses.getD []) data else data) with
        params := if o.fullV then some data.times else none } := by
  unfold loadBinaryCall
  cases loadBinary m files masses o.methodsV with
  | error e => rfl
  -- the two branches of `if full` build the same record
  | ok im => cases o.fullV <;> rfl

theorem of_loadBinaryCall_cps_eq_ok {m : Meta} {files : List (DataFile Rat)} {ms : List MassInfo} {o : CallOpts}
    {r : Returned Rat} (h : loadBinaryCall m files (some ms) cps o = .ok r) (hc : o.cpsV = true) :
    ∃ im, loadBinary m files (some ms) o.methodsV = .ok im ∧ r = retOf binTimeName o.drop o.fullV (cps ms im) := by
  rw [loadBinaryCall_eq_map, hc] at h
  cases hl : loadBinary m files (some ms) o.methodsV with
  | error e => rw [hl] at h; cases h
  | ok im => rw [hl] at h; exact ⟨im, rfl, (Except.ok.inj h).symm⟩

theorem exists_ok_of_isOk {ε α : Type} {e : Except ε α} (h : e.isOk = true) : ∃ a, e = .ok a := by
  cases e with
  | ok a => exact ⟨a, rfl⟩
  | error _ => cases h

theorem exists_ok_of_decide {ε α : Type} {e : Except ε α} {p : α → Prop} [DecidablePred p]
    (h : e.toOption.any (fun a => decide (p a)) = true) : ∃ a, e = .ok a ∧ p a := by
  cases e with
  | ok a => exact ⟨a, rfl, of_decide_eq_true h⟩
  | error _ => cases h

theorem load_eq_of_eq {γ : Type} (b b' c c' : Except Err γ) (hb : b = b') (hc : c = c') : load b c = load b' c' := by
  rw [hb, hc]

theorem memoGet_mem {κ β : Type} [DecidableEq κ] (k : κ) (l : List (κ × β)) (v : β) (h : memoGet k l = some v) :
    (k, v) ∈ l := by
  induction l with
  | nil => simp [memoGet] at h
  | cons p rest ih =>
    obtain ⟨k', v'⟩ := p
    unfold memoGet at h
    split at h
    · rename_i hk
      simp only [Option.some.injEq] at h
      subst hk; subst h
      simp
    · exact List.mem_cons_of_mem _ (ih h)

theorem absRat_eq_abs (q : Rat) : absRat q = |q| := by
  unfold absRat
  split
  · rw [abs_of_neg ‹_›]
  · rw [abs_of_nonneg (not_lt.mp ‹_›)]

theorem agreePx_iff (tol slack x y : Rat) :
    agreePx tol slack x y = true ↔ |x - y| ≤ tol + slack * (|x| + |y|) := by
  simp [agreePx, absRat_eq_abs]

theorem zip_all_iff {β γ : Type} (l₁ : List β) (l₂ : List γ) (f : β × γ → Bool) :
    (l₁.zip l₂).all f = true ↔ ∀ (i : Nat) a b, l₁[i]? = some a → l₂[i]? = some b → f (a, b) = true := by
  rw [List.all_eq_true]
  constructor
  · intro h i a b ha hb
    apply h
    rw [List.mem_iff_getElem?]
    exact ⟨i, by rw [List.getElem?_zip_eq_some]; exact ⟨ha, hb⟩⟩
  · intro h z hz
    obtain ⟨i, hi⟩ := List.mem_iff_getElem?.mp hz
    rw [List.getElem?_zip_eq_some] at hi
    exact h i z.1 z.2 hi.1 hi.2

theorem agreeLine_iff (tol slack : Rat) (a b : List (List Rat)) :
    agreeLine tol slack a b = true ↔
      a.length = b.length ∧ ∀ (j : Nat) ca cb, a[j]? = some ca → b[j]? = some cb →
        ca.length = cb.length ∧ ∀ (r : Nat) x y, ca[r]? = some x → cb[r]? = some y → agreePx tol slack x y = true := by
  simp only [agreeLine, Bool.and_eq_true, beq_iff_eq, zip_all_iff]

section
variable {β γ : Type} {R : β → γ → Prop} {a : List β} {b : List γ}

/-- `Near eps` unfolds to three nested `Rel₂`, the part of `SameShape` under a present line to `Rel₂` of "equal
lengths". -/
def Rel₂ (R : β → γ → Prop) (a : List β) (b : List γ) : Prop :=
  a.length = b.length ∧ ∀ (i : Nat) x y, a[i]? = some x → b[i]? = some y → R x y

theorem Rel₂.refl {R : β → β → Prop} (h : ∀ x ∈ a, R x x) : Rel₂ R a a :=
  ⟨rfl, fun _ x _ hx hy => Option.some.inj (hx.symm.trans hy) ▸ h x (List.mem_of_getElem? hx)⟩

theorem Rel₂.exists_left (h : Rel₂ R a b) {i : Nat} {y : γ} (hy : b[i]? = some y) : ∃ x, a[i]? = some x ∧ R x y := by
  have hi : i < a.length := h.1 ▸ (List.getElem?_eq_some_iff.mp hy).1
  exact ⟨a[i], List.getElem?_eq_getElem hi, h.2 i _ y (List.getElem?_eq_getElem hi) hy⟩
end

theorem near_px (eps : Rat) (a b : List (List (List Rat))) (h : Near eps a b) (i j r : Nat) (y : Rat)
    (hy : px b i j r = some y) : ∃ x, px a i j r = some x ∧ |y - x| ≤ eps * |x| := by
  obtain ⟨lb, cb, hb, hcb, hyb⟩ := (px_eq_some _ _ _ _ _).mp hy
  obtain ⟨la, ha, h1⟩ := Rel₂.exists_left h hb
  obtain ⟨ca, hca, h2⟩ := Rel₂.exists_left h1 hcb
  obtain ⟨x, hx, h3⟩ := Rel₂.exists_left h2 hyb
  exact ⟨x, (px_eq_some _ _ _ _ _).mpr ⟨la, ca, ha, hca, hx⟩, by rw [← absRat_eq_abs, ← absRat_eq_abs]; exact h3⟩

theorem near_refl (eps : Rat) (heps : 0 ≤ eps) (a : List (List (List Rat))) : Near eps a a :=
  Rel₂.refl fun _ _ => Rel₂.refl fun _ _ => Rel₂.refl fun x _ => by
    simp only [sub_self, absRat_eq_abs, abs_zero]
    exact mul_nonneg heps (abs_nonneg _)

theorem sameShape_near (eps : Rat) (present : List Bool) (sb sc ib ic : List (List (List Rat)))
    (hb : Near eps sb ib) (hc : Near eps sc ic) (h : SameShape present sb sc) : SameShape present ib ic := by
  obtain ⟨h1, h2, h3⟩ := h
  refine ⟨hb.1.symm.trans (h1.trans hc.1), hb.1.symm.trans h2, fun i la lb hp ha hb' => ?_⟩
  obtain ⟨sa, hsa, f⟩ := Rel₂.exists_left hb ha
  obtain ⟨sc', hsc, g⟩ := Rel₂.exists_left hc hb'
  obtain ⟨e1, e2⟩ := h3 i sa sc' hp hsa hsc
  refine ⟨f.1.symm.trans (e1.trans g.1), fun j ca cb hca hcb => ?_⟩
  obtain ⟨xa, hxa, f'⟩ := Rel₂.exists_left f hca
  obtain ⟨xc, hxc, g'⟩ := Rel₂.exists_left g hcb
  exact f'.1.symm.trans ((e2 j xa xc hxa hxc).trans g'.1)

/-- the arithmetic behind `agree_transfer`: three roundings of relative size `2⁻⁵³` fit between the
slack `2⁻⁵²` on the exact values and the slack `2⁻⁵⁰` on the rounded ones -/
theorem agreePx_transfer (tol x y x' y' : Rat)
    (hx : |x' - x| ≤ 1 / 2 ^ 53 * |x|) (hy : |y' - y| ≤ 1 / 2 ^ 53 * |y|)
    (h : |x - y| ≤ tol + printSlack * (|x| + |y|)) :
    |x' - y'| ≤ tol + agreeSlack * (|x'| + |y'|) := by
  unfold printSlack at h
  unfold agreeSlack
  have t1 := abs_sub_le x' x y'
  have t2 := abs_sub_le x y y'
  have bx := abs_sub_abs_le_abs_sub x x'
  have by' := abs_sub_abs_le_abs_sub y y'
  rw [abs_sub_comm] at bx by'
  rw [abs_sub_comm y y'] at t2
  linarith [abs_nonneg x, abs_nonneg y]

theorem agreePx_of_printed (d : Nat) (x y v : Rat) (h1 : |v - x| ≤ 1 / 2 ^ 53 * |x|) (h2 : |y - v| ≤ halfUnit d) :
    |x - y| ≤ halfUnit d + printSlack * (|x| + |y|) := by
  have t := abs_sub_le x v y
  rw [abs_sub_comm x v, abs_sub_comm v y] at t
  unfold printSlack
  linarith [abs_nonneg x, abs_nonneg y]

theorem exact_within (x : Rat) : |x - x| ≤ 1 / 2 ^ 53 * |x| := by
  rw [sub_self, abs_zero]; positivity

end Pew.Agilent
