import PewProofs.SrrConfig

/-! the reconstruction: on a `Ragged` stack each stage is a closed record and `krisskross` one equation (`krisskross_ragged`); an accepted
crossed stack is ragged (`crossed_valid`); independently, every stage commutes with `Arr2.map` -/
namespace Pew

namespace Srr

/-! ### The `_diag` lemmas: `krisskross` passes the same offset for both axes, `fun o => (o, o)` -/

theorem le_maxList (l : List Nat) (x : Nat) (h : x ∈ l) : x ≤ maxList l := (Lists.le_foldl_max l 0).2 x h

theorem maxList_effList (offs : List Nat) : maxList (effList offs) = maxList offs := by
  cases offs with
  | nil => rfl
  | cons o os =>
    simp only [effList]
    split
    · simp [maxList]
    · rfl

theorem effOffsets_diag (offs : List Nat) :
    effOffsets (offs.map (fun o => (o, o))) = (effList offs).map (fun o => (o, o)) := by
  cases offs with
  | nil => rfl
  | cons o os =>
    simp only [List.map_cons, effOffsets, effList]
    by_cases h : o = 0
    · subst h; simp
    · simp [h]

theorem effOffsets_ne_nil (offs : List (Nat × Nat)) (h : offs ≠ []) : effOffsets offs ≠ [] := by
  cases offs with
  | nil => exact absurd rfl h
  | cons o os => simp only [effOffsets]; split <;> simp

theorem map_fst_diag (l : List Nat) : (l.map (fun o => (o, o))).map (·.1) = l := by
  simp [Function.comp_def]

theorem map_snd_diag (l : List Nat) : (l.map (fun o => (o, o))).map (·.2) = l := by
  simp [Function.comp_def]

theorem getD_diag (offs : List Nat) (i : Nat) :
    ((effList offs).map (fun o => (o, o))).getD (i % ((effList offs).map (fun o => (o, o))).length) (0, 0)
      = (layerOffset offs i, layerOffset offs i) := by
  simp only [layerOffset, List.length_map, List.getD_eq_getElem?_getD, List.getElem?_map]
  cases (effList offs)[i % (effList offs).length]? <;> rfl

/-! ### slice bounds of a region; `subpixel_offset` on any non-empty offset list -/

theorem normIdx_natCast (n k : Nat) (h : k ≤ n) : normIdx n (k : Int) = k := by
  unfold normIdx
  rw [if_neg (by omega)]
  simp; omega

theorem sliceBounds_natCast (n lo hi : Nat) (h1 : lo ≤ hi) (h2 : hi ≤ n) :
    sliceBounds n (some (lo : Int)) (some (hi : Int)) = (lo, hi) := by
  simp only [sliceBounds, normIdx_natCast n lo (h1.trans h2), normIdx_natCast n hi h2]

theorem sliceBounds_region (nr ov o : Nat) (h1 : o ≤ ov) (h2 : ov ≤ nr) :
    sliceBounds nr (some (o : Int)) (endBound ov o) = (o, nr - (ov - o)) := by
  have hn := normIdx_natCast nr o (h1.trans h2)
  -- `endBound` is `None` when the offset is the largest, else the negative stop `-(ov - o)`, which `normIdx` counts from the end
  by_cases h : (ov : Int) - (o : Int) = 0
  · simp only [sliceBounds, endBound, if_pos h, hn]; congr 1; omega
  · simp only [sliceBounds, endBound, if_neg h, hn]
    congr 1
    unfold normIdx
    rw [if_pos (by omega)]; omega

theorem region_canvas (eff : List (Nat × Nat)) (h : eff ≠ []) (R C p0 p1 i : Nat) :
    let st := eff.getD (i % eff.length) (0, 0)
    region eff (maxList (eff.map (·.1))) (maxList (eff.map (·.2)))
        (R * p0 + maxList (eff.map (·.1))) (C * p1 + maxList (eff.map (·.2))) i
      = ((st.1, st.1 + R * p0), (st.2, st.2 + C * p1)) := by
  intro st
  have hlen : 0 < eff.length := List.length_pos_iff.mpr h
  have hi : i % eff.length < eff.length := Nat.mod_lt _ hlen
  have hst : st = eff[i % eff.length] := by simp [st, List.getD_eq_getElem?_getD, hi]
  have hmem : st ∈ eff := by rw [hst]; exact List.getElem_mem hi
  have h1 : st.1 ≤ maxList (eff.map (·.1)) := le_maxList _ _ (List.mem_map.mpr ⟨st, hmem, rfl⟩)
  have h2 : st.2 ≤ maxList (eff.map (·.2)) := le_maxList _ _ (List.mem_map.mpr ⟨st, hmem, rfl⟩)
  have e : ∀ a ov s : Nat, s ≤ ov → a + ov - (ov - s) = s + a := by omega
  unfold region
  simp only
  rw [sliceBounds_region _ _ _ h1 (Nat.le_add_left _ _), sliceBounds_region _ _ _ h2 (Nat.le_add_left _ _),
    e _ _ _ h1, e _ _ _ h2]

theorem subpixelOffset_eq {α : Type} (z : α) (x : Arr3 α) (offs : List (Nat × Nat)) (hne : offs ≠ []) (ps : Nat × Nat) :
    subpixelOffset z x offs ps = some
      { rows := x.rows * ps.1 + maxList ((effOffsets offs).map (·.1)),
        cols := x.cols * ps.2 + maxList ((effOffsets offs).map (·.2)), depth := x.depth,
        get := fun r cc i =>
          let st := (effOffsets offs).getD (i % (effOffsets offs).length) (0, 0)
          if st.1 ≤ r ∧ r < st.1 + x.rows * ps.1 ∧ st.2 ≤ cc ∧ cc < st.2 + x.cols * ps.2 then
            x.get ((r - st.1) / ps.1) ((cc - st.2) / ps.2) i
          else z } := by
  have hne' := effOffsets_ne_nil offs hne
  have hemp : (effOffsets offs).isEmpty = false := by
    cases h : effOffsets offs with
    | nil => exact absurd h hne'
    | cons a as => rfl
  unfold subpixelOffset
  simp only [hemp, Bool.false_eq_true, if_false, region_canvas (effOffsets offs) hne']
  split
  · rfl
  · rename_i hneg
    exfalso; apply hneg
    rw [List.all_eq_true]
    intro i _
    simp

theorem subpixelOffset_diag {α : Type} (z : α) (x : Arr3 α) (offs : List Nat) (hne : offs ≠ []) (p : Nat) :
    subpixelOffset z x (offs.map (fun o => (o, o))) (p, p) = some
      { rows := x.rows * p + maxList offs, cols := x.cols * p + maxList offs, depth := x.depth,
        get := fun r cc i =>
          if layerOffset offs i ≤ r ∧ r < layerOffset offs i + x.rows * p
              ∧ layerOffset offs i ≤ cc ∧ cc < layerOffset offs i + x.cols * p then
            x.get ((r - layerOffset offs i) / p) ((cc - layerOffset offs i) / p) i
          else z } := by
  rw [subpixelOffset_eq z x _ (by simpa using hne)]
  simp only [effOffsets_diag, map_fst_diag, map_snd_diag, maxList_effList, getD_diag]

/-! ### acceptance: `valid_for_data` reads the first two layers -/

theorem validSpec_iff (w : Int) (M l0 s0 l1 s1 : Nat) :
    validSpec w M l0 s0 l1 s1 = true ↔
      0 ≤ w ∧ w + ((l1 * M : Nat) : Int) ≤ (s0 : Int) ∧ w + ((l0 * M : Nat) : Int) ≤ (s1 : Int) := by
  simp only [validSpec, Bool.and_eq_true, decide_eq_true_eq, and_assoc]

theorem validForData_heads {α : Type} (c : SrrConfig) (M : Nat) (hM : 1 ≤ M) (hscan : 0 < c.scantime)
    (layers : List (Arr2 α)) (d0 d1 : Arr2 α) (h0 : layers[0]? = some d0) (h1 : layers[1]? = some d1) :
    validForData c (M : Rat) layers = some (validSpec c.warmup M d0.rows d0.cols d1.rows d1.cols) := by
  unfold validForData validSpec
  rw [h0, h1]
  simp only [magInt_natCast M hM, magAxis_natCast M hM, Arr2.dim, if_true, warmupSeconds_neg_iff c hscan]
  by_cases hw : c.warmup < 0
  · rw [if_pos hw]
    simp [not_le.mpr hw]
  · rw [if_neg hw]
    have hw' : 0 ≤ c.warmup := not_lt.mp hw
    split_ifs with a b
    · simp only [Option.some.injEq]; symm; simp only [Bool.and_eq_false_iff, decide_eq_false_iff_not]
      left; right; omega
    · simp only [Option.some.injEq]; symm; simp only [Bool.and_eq_false_iff, decide_eq_false_iff_not]
      right; omega
    · simp only [Option.some.injEq]; symm
      simp only [Bool.and_eq_true, decide_eq_true_eq]
      refine ⟨⟨hw', by omega⟩, by omega⟩

/-- `Crossed` and `Ragged` unfold to this shape, so `two_heads hc` applies as is -/
theorem two_heads {α : Type} {layers : List (Arr2 α)} {P : Nat → Arr2 α → Prop}
    (h : 2 ≤ layers.length ∧ ∀ i l, layers[i]? = some l → P i l) :
    ∃ d0 d1, layers[0]? = some d0 ∧ layers[1]? = some d1 ∧ P 0 d0 ∧ P 1 d1 :=
  have h0 : 0 < layers.length := Nat.lt_of_lt_of_le Nat.zero_lt_two h.1
  have h1 : 1 < layers.length := Nat.lt_of_lt_of_le Nat.one_lt_two h.1
  ⟨_, _, List.getElem?_eq_getElem h0, List.getElem?_eq_getElem h1,
    h.2 0 _ (List.getElem?_eq_getElem h0), h.2 1 _ (List.getElem?_eq_getElem h1)⟩

theorem crossed_heads {α : Type} (layers : List (Arr2 α)) (l0 s0 l1 s1 : Nat) (hc : Crossed layers l0 s0 l1 s1) :
    ∃ d0 d1, layers[0]? = some d0 ∧ layers[1]? = some d1 ∧ d0.rows = l0 ∧ d0.cols = s0 ∧ d1.rows = l1 ∧ d1.cols = s1 := by
  obtain ⟨d0, d1, h0, h1, a, b⟩ := two_heads hc
  exact ⟨d0, d1, h0, h1, a.1, a.2, b.1, b.2⟩

theorem ragged_heads {α : Type} {layers : List (Arr2 α)} {l0 l1 M wn : Nat} (hr : Ragged layers l0 l1 M wn) :
    ∃ d0 d1, layers[0]? = some d0 ∧ layers[1]? = some d1 ∧
      d0.rows = l0 ∧ wn + l1 * M ≤ d0.cols ∧ d1.rows = l1 ∧ wn + l0 * M ≤ d1.cols := by
  obtain ⟨d0, d1, h0, h1, a, b⟩ := two_heads hr
  exact ⟨d0, d1, h0, h1, a.1, a.2, b.1, b.2⟩

theorem Crossed.ragged {α : Type} {layers : List (Arr2 α)} {l0 s0 l1 s1 M wn : Nat} (hc : Crossed layers l0 s0 l1 s1)
    (hv0 : wn + l1 * M ≤ s0) (hv1 : wn + l0 * M ≤ s1) : Ragged layers l0 l1 M wn := by
  refine ⟨hc.1, fun i l hl => ?_⟩
  obtain ⟨hrow, hcol⟩ := hc.2 i l hl
  refine ⟨hrow, ?_⟩
  rw [hcol]
  split <;> assumption

theorem crossed_valid {α : Type} (c : SrrConfig) (M : Nat) (hM : 1 ≤ M) (hscan : 0 < c.scantime)
    (layers : List (Arr2 α)) (l0 s0 l1 s1 : Nat) (hc : Crossed layers l0 s0 l1 s1)
    (hv : validForData c (M : Rat) layers = some true) :
    ∃ wn : Nat, c.warmup = (wn : Int) ∧ Ragged layers l0 l1 M wn := by
  obtain ⟨d0, d1, h0, h1, r0, c0, r1, c1⟩ := crossed_heads layers l0 s0 l1 s1 hc
  rw [validForData_heads c M hM hscan layers d0 d1 h0 h1, r0, c0, r1, c1] at hv
  obtain ⟨hw0, ha, hb⟩ := (validSpec_iff _ _ _ _ _ _).mp (Option.some.inj hv)
  obtain ⟨wn, hw⟩ := Int.eq_ofNat_of_zero_le hw0
  rw [hw] at ha hb
  exact ⟨wn, hw, hc.ragged (by exact_mod_cast ha) (by exact_mod_cast hb)⟩

/-! ### each stage on a `Ragged` stack, and the source indices of its voxels -/

theorem sliceCols_trim {α : Type} (l : Arr2 α) (wn len : Nat) (h : wn + len ≤ l.cols) :
    l.sliceCols (some (wn : Int)) (some ((wn : Int) + (len : Int)))
      = { rows := l.rows, cols := len, get := fun r c => l.get r (wn + c) } := by
  have := sliceBounds_natCast l.cols wn (wn + len) (Nat.le_add_right _ _) h
  rw [Nat.cast_add] at this
  simp only [Arr2.sliceCols, Arr2.slice, this]
  simp only [sliceBounds, Nat.add_sub_cancel_left, Nat.zero_add, Nat.sub_zero]

theorem prepLayer_ragged {α : Type} {layers : List (Arr2 α)} {l0 l1 M wn : Nat} (hr : Ragged layers l0 l1 M wn)
    {i : Nat} {l : Arr2 α} (hl : layers[i]? = some l) :
    prepLayer (wn : Int) M 0 (l1 * M) (l0 * M) i l
      = { rows := l0 * M, cols := l1 * M,
          get := fun r cc => if i % 2 = 0 then l.get (r / M) (wn + cc) else l.get (cc / M) (wn + r) } := by
  obtain ⟨hrow, hcol⟩ := hr.2 i l hl
  by_cases hi : i % 2 = 0
  · rw [if_pos hi] at hrow hcol
    simp only [prepLayer, hi, if_true, Nat.zero_ne_one, if_false, sliceCols_trim l wn _ hcol, Arr2.rep, hrow]
  · have hi' : i % 2 = 1 := by omega
    rw [if_neg hi] at hrow hcol
    simp only [prepLayer, hi', if_true, Nat.one_ne_zero, if_false, sliceCols_trim l wn _ hcol, Arr2.rep, Arr2.T, hrow]

theorem aligned_ragged {α : Type} (z : α) (c : SrrConfig) (M : Nat) (hM : 1 ≤ M) (layers : List (Arr2 α))
    (l0 l1 : Nat) (wn : Nat) (hw : c.warmup = (wn : Int)) (hr : Ragged layers l0 l1 M wn) :
    aligned z c (M : Rat) layers = some
      { rows := l0 * M, cols := l1 * M, depth := layers.length,
        get := fun r cc i => match layers[i]? with
          | some l => if i % 2 = 0 then l.get (r / M) (wn + cc) else l.get (cc / M) (wn + r)
          | none => z } := by
  obtain ⟨d0, d1, h0, h1, r0, -, r1, -⟩ := ragged_heads hr
  unfold aligned
  rw [h0, h1]
  simp only [magInt_natCast M hM, magAxis_natCast M hM, Arr2.dim, if_true, r0, r1, hw]
  split
  · congr 2
    funext r cc i
    cases hl : layers[i]? with
    | none => rfl
    | some l => simp only [prepLayer_ragged hr hl]
  · rename_i hneg
    exfalso; apply hneg
    rw [List.all_eq_true]
    intro i _
    cases hl : layers[i]? with
    | none => rfl
    | some l => simp only [prepLayer_ragged hr hl, decide_true, Bool.and_self]

theorem krisskross_ragged {α : Type} (z : α) (c : SrrConfig) (M : Nat) (hM : 1 ≤ M) (hoffs : c.offs ≠ [])
    (layers : List (Arr2 α)) (l0 l1 wn : Nat) (hw : c.warmup = (wn : Int)) (hr : Ragged layers l0 l1 M wn) :
    krisskross z c (M : Rat) layers = some
      { rows := reconRows l0 M (subpixelsPerPixel c.size (M : Rat)) c.offs,
        cols := reconCols l1 M (subpixelsPerPixel c.size (M : Rat)) c.offs, depth := layers.length,
        get := voxel z l0 l1 M (subpixelsPerPixel c.size (M : Rat)) wn c.offs layers } := by
  unfold krisskross
  rw [aligned_ragged z c M hM layers l0 l1 wn hw hr]
  simp only
  rw [subpixelOffset_diag z _ c.offs hoffs]
  generalize subpixelsPerPixel c.size (M : Rat) = p
  congr 2
  funext r cc i
  simp only [voxel, inFootprint, sourceIndex, Bool.and_eq_true, decide_eq_true_eq]
  cases hl : layers[i]? with
  | none => simp
  | some l =>
    simp only [and_assoc]
    split_ifs <;> rfl

theorem krisskross_crossed {α : Type} (z : α) (c : SrrConfig) (M : Nat) (hM : 1 ≤ M) (hscan : 0 < c.scantime)
    (hoffs : c.offs ≠ []) (layers : List (Arr2 α)) (l0 s0 l1 s1 : Nat) (hc : Crossed layers l0 s0 l1 s1)
    (hv : validForData c (M : Rat) layers = some true) :
    krisskross z c (M : Rat) layers = some
      { rows := reconRows l0 M (subpixelsPerPixel c.size (M : Rat)) c.offs,
        cols := reconCols l1 M (subpixelsPerPixel c.size (M : Rat)) c.offs, depth := layers.length,
        get := voxel z l0 l1 M (subpixelsPerPixel c.size (M : Rat)) c.warmup.toNat c.offs layers } := by
  obtain ⟨wn, hw, hr⟩ := crossed_valid c M hM hscan layers l0 s0 l1 s1 hc hv
  rw [hw, Int.toNat_natCast]
  exact krisskross_ragged z c M hM hoffs layers l0 l1 wn hw hr

theorem voxelInRange_ragged {α : Type} {layers : List (Arr2 α)} {l0 l1 M wn : Nat} (hr : Ragged layers l0 l1 M wn)
    (p : Nat) (offs : List Nat) (r cc i : Nat) (hi : i < layers.length) :
    voxelInRange l0 l1 M p wn offs layers r cc i = true := by
  have hl : layers[i]? = some layers[i] := List.getElem?_eq_getElem hi
  obtain ⟨hrow, hcol⟩ := hr.2 i _ hl
  simp only [voxelInRange, hl, inFootprint, sourceIndex, Bool.and_eq_true, decide_eq_true_eq]
  split
  · rename_i hf
    obtain ⟨⟨⟨f1, f2⟩, f3⟩, f4⟩ := hf
    have a1 : (r - layerOffset offs i) / p < l0 * M :=
      Nat.div_lt_of_lt_mul (by rw [Nat.mul_comm]; exact Nat.sub_lt_left_of_lt_add f1 f2)
    have a2 : (cc - layerOffset offs i) / p < l1 * M :=
      Nat.div_lt_of_lt_mul (by rw [Nat.mul_comm]; exact Nat.sub_lt_left_of_lt_add f3 f4)
    by_cases hpar : i % 2 = 0
    · simp only [hpar, if_true] at hrow hcol ⊢
      rw [hrow]
      simp only [Bool.and_eq_true, decide_eq_true_eq]
      exact ⟨Nat.div_lt_of_lt_mul (by rw [Nat.mul_comm]; exact a1), Nat.lt_of_lt_of_le (Nat.add_lt_add_left a2 wn) hcol⟩
    · simp only [hpar, if_false] at hrow hcol ⊢
      rw [hrow]
      simp only [Bool.and_eq_true, decide_eq_true_eq]
      exact ⟨Nat.div_lt_of_lt_mul (by rw [Nat.mul_comm]; exact a2), Nat.lt_of_lt_of_le (Nat.add_lt_add_left a1 wn) hcol⟩
  · rfl

/-- the quotient at the last voxel of a footprint -/
theorem div_pred_mul (a p : Nat) (ha : 1 ≤ a) (hp : 1 ≤ p) : (a * p - 1) / p = a - 1 := by
  obtain ⟨b, rfl⟩ : ∃ b, a = b + 1 := ⟨a - 1, by omega⟩
  rw [Nat.add_mul, Nat.one_mul, Nat.add_sub_cancel]
  exact Nat.div_eq_of_lt_le (by omega) (by rw [Nat.add_mul, Nat.one_mul]; omega)

/-! ### a single layer read: the copy, `.T` for odd layers, is `layerSpec` -/

theorem view_eq_layerSpec {α : Type} (b : Arr2 α) (i : Nat) : (if i % 2 = 1 then b.T else b) = layerSpec b i := by
  unfold layerSpec
  by_cases h : i % 2 = 1
  · rw [if_pos h, if_neg (by omega)]; rfl
  · rw [if_neg h, if_pos (by omega)]

theorem getLayer_eq {α : Type} {layers : List (Arr2 α)} {i : Nat} {l : Arr2 α} (h : layers[i]? = some l) :
    getLayer layers i = some (layerSpec l i) := by
  simp only [getLayer, h, view_eq_layerSpec]

theorem layerSpec_rows {α : Type} (l : Arr2 α) (i : Nat) :
    (layerSpec l i).rows = if i % 2 = 0 then l.rows else l.cols := by
  unfold layerSpec; split <;> rfl

theorem layerSpec_cols {α : Type} (l : Arr2 α) (i : Nat) :
    (layerSpec l i).cols = if i % 2 = 0 then l.cols else l.rows := by
  unfold layerSpec; split <;> rfl

theorem layerSpec_get {α : Type} (l : Arr2 α) (i r cc : Nat) :
    (layerSpec l i).get r cc = if i % 2 = 0 then l.get r cc else l.get cc r := by
  unfold layerSpec; split <;> rfl

theorem layerSpec_map {α β : Type} (f : α → β) (b : Arr2 α) (i : Nat) : layerSpec (b.map f) i = (layerSpec b i).map f := by
  unfold layerSpec
  split <;> rfl

/-! ### the reconstruction commutes with every pixelwise change of the cell type -/

theorem Arr2.ext' {α : Type} (a b : Arr2 α) (hr : a.rows = b.rows) (hc : a.cols = b.cols) (hg : a.get = b.get) : a = b := by
  cases a; cases b; simp_all

theorem Arr2.map_map {α β γ : Type} (f : α → β) (g : β → γ) (a : Arr2 α) : (a.map f).map g = a.map (g ∘ f) := rfl

theorem Arr2.map_id {α : Type} (a : Arr2 α) : a.map id = a := rfl

theorem Arr3.map_id {α : Type} (a : Arr3 α) : a.map id = a := rfl

theorem sliceCols_map {α β : Type} (f : α → β) (a : Arr2 α) (c0 c1 : Option Int) :
    (a.map f).sliceCols c0 c1 = (a.sliceCols c0 c1).map f := rfl

theorem rep_map {α β : Type} (f : α → β) (a : Arr2 α) (k ax : Nat) : (a.map f).rep k ax = (a.rep k ax).map f := by
  unfold Arr2.rep
  split <;> rfl

theorem prepLayer_map {α β : Type} (f : α → β) (w : Int) (mag ax len0 len1 i : Nat) (l : Arr2 α) :
    prepLayer w mag ax len0 len1 i (l.map f) = (prepLayer w mag ax len0 len1 i l).map f := by
  simp only [prepLayer, sliceCols_map, rep_map]
  split <;> rfl

/-- both sides of `aligned_map` / `subpixelOffset_map` are `if shapes agree then some … else none` -/
theorem ite_map_aux {γ δ : Type} (g : γ → δ) (b1 b2 : Bool) (a1 : δ) (a2 : γ) (hb : b1 = b2) (ha : a1 = g a2) :
    (if b1 = true then some a1 else none) = Option.map g (if b2 = true then some a2 else none) := by
  subst hb ha
  cases b1 <;> rfl

theorem aligned_map {α β : Type} (f : α → β) (z : α) (c : SrrConfig) (m : Rat) (layers : List (Arr2 α)) :
    aligned (f z) c m (layers.map (Arr2.map f)) = (aligned z c m layers).map (Arr3.map f) := by
  unfold aligned
  simp only [List.getElem?_map, List.length_map]
  cases h0 : layers[0]? with
  | none => simp
  | some d0 =>
    cases h1 : layers[1]? with
    | none => simp
    | some d1 =>
      refine ite_map_aux _ _ _ _ _ ?_ ?_
      · congr 1
        funext i
        cases layers[i]? with
        | none => rfl
        | some l => simp only [Option.map_some, prepLayer_map]; rfl
      · simp only [Arr3.map]
        congr 1
        funext r cc i
        cases layers[i]? with
        | none => rfl
        | some l => simp only [Option.map_some, prepLayer_map]; rfl

theorem subpixelOffset_map {α β : Type} (f : α → β) (z : α) (x : Arr3 α) (offs : List (Nat × Nat)) (ps : Nat × Nat) :
    subpixelOffset (f z) (x.map f) offs ps = (subpixelOffset z x offs ps).map (Arr3.map f) := by
  unfold subpixelOffset
  by_cases he : (effOffsets offs).isEmpty = true
  · simp [he]
  · simp only [he]
    refine ite_map_aux _ _ _ _ _ rfl ?_
    simp only [Arr3.map]
    congr 1
    funext r cc i
    exact (apply_ite f _ _ _).symm

end Srr
end Pew
