import PewModel.Imzml
import Mathlib.Data.List.Find
import Mathlib.Data.List.Induction

/-! C05: `ImzML.spectra` and the image methods. The dict and the placement loop are left folds, the lookups (`specAt`,
`lastAt`) take the last match `l.reverse.find? p`: the last write wins in all of them, each has a step lemma for
`l ++ [a]`, and what is proved of them goes by induction on the last element. -/
namespace Pew.Imzml

theorem findLast_append_one {α} (p : α → Bool) (l : List α) (a : α) :
    (l ++ [a]).reverse.find? p = if p a then some a else l.reverse.find? p := by
  rw [List.reverse_append, List.reverse_singleton, List.singleton_append, List.find?_cons]
  cases p a <;> rfl

theorem specAt_append_one (l : List Spectrum) (s : Spectrum) (r c : Nat) :
    specAt (l ++ [s]) r c = if (s.y == (r : Int) + 1 && s.x == (c : Int) + 1) then some s else specAt l r c :=
  findLast_append_one _ l s

theorem lastAt_append_one (shape : Nat × Nat) (d : List Spectrum) (s : Spectrum) (r c : Nat) :
    lastAt shape (d ++ [s]) r c =
      if (pyIndex shape.1 (s.y - 1) == some r && pyIndex shape.2 (s.x - 1) == some c) then some s
      else lastAt shape d r c :=
  findLast_append_one _ d s

theorem pyIndex_of_nonneg {n : Nat} {i : Int} (h0 : 0 ≤ i) (h : i < n) : pyIndex n i = some i.toNat := by
  rw [pyIndex, if_pos h0, if_pos h]

theorem pyIndex_of_neg {n : Nat} {i : Int} (h0 : i < 0) (h : -(n : Int) ≤ i) : pyIndex n i = some (i + n).toNat := by
  rw [pyIndex, if_neg (Int.not_le.mpr h0), if_pos h]

theorem pyIndex_eq_none {n : Nat} {i : Int} (h : i < -(n : Int) ∨ (n : Int) ≤ i) : pyIndex n i = none := by
  rcases h with h | h
  · rw [pyIndex, if_neg (by omega), if_neg (by omega)]
  · rw [pyIndex, if_pos (by omega), if_neg (by omega)]

theorem pyIndex_eq_none_iff (n : Nat) (i : Int) : pyIndex n i = none ↔ i < -(n : Int) ∨ (n : Int) ≤ i := by
  refine ⟨fun h => ?_, pyIndex_eq_none⟩
  by_contra hc
  by_cases h0 : 0 ≤ i
  · rw [pyIndex_of_nonneg h0 (by omega)] at h; cases h
  · rw [pyIndex_of_neg (by omega) (by omega)] at h; cases h

theorem pyIndex_eq_some_iff (n : Nat) (i : Int) (k : Nat) :
    pyIndex n i = some k ↔ ((0 ≤ i ∧ i < n ∧ (k : Int) = i) ∨ (i < 0 ∧ -(n : Int) ≤ i ∧ (k : Int) = i + n)) := by
  constructor
  · intro hk
    by_cases h0 : 0 ≤ i
    · by_cases h : i < n
      · rw [pyIndex_of_nonneg h0 h] at hk
        exact Or.inl ⟨h0, h, by rw [← Option.some.inj hk, Int.toNat_of_nonneg h0]⟩
      · rw [pyIndex_eq_none (Or.inr (Int.not_lt.mp h))] at hk; cases hk
    · by_cases h : -(n : Int) ≤ i
      · rw [pyIndex_of_neg (Int.not_le.mp h0) h] at hk
        exact Or.inr ⟨Int.not_le.mp h0, h, by rw [← Option.some.inj hk, Int.toNat_of_nonneg (by omega)]⟩
      · rw [pyIndex_eq_none (Or.inl (Int.not_le.mp h))] at hk; cases hk
  · rintro (⟨h0, h, hk⟩ | ⟨h0, h, hk⟩)
    · rw [pyIndex_of_nonneg h0 h, ← hk, Int.toNat_natCast]
    · rw [pyIndex_of_neg h0 h, ← hk, Int.toNat_natCast]

theorem pyIndex_lt {n : Nat} {i : Int} {k : Nat} (h : pyIndex n i = some k) : k < n := by
  have := (pyIndex_eq_some_iff n i k).mp h
  omega

/-- one axis of `lastAt_eq_specAt`: inside the image the subscript test of `lastAt` is the position test of `specAt`
(each an operand of `&&` under `find?`, hence an equation of `Bool`s) -/
theorem pyIndex_in_domain {n : Nat} {i : Int} (h1 : 1 ≤ i) (h2 : i ≤ n) (r : Nat) :
    (pyIndex n (i - 1) == some r) = (i == (r : Int) + 1) := by
  have h0 : 0 ≤ i - 1 := Int.sub_nonneg_of_le h1
  rw [pyIndex_of_nonneg h0 (Int.sub_one_lt_of_le h2), Bool.eq_iff_iff, beq_iff_eq, beq_iff_eq, Option.some.injEq]
  constructor
  · intro h; rw [← h, Int.toNat_of_nonneg h0, Int.sub_add_cancel]
  · intro h; rw [h, Int.add_sub_cancel, Int.toNat_natCast]

theorem samePos_iff (s t : Spectrum) : samePos s t = true ↔ s.x = t.x ∧ s.y = t.y := by
  simp [samePos]

theorem samePos_comm (s t : Spectrum) : samePos s t = samePos t s := by
  simp only [samePos, BEq.comm]

/-- what `dictSet` writes at the place of `t` has the position of `t` -/
theorem samePos_update (s t u : Spectrum) : samePos (if samePos s t = true then s else t) u = samePos t u := by
  split
  · rename_i h
    rw [samePos_iff] at h
    rw [samePos, samePos, h.1, h.2]
  · rfl

theorem spectraDict_append_one (file : List Spectrum) (s : Spectrum) :
    spectraDict (file ++ [s]) = dictSet (spectraDict file) s := by
  simp [spectraDict]

theorem mem_dictSet {d : List Spectrum} {s t : Spectrum} (h : t ∈ dictSet d s) : t ∈ d ∨ t = s := by
  unfold dictSet at h
  split at h
  · obtain ⟨u, hu, rfl⟩ := List.mem_map.mp h
    split
    · right; rfl
    · left; exact hu
  · rcases List.mem_append.mp h with h | h
    · left; exact h
    · right; simpa using h

theorem mem_spectraDict {file : List Spectrum} {t : Spectrum} (h : t ∈ spectraDict file) : t ∈ file := by
  induction file using List.reverseRecOn with
  | nil => simp [spectraDict] at h
  | append_singleton file s ih =>
    rw [spectraDict_append_one] at h
    rcases mem_dictSet h with h | h
    · exact List.mem_append_left _ (ih h)
    · subst h; simp

theorem dictSet_ne_nil (d : List Spectrum) (s : Spectrum) : dictSet d s ≠ [] := by
  unfold dictSet
  split
  · rename_i h
    intro hc
    rw [List.map_eq_nil_iff] at hc
    subst hc
    simp at h
  · simp

theorem spectraDict_ne_nil {file : List Spectrum} (h : file ≠ []) : spectraDict file ≠ [] := by
  induction file using List.reverseRecOn with
  | nil => exact absurd rfl h
  | append_singleton file s _ =>
    rw [spectraDict_append_one]
    exact dictSet_ne_nil _ _

/-- looking a position up in the dict after `spectra[(s.x, s.y)] = s`; `p` tests for one position -/
theorem findLast_dictSet (p : Spectrum → Bool) (hp : ∀ s t, samePos s t = true → p s = p t)
    (hp2 : ∀ s t, p s = true → p t = true → samePos s t = true) (d : List Spectrum) (s : Spectrum) :
    (dictSet d s).reverse.find? p = if p s then some s else d.reverse.find? p := by
  unfold dictSet
  split
  · rename_i hany
    obtain ⟨t, ht, hst⟩ := List.any_eq_true.mp hany
    -- by `hp` the replacement changes `p` of no entry, so the search stops at the same entry `u`; that entry is the
    -- replaced one exactly when `p s` (`hp2`, `hp`), and no entry found means `p t`, hence `p s`, is false
    rw [← List.map_reverse, List.find?_map, List.find?_congr (p₂ := p) fun u _ => by
      simp only [Function.comp]; split; exacts [hp s u ‹_›, rfl]]
    cases hf : d.reverse.find? p with
    | none =>
      have hpt := List.find?_eq_none.mp hf t (List.mem_reverse.mpr ht)
      rw [if_neg ((hp s t hst).symm ▸ hpt)]
      rfl
    | some u =>
      have hpu : p u = true := List.find?_some hf
      by_cases hps : p s = true
      · rw [if_pos hps, Option.map_some, if_pos (hp2 s u hps hpu)]
      · rw [if_neg hps, Option.map_some, if_neg fun h => hps ((hp s u h).trans hpu)]
  · exact findLast_append_one p d s

theorem specAt_dictSet (d : List Spectrum) (s : Spectrum) (r c : Nat) :
    specAt (dictSet d s) r c = if (s.y == (r : Int) + 1 && s.x == (c : Int) + 1) then some s else specAt d r c := by
  refine findLast_dictSet _ (fun a b hab => ?_) (fun a b ha hb => ?_) d s
  · rw [((samePos_iff a b).mp hab).1, ((samePos_iff a b).mp hab).2]
  · simp only [Bool.and_eq_true, beq_iff_eq] at ha hb
    exact (samePos_iff a b).mpr ⟨ha.2.trans hb.2.symm, ha.1.trans hb.1.symm⟩

abbrev DistinctPos (l : List Spectrum) : Prop := l.Pairwise fun a b => samePos a b = false

theorem distinctB_iff (l : List Spectrum) : distinctB l = true ↔ DistinctPos l := by
  induction l with
  | nil => simp [distinctB]
  | cons s r ih => simp [distinctB, ih]

theorem spectraDict_of_distinctPos (file : List Spectrum) (h : DistinctPos file) : spectraDict file = file := by
  induction file using List.reverseRecOn with
  | nil => rfl
  | append_singleton file s ih =>
    obtain ⟨h1, _, h2⟩ := List.pairwise_append.mp h
    rw [spectraDict_append_one, ih h1, dictSet, if_neg]
    intro hc
    obtain ⟨t, ht, hst⟩ := List.any_eq_true.mp hc
    rw [samePos_comm, h2 t ht s (List.mem_singleton_self s)] at hst
    cases hst

theorem dictSet_distinctPos (d : List Spectrum) (s : Spectrum) (h : DistinctPos d) : DistinctPos (dictSet d s) := by
  unfold dictSet
  split
  · exact List.pairwise_map.mpr
      (h.imp fun hab => by rw [samePos_update, samePos_comm, samePos_update, samePos_comm]; exact hab)
  · rename_i hany
    refine List.pairwise_append.mpr ⟨h, List.pairwise_singleton _ _, fun a ha b hb => ?_⟩
    rw [List.mem_singleton.mp hb, samePos_comm]
    exact Bool.eq_false_iff.mpr fun hc => hany (List.any_eq_true.mpr ⟨a, ha, hc⟩)

theorem spectraDict_distinctPos (file : List Spectrum) : DistinctPos (spectraDict file) := by
  induction file using List.reverseRecOn with
  | nil => exact List.Pairwise.nil
  | append_singleton file s ih =>
    rw [spectraDict_append_one]
    exact dictSet_distinctPos _ _ ih

theorem place_append_one {β} (shape : Nat × Nat) (f : Spectrum → β) (d : List Spectrum) (s : Spectrum) :
    place shape f (d ++ [s]) = placeStep shape f (place shape f d) s := by
  simp [place]

theorem placeStep_eq_none_iff {β} (shape : Nat × Nat) (f : Spectrum → β) (o : Option (Canvas β)) (s : Spectrum) :
    placeStep shape f o s = none ↔
      o = none ∨ pyIndex shape.1 (s.y - 1) = none ∨ pyIndex shape.2 (s.x - 1) = none := by
  unfold placeStep
  cases o <;> cases pyIndex shape.1 (s.y - 1) <;> cases pyIndex shape.2 (s.x - 1) <;> simp

theorem place_eq_none_iff {β} (shape : Nat × Nat) (f : Spectrum → β) (d : List Spectrum) :
    place shape f d = none ↔
      ∃ s ∈ d, pyIndex shape.1 (s.y - 1) = none ∨ pyIndex shape.2 (s.x - 1) = none := by
  induction d using List.reverseRecOn with
  | nil => simp [place]
  | append_singleton d s ih =>
    rw [place_append_one, placeStep_eq_none_iff, ih]
    simp only [List.mem_append, List.mem_singleton, or_and_right, exists_or, exists_eq_left]

theorem place_some_pixel {β} (shape : Nat × Nat) (f : Spectrum → β) (d : List Spectrum) (img : Canvas β)
    (h : place shape f d = some img) (r c : Nat) : img r c = (lastAt shape d r c).map f := by
  induction d using List.reverseRecOn generalizing img with
  | nil => cases h; rfl
  | append_singleton d s ih =>
    rw [place_append_one] at h
    unfold placeStep at h
    split at h
    · next img0 r0 c0 h0 hr hc =>
      obtain rfl := Option.some.inj h
      rw [lastAt_append_one, hr, hc]
      simp only [Canvas.set]
      by_cases hrc : r = r0 ∧ c = c0
      · obtain ⟨rfl, rfl⟩ := hrc
        simp
      · have : ¬ ((some r0 == some r && some c0 == some c) = true) := by
          simp only [Bool.and_eq_true, beq_iff_eq, Option.some.injEq]
          intro ⟨h1, h2⟩; exact hrc ⟨h1.symm, h2.symm⟩
        rw [if_neg hrc, if_neg this]
        exact ih img0 h0
    · cases h

theorem lastAt_eq_specAt (shape : Nat × Nat) (d : List Spectrum) (hd : InDomain shape d) (r c : Nat) :
    lastAt shape d r c = specAt d r c := by
  apply List.find?_congr
  intro s hs
  obtain ⟨hx1, hx2, hy1, hy2⟩ := hd s (List.mem_reverse.mp hs)
  rw [pyIndex_in_domain hy1 hy2, pyIndex_in_domain hx1 hx2]

theorem inDomainB_iff (shape : Nat × Nat) (l : List Spectrum) : inDomainB shape l = true ↔ InDomain shape l := by
  simp only [inDomainB, InDomain, List.all_eq_true, Bool.and_eq_true, decide_eq_true_eq, and_assoc]

instance (shape : Nat × Nat) (l : List Spectrum) : Decidable (InDomain shape l) :=
  decidable_of_iff _ (inDomainB_iff shape l)

theorem maxInt_spec {l : List Int} (hl : l ≠ []) : maxInt l ∈ l ∧ ∀ y ∈ l, y ≤ maxInt l := by
  cases l with
  | nil => exact absurd rfl hl
  | cons x xs => exact List.max?_eq_some_iff.mp List.max?_cons'

/-- one axis of `image_size_fallback`: the maximum is `≥ 0`, so `shapeOf` succeeds, and its `toNat` is the axis length
that `InDomain` compares with -/
theorem maxInt_map_bound {d : List Spectrum} (hne : d ≠ []) (g : Spectrum → Int) (hpos : ∀ s ∈ d, 1 ≤ g s) :
    0 ≤ maxInt (d.map g) ∧ (∀ s ∈ d, g s ≤ ((maxInt (d.map g)).toNat : Int)) ∧
      ∃ s ∈ d, g s = ((maxInt (d.map g)).toNat : Int) := by
  obtain ⟨hm, hle⟩ := maxInt_spec (l := d.map g) (mt List.map_eq_nil_iff.mp hne)
  obtain ⟨s, hs, he⟩ := List.mem_map.mp hm
  have h0 : 0 ≤ maxInt (d.map g) := he ▸ le_trans Int.one_nonneg (hpos s hs)
  rw [Int.toNat_of_nonneg h0]
  exact ⟨h0, fun t ht => hle _ (List.mem_map_of_mem ht), s, hs, he⟩

theorem imageSize_none {d : List Spectrum} (hne : d ≠ []) :
    imageSize none d = some (maxInt (d.map (·.x)), maxInt (d.map (·.y))) := by
  cases d with
  | nil => exact absurd rfl hne
  | cons s r => rfl

end Pew.Imzml
