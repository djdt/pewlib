import PewProofs.LaserEditBuild

/-! C07, several lasers in one memory (`MWorld`, `mstep`).  A method of one laser (`put`) and a new laser (`push`) both leave
the world `Placed`; `Placed.frame` is the one frame argument: `hstep_spec` for the laser concerned, `view_ext` for the others.
Histories: `mstep_tracked`, then induction. -/
namespace Pew.LaserEdit

def Apart (a b : MObj) : Prop := a.cal ≠ b.cal ∧ a.data.apart b.data

theorem DataRef.apart_symm {a b : DataRef} (h : a.apart b) : b.apart a := by
  cases a <;> cases b <;> simp_all [DataRef.apart]
  exact fun e => h e.symm

theorem Apart.symm {a b : MObj} (h : Apart a b) : Apart b a := ⟨fun e => h.1 e.symm, DataRef.apart_symm h.2⟩

theorem MValid.valid {m : MWorld} (hv : MValid m) {i : Nat} {o : MObj} (hi : m.lasers[i]? = some o) :
    Valid (m.world o) := hv.1 o (List.mem_of_getElem? hi)

theorem MValid.below {m : MWorld} (hv : MValid m) {i : Nat} {o : MObj} (hi : m.lasers[i]? = some o) :
    o.data.below m.lists.length := hv.2.1 o (List.mem_of_getElem? hi)

theorem MValid.apart {m : MWorld} (hv : MValid m) {i j : Nat} {oi oj : MObj} (hi : m.lasers[i]? = some oi)
    (hj : m.lasers[j]? = some oj) (hne : i ≠ j) : Apart oi oj := by
  have hp := List.pairwise_iff_getElem.1 hv.2.2
  obtain ⟨hi', rfl⟩ := List.getElem?_eq_some_iff.1 hi
  obtain ⟨hj', rfl⟩ := List.getElem?_eq_some_iff.1 hj
  rcases Nat.lt_or_gt_of_ne hne with h | h
  · exact hp i j hi' hj' h
  · exact Apart.symm (hp j i hj' hi' h)

theorem listOf_set_ne {m m' : MWorld} {k k' : Nat} {d : List Arr} (hl : m'.lists = m.lists.set k d) (hk : k ≠ k') :
    m'.listOf k' = m.listOf k' := by
  unfold MWorld.listOf; rw [hl, List.getElem?_set_ne hk]

theorem mvalid_of_index {m : MWorld}
    (h1 : ∀ (j : Nat) (o : MObj), m.lasers[j]? = some o → Valid (m.world o) ∧ o.data.below m.lists.length)
    (h2 : ∀ (a b : Nat) (oa ob : MObj), a ≠ b → m.lasers[a]? = some oa → m.lasers[b]? = some ob → Apart oa ob) :
    MValid m := by
  refine ⟨fun o ho => ?_, fun o ho => ?_, List.pairwise_iff_getElem.2 fun a b ha hb hab =>
    h2 a b _ _ (Nat.ne_of_lt hab) (List.getElem?_eq_getElem ha) (List.getElem?_eq_getElem hb)⟩
  · obtain ⟨j, hj⟩ := List.mem_iff_getElem?.1 ho; exact (h1 j o hj).1
  · obtain ⟨j, hj⟩ := List.mem_iff_getElem?.1 ho; exact (h1 j o hj).2

/-- what `put` (a method has run) and `push` (a new laser joins) have in common -/
structure Placed (m : MWorld) (i : Nat) (w : World) (m' : MWorld) (o' : MObj) : Prop where
  at_i : m'.lasers[i]? = some o'
  at_ne : ∀ j, j ≠ i → m'.lasers[j]? = m.lasers[j]?
  world : m'.world o' = w
  cal : o'.cal = w.laser.cal
  heap : m'.heap = w.heap
  others : ∀ j oj, j ≠ i → m.lasers[j]? = some oj →
    m'.world oj = ⟨w.heap, (m.world oj).laser⟩ ∧ oj.data.apart o'.data
  below : o'.data.below m'.lists.length
  lists_le : m.lists.length ≤ m'.lists.length
  listOf : ∀ k, o'.data ≠ .list k → m'.listOf k = m.listOf k

namespace Placed
variable {m m' : MWorld} {i : Nat} {w : World} {o' : MObj}

theorem mview_self (p : Placed m i w m' o') : mview m' i = some (view w) := by
  simp only [mview, p.at_i, Option.map_some, p.world]

theorem lookup (p : Placed m i w m' o') {j : Nat} {x : MObj} (hx : m'.lasers[j]? = some x) :
    (j = i ∧ x = o') ∨ (j ≠ i ∧ m.lasers[j]? = some x) := by
  by_cases hj : j = i
  · subst hj; exact .inl ⟨rfl, Option.some.inj (hx.symm.trans p.at_i)⟩
  · exact .inr ⟨hj, (p.at_ne j hj).symm.trans hx⟩

theorem frame (p : Placed m i w m' o') (hv : MValid m) (hw : Valid w) {d : Option Nat} (he : Ext d m.heap w.heap)
    (hd : ∀ j oj, j ≠ i → m.lasers[j]? = some oj → some oj.cal ≠ d ∧ oj.cal ≠ w.laser.cal) :
    (∀ j oj, j ≠ i → m.lasers[j]? = some oj → view (m'.world oj) = view (m.world oj)) ∧
    (∀ j, j ≠ i → mview m' j = mview m j) ∧ MValid m' := by
  have hold : ∀ j oj, j ≠ i → m.lasers[j]? = some oj →
      view (m'.world oj) = view (m.world oj) ∧ Valid (m'.world oj) := fun j oj hj hoj => by
    rw [(p.others j oj hj hoj).1]
    exact view_ext (hv.valid hoj) he (hd j oj hj hoj).1
  refine ⟨fun j oj hj hoj => (hold j oj hj hoj).1, fun j hj => ?_, mvalid_of_index (fun j x hx => ?_) ?_⟩
  · unfold mview
    rw [p.at_ne j hj]
    exact Option.map_congr fun oj hoj => (hold j oj hj hoj).1
  · rcases p.lookup hx with ⟨_, rfl⟩ | ⟨hj, hx⟩
    · exact ⟨p.world ▸ hw, p.below⟩
    · refine ⟨(hold j x hj hx).2, ?_⟩
      have := hv.below hx
      cases hxd : x.data with
      | own ls => trivial
      | list k => rw [hxd] at this; exact Nat.lt_of_lt_of_le this p.lists_le
  · have key : ∀ b ob, b ≠ i → m.lasers[b]? = some ob → Apart ob o' := fun b ob hb hob =>
      ⟨p.cal ▸ (hd b ob hb hob).2, (p.others b ob hb hob).2⟩
    intro a b oa ob hab ha hb
    rcases p.lookup ha with ⟨rfl, rfl⟩ | ⟨hai, ha⟩ <;> rcases p.lookup hb with ⟨rfl, rfl⟩ | ⟨hbi, hb⟩
    · exact absurd rfl hab
    · exact (key b ob hbi hb).symm
    · exact key a oa hai ha
    · exact hv.apart ha hb hab

theorem frame_new (p : Placed m m.lasers.length w m' o') (hv : MValid m) (f : Fresh m.heap w) :
    (∀ j, j < m.lasers.length → mview m' j = mview m j) ∧ MValid m' := by
  obtain ⟨_, f2, f3⟩ := p.frame hv f.valid f.ext fun j oj _ hoj =>
    ⟨nofun, fun e => Nat.lt_irrefl _ (Nat.lt_of_lt_of_le (e ▸ (hv.valid hoj).1) f.dict)⟩
  exact ⟨fun j hj => f2 j (Nat.ne_of_lt hj), f3⟩

theorem sep (p : Placed m i w m' o') (hv : MValid m) {d : Option Nat} (he : Ext d m.heap w.heap)
    (hd : ∀ j oj, j ≠ i → m.lasers[j]? = some oj → some oj.cal ≠ d) {F : Foreign} {L : List Nat} (hs : MSep F L m)
    (hw : Sep F w) (hL : ∀ k ∈ L, o'.data ≠ .list k) : MSep F L m' := by
  refine ⟨fun x hx => ?_, fun k hk => Nat.lt_of_lt_of_le (hs.2.1 k hk) p.lists_le, fun x hx k hk => ?_⟩ <;>
    obtain ⟨j, hj⟩ := List.mem_iff_getElem?.1 hx <;> rcases p.lookup hj with ⟨_, rfl⟩ | ⟨hji, hj⟩
  · exact p.world ▸ hw
  · rw [(p.others j x hji hj).1]
    exact sep_ext (hv.valid hj) (hs.1 x (List.mem_of_getElem? hj)) he (hd j x hji hj)
  · exact hL k hk
  · exact hs.2.2 x (List.mem_of_getElem? hj) k hk
end Placed

theorem put_other (m : MWorld) (i : Nat) (o : MObj) (w : World) {oj : MObj} (hap : o.data.apart oj.data) :
    (m.put i o w).world oj = ⟨w.heap, (m.world oj).laser⟩ := by
  cases hd : o.data with
  | own ls => simp only [MWorld.put, hd, MWorld.world]; rfl
  | list k =>
    simp only [MWorld.put, hd, MWorld.world]
    cases hj : oj.data with
    | own ls => rfl
    | list k' =>
      have hne : k ≠ k' := by rw [hd, hj] at hap; exact hap
      exact congrArg (fun x => (⟨w.heap, ⟨oj.srr, x, oj.cal, oj.cfg⟩⟩ : World)) (listOf_set_ne rfl hne)

theorem put_placed {m : MWorld} (hv : MValid m) {i : Nat} {o : MObj} (hi : m.lasers[i]? = some o) {w : World}
    (hsrr : w.laser.srr = o.srr) :
    ∃ o', Placed m i w (m.put i o w) o' ∧ (m.put i o w).lasers.length = m.lasers.length ∧
      (m.put i o w).lists.length = m.lists.length ∧ ∀ k, o'.data = .list k ↔ o.data = .list k := by
  have hilt : i < m.lasers.length := (List.getElem?_eq_some_iff.1 hi).1
  have hoth : ∀ j oj, j ≠ i → m.lasers[j]? = some oj →
      (m.put i o w).world oj = ⟨w.heap, (m.world oj).laser⟩ ∧ o.data.apart oj.data :=
    fun j oj hj hoj => ⟨put_other m i o w (hv.apart hi hoj (fun e => hj e.symm)).2, (hv.apart hi hoj (fun e => hj e.symm)).2⟩
  have hbel := hv.below hi
  obtain ⟨wh, ⟨ws, wd, wc, wf⟩⟩ := w
  obtain ⟨os, od, oc, of⟩ := o
  cases hsrr
  cases od with
  | own ls =>
    exact ⟨⟨ws, .own wd, wc, wf⟩, ⟨List.getElem?_set_self hilt, fun j hj => List.getElem?_set_ne (fun e => hj e.symm), rfl,
      rfl, rfl, fun j oj hj hoj => ⟨(hoth j oj hj hoj).1, by cases oj.data <;> trivial⟩, trivial, Nat.le_refl _,
      fun _ _ => rfl⟩, List.length_set, rfl, fun k => ⟨nofun, nofun⟩⟩
  | list k =>
    have hk : k < m.lists.length := hbel
    refine ⟨⟨ws, .list k, wc, wf⟩, ⟨List.getElem?_set_self hilt, fun j hj => List.getElem?_set_ne (fun e => hj e.symm), ?_,
      rfl, rfl, fun j oj hj hoj => ⟨(hoth j oj hj hoj).1, DataRef.apart_symm (hoth j oj hj hoj).2⟩, ?_, ?_,
      fun k' hk' => ?_⟩, List.length_set, List.length_set, fun _ => Iff.rfl⟩
    · show World.mk wh ⟨ws, ((m.lists.set k wd)[k]?).getD [], wc, wf⟩ = _
      rw [List.getElem?_set_self hk]; rfl
    · show k < (m.lists.set k wd).length
      rw [List.length_set]; exact hk
    · exact Nat.le_of_eq List.length_set.symm
    · exact listOf_set_ne rfl (fun e => hk' (by rw [e]))

theorem mstep_call {m : MWorld} {i : Nat} {o : MObj} (hi : m.lasers[i]? = some o) (op : HOp) :
    mstep m (.call i op) = (hstep (m.world o) op).map (m.put i o) := by
  simp only [mstep, hi]

theorem mstep_call_state {m : MWorld} {i : Nat} {o : MObj} (hi : m.lasers[i]? = some o) (op : HOp) :
    (mstep m (.call i op)).state = m.put i o (hstep (m.world o) op).state := by
  rw [mstep_call hi]; cases hstep (m.world o) op <;> rfl

theorem call_placed (m : MWorld) (hv : MValid m) {i : Nat} {o : MObj} (hi : m.lasers[i]? = some o) (op : HOp)
    (ha : ArgsOK m.heap op) (hc : op.isCall = true) {w' : World} (hw : (hstep (m.world o) op).state = w') :
    ∃ o', Placed m i w' (m.put i o w') o' ∧
      ((m.put i o w').lasers.length = m.lasers.length ∧ (m.put i o w').lists.length = m.lists.length ∧
        ∀ k, o'.data = .list k ↔ o.data = .list k) ∧
      ((∀ j oj, j ≠ i → m.lasers[j]? = some oj → view ((m.put i o w').world oj) = view (m.world oj)) ∧
        (∀ j, j ≠ i → mview (m.put i o w') j = mview m j) ∧ MValid (m.put i o w')) ∧
      Ext (some o.cal) m.heap w'.heap := by
  subst hw
  obtain ⟨_, hval', hkeeps⟩ := hstep_spec (m.world o) (hv.valid hi) op ha hc
  obtain ⟨o', p, q⟩ := put_placed hv hi hkeeps.srr
  refine ⟨o', p, q, p.frame hv hval' hkeeps.ext fun j oj hj hoj => ?_, hkeeps.ext⟩
  have hap := (hv.apart hi hoj (fun e => hj e.symm)).1
  -- another laser's dict is not `o.cal`, the one dict the call may write, and not the dict the call leaves laser `i`
  -- with: that is `o.cal` again or (`rename`) an object newer than every dict of `m`
  refine ⟨fun e => hap (Option.some.inj e).symm, fun e => ?_⟩
  rcases hkeeps.cal with h | h
  · exact hap (h.symm.trans e.symm)
  · exact absurd (hv.valid hoj).1 (Nat.not_lt.2 (by rw [show (m.world oj).laser.cal = oj.cal from rfl, e]; exact h))

theorem push_other (m : MWorld) (w : World) {oj : MObj} (hb : oj.data.below m.lists.length) :
    (m.push w).world oj = ⟨w.heap, (m.world oj).laser⟩ := by
  unfold MWorld.push
  split
  · simp only [MWorld.world]
    cases hj : oj.data with
    | own ls => rfl
    | list k =>
      have hk : k < m.lists.length := by rw [hj] at hb; exact hb
      simp only [DataRef.layers, MWorld.listOf]
      rw [List.getElem?_append_left hk]
  · rfl

theorem push_placed (m : MWorld) (hv : MValid m) (w : World) :
    ∃ o', Placed m m.lasers.length w (m.push w) o' ∧ (m.push w).lasers = m.lasers ++ [o'] ∧ o'.cfg = w.laser.cfg ∧
      (w.laser.srr = true → o'.data = .list m.lists.length) ∧ ∀ k, k < m.lists.length → o'.data ≠ .list k := by
  have hoth : ∀ j oj, j ≠ m.lasers.length → m.lasers[j]? = some oj →
      (m.push w).world oj = ⟨w.heap, (m.world oj).laser⟩ := fun j oj _ hoj => push_other m w (hv.below hoj)
  have hne : ∀ {α : Type} (l : List α) (x : α) (j : Nat), j ≠ l.length → (l ++ [x])[j]? = l[j]? := fun l x j hj => by
    rcases Nat.lt_or_gt_of_ne hj with h | h
    · exact List.getElem?_append_left h
    · rw [List.getElem?_eq_none (by rw [List.length_append]; exact h), List.getElem?_eq_none (Nat.le_of_lt h)]
  obtain ⟨wh, ⟨ws, wd, wc, wf⟩⟩ := w
  cases ws with
  | true =>
    refine ⟨⟨true, .list m.lists.length, wc, wf⟩, ⟨List.getElem?_concat_length, hne _ _, ?_, rfl, rfl,
      fun j oj hj hoj => ⟨hoth j oj hj hoj, ?_⟩, ?_, ?_, fun k hk => ?_⟩, rfl, rfl, fun _ => rfl,
      fun k hk e => Nat.ne_of_lt hk (DataRef.list.inj e).symm⟩
    · show World.mk wh ⟨true, ((m.lists ++ [wd])[m.lists.length]?).getD [], wc, wf⟩ = _
      rw [List.getElem?_concat_length]; rfl
    · have := hv.below hoj
      cases hd : oj.data with
      | own ls => trivial
      | list k => rw [hd] at this; exact Nat.ne_of_lt this
    · show m.lists.length < (m.lists ++ [wd]).length
      rw [List.length_append]; exact Nat.lt_succ_self _
    · show m.lists.length ≤ (m.lists ++ [wd]).length
      rw [List.length_append]; exact Nat.le_add_right _ _
    · exact congrArg (·.getD []) (hne m.lists wd k fun e => hk (by rw [e]))
  | false =>
    exact ⟨⟨false, .own wd, wc, wf⟩, ⟨List.getElem?_concat_length, hne _ _, rfl, rfl, rfl,
      fun j oj hj hoj => ⟨hoth j oj hj hoj, by cases oj.data <;> trivial⟩, trivial, Nat.le_refl _, fun _ _ => rfl⟩,
      rfl, rfl, nofun, fun _ _ => nofun⟩

theorem mConstruct_spec {m m' : MWorld} (hv : MValid m) {srr : Bool} {data : DataRef} {given config : Option Nat}
    (hd : ∀ a ∈ data.layers m, ∀ e ∈ a.fields, e.2 < m.heap.cells.length)
    (hg : ∀ g, given = some g → ∀ e ∈ m.heap.dict g, e.2 < m.heap.cals.length)
    (hm : mConstruct m srr data given config = some m') :
    ∃ w o', Constructed m.heap srr (data.layers m) given config w ∧ Placed m m.lasers.length w m' o' ∧
      (m'.lasers = m.lasers ++ [o'] ∧ o'.cfg = w.laser.cfg ∧ (srr = true → o'.data = .list m.lists.length) ∧
        ∀ k, k < m.lists.length → o'.data ≠ .list k) ∧
      (∀ j, j < m.lasers.length → mview m' j = mview m j) ∧ MValid m' := by
  obtain ⟨w, hc, rfl⟩ := Option.map_eq_some_iff.1 hm
  have s := hConstruct_spec m.heap srr (data.layers m) given config w hd hg hc
  obtain ⟨o', p, q⟩ := push_placed m hv w
  exact ⟨w, o', s, p, s.srr_eq ▸ q, p.frame_new hv s.fresh⟩

theorem mLoad_eq {m : MWorld} {i : Nat} {o : MObj} (hi : m.lasers[i]? = some o) :
    mLoad m i = (hRoundTrip (m.world o)).map m.push := by
  simp only [mLoad, hi]

theorem DataRef.layers_congr {m m' : MWorld} {data : DataRef} (h : ∀ k, data = .list k → m'.listOf k = m.listOf k) :
    data.layers m' = data.layers m := by
  cases data with
  | own ls => rfl
  | list k => exact h k rfl

theorem args_kept {m m1 : MWorld} (hext : Ext none m.heap m1.heap) (hlen : m.lists.length ≤ m1.lists.length)
    (hlist : ∀ k, k < m.lists.length → m1.listOf k = m.listOf k) {data : DataRef} {given config : Option Nat}
    (hd : ∀ a ∈ data.layers m, ∀ e ∈ a.fields, e.2 < m.heap.cells.length) (hk : data.below m.lists.length)
    (hg : ∀ g, given = some g → g < m.heap.dicts.length ∧ ∀ e ∈ m.heap.dict g, e.2 < m.heap.cals.length)
    (hcf : ∀ c, config = some c → c < m.heap.cfgs.length) :
    data.layers m1 = data.layers m ∧ data.below m1.lists.length ∧
    (∀ a ∈ data.layers m1, ∀ e ∈ a.fields, e.2 < m1.heap.cells.length) ∧
    (∀ g, given = some g → ∀ e ∈ m1.heap.dict g, e.2 < m1.heap.cals.length) ∧
    (data.layers m1).map (viewLayer m1.heap) = (data.layers m).map (viewLayer m.heap) ∧
    given.map (fun g => viewDict m1.heap (m1.heap.dict g)) = given.map (fun g => viewDict m.heap (m.heap.dict g)) ∧
    (config.map fun k => (m1.heap.cfgOf k).scal) = config.map fun k => (m.heap.cfgOf k).scal := by
  have hB : data.layers m1 = data.layers m := DataRef.layers_congr fun k e => hlist k (by subst e; exact hk)
  have hk1 : data.below m1.lists.length := by
    cases data with
    | own ls => simp [DataRef.below]
    | list k => simp only [DataRef.below] at hk ⊢; omega
  have hd1 : ∀ a ∈ data.layers m1, ∀ e ∈ a.fields, e.2 < m1.heap.cells.length := by
    rw [hB]; exact fun a ha e he => Nat.lt_of_lt_of_le (hd a ha e he) hext.cells_le
  have hdict : ∀ g, given = some g → m1.heap.dict g = m.heap.dict g :=
    fun g hgg => hext.dict (hg g hgg).1 (by simp)
  have hg1 : ∀ g, given = some g → ∀ e ∈ m1.heap.dict g, e.2 < m1.heap.cals.length := by
    intro g hgg e he
    rw [hdict g hgg] at he
    exact Nat.lt_of_lt_of_le ((hg g hgg).2 e he) hext.cals_le
  have hA : (data.layers m1).map (viewLayer m1.heap) = (data.layers m).map (viewLayer m.heap) := by
    rw [hB]; exact hext.viewLayers hd
  have hG : given.map (fun g => viewDict m1.heap (m1.heap.dict g)) =
      given.map (fun g => viewDict m.heap (m.heap.dict g)) := by
    cases given with
    | none => rfl
    | some g => exact congrArg some ((congrArg (viewDict m1.heap) (hdict g rfl)).trans (hext.viewDict (hg g rfl).2))
  have hC : (config.map fun k => (m1.heap.cfgOf k).scal) = config.map fun k => (m.heap.cfgOf k).scal := by
    cases config with
    | none => rfl
    | some c => exact congrArg (fun x => some (Cfg.scal x)) (hext.cfgOf (hcf c rfl))
  exact ⟨hB, hk1, hd1, hg1, hA, hG, hC⟩

theorem world_setList (m : MWorld) (k : Nat) (l : List Arr) (o : MObj) (hne : o.data ≠ .list k) :
    ({ m with lists := m.lists.set k l } : MWorld).world o = m.world o := by
  simp only [MWorld.world]
  cases hd : o.data with
  | own ls => rfl
  | list k' =>
    have : k ≠ k' := fun e => hne (by rw [hd, e])
    exact congrArg (fun x => (⟨m.heap, ⟨o.srr, x, o.cal, o.cfg⟩⟩ : World)) (listOf_set_ne rfl this)

structure MTracked (F : Foreign) (L : List Nat) (h0 : Heap) (m : MWorld) : Prop where
  valid : MValid m
  sep : MSep F L m
  stable : Stable F h0 m.heap

theorem mstep_tracked {F : Foreign} {L : List Nat} {h0 : Heap} {m m1 : MWorld} {op : MOp} (t : MTracked F L h0 m)
    (ha : MAllowed F L h0 op) (hs : mstep m op = .ok m1) :
    (∀ (j : Nat) (o : MObj), m.lasers[j]? = some o → ∃ o', m1.lasers[j]? = some o' ∧
      step (view (m.world o)) (projOp h0 j op) = some (view (m1.world o'))) ∧
    m1.lasers.length = m.lasers.length ∧
    (∀ k ∈ L, (∀ l, op ≠ .setList k l) → m1.listOf k = m.listOf k) ∧ MTracked F L h0 m1 := by
  obtain ⟨hv, hsep, hst⟩ := t
  cases op with
  | construct srr data given config => exact ha.elim
  | load i => exact ha.elim
  | call i cop =>
    obtain ⟨hc, hal⟩ := ha
    cases hoi : m.lasers[i]? with
    | none => simp [mstep, hoi] at hs
    | some o =>
      have hom := List.mem_of_getElem? hoi
      rw [mstep_call hoi] at hs
      cases hw1 : hstep (m.world o) cop with
      | fail e w1 => rw [hw1] at hs; cases hs
      | ok w1 =>
        rw [hw1] at hs
        cases hs
        obtain ⟨o1, p, ⟨q1, _, q3⟩, ⟨f1, _, f3⟩, hext⟩ :=
          call_placed m hv hoi cop (Allowed.argsOK hst hal) hc (w' := w1) (by rw [hw1]; rfl)
        obtain ⟨s1, t1⟩ := hstep_tracked ⟨hv.valid hoi, hsep.1 o hom, hst⟩ hal hw1
        have hown : ∀ k ∈ L, o1.data ≠ .list k := fun k hk => mt (q3 k).1 (hsep.2.2 o hom k hk)
        refine ⟨fun j oj hoj => ?_, q1, fun k hk _ => p.listOf k (hown k hk), f3, ?_, hst.of_ext (p.heap ▸ hext)⟩
        · by_cases hji : j = i
          · subst hji
            cases hoi.symm.trans hoj
            exact ⟨o1, p.at_i, by rw [p.world]; simpa [projOp] using s1⟩
          · exact ⟨oj, (p.at_ne j hji).trans hoj,
              by simp only [projOp, if_neg (fun e : i = j => hji e.symm), step]; rw [f1 j oj hji hoj]⟩
        · exact p.sep hv hext
            (fun j oj hj hoj e => (hv.apart hoi hoj (fun e => hj e.symm)).1 (Option.some.inj e).symm) hsep t1.sep hown
  | edit eop =>
    obtain ⟨hc, hal⟩ := ha
    cases hs
    have hone := fun o (ho : o ∈ m.lasers) => foreign_edit (hv.1 o ho) (hsep.1 o ho) hal hc
    exact ⟨fun j oj hoj => ⟨oj, hoj, (congrArg some (hone oj (List.mem_of_getElem? hoj)).1).symm⟩, rfl, fun _ _ _ => rfl,
      ⟨fun o ho => (hone o ho).2.1, hv.2.1, hv.2.2⟩, ⟨fun o ho => (hone o ho).2.2, hsep.2.1, hsep.2.2⟩,
      stable_edit hst hal hc⟩
  | setList k l =>
    cases hs
    have hone : ∀ o ∈ m.lasers, ({ m with lists := m.lists.set k l } : MWorld).world o = m.world o :=
      fun o ho => world_setList m k l o (hsep.2.2 o ho k ha)
    refine ⟨fun j oj hoj => ⟨oj, hoj, by rw [hone oj (List.mem_of_getElem? hoj)]; rfl⟩, rfl, fun k' _ hne => ?_,
      ⟨fun o ho => by rw [hone o ho]; exact hv.1 o ho, fun o ho => ?_, hv.2.2⟩,
      ⟨fun o ho => by rw [hone o ho]; exact hsep.1 o ho, fun k' hk' => ?_, hsep.2.2⟩, hst⟩
    · exact listOf_set_ne rfl fun e => hne l (by rw [e])
    · rw [List.length_set]; exact hv.2.1 o ho
    · rw [List.length_set]; exact hsep.2.1 k' hk'

theorem multi_history_from (F : Foreign) (L : List Nat) (h0 : Heap) : ∀ (ops : List MOp) (m m' : MWorld),
    MTracked F L h0 m → (∀ op ∈ ops, MAllowed F L h0 op) → mrun m ops = some m' →
    (∀ (j : Nat) (o : MObj), m.lasers[j]? = some o → ∃ o', m'.lasers[j]? = some o' ∧
      run (view (m.world o)) (ops.map (projOp h0 j)) = some (view (m'.world o'))) ∧
    m'.lasers.length = m.lasers.length ∧
    (∀ k ∈ L, (∀ op ∈ ops, ∀ l, op ≠ .setList k l) → m'.listOf k = m.listOf k) ∧ MTracked F L h0 m'
  | [], m, m', t, _, hr => by cases hr; exact ⟨fun j o ho => ⟨o, ho, rfl⟩, rfl, fun _ _ _ => rfl, t⟩
  | op :: r, m, m', t, hall, hr => by
    rw [mrun] at hr
    cases hs : mstep m op with
    | fail e m1 => rw [hs] at hr; cases hr
    | ok m1 =>
      rw [hs] at hr
      obtain ⟨s1, s2, s3, t1⟩ := mstep_tracked t (hall op List.mem_cons_self) hs
      obtain ⟨i1, i2, i3, t'⟩ := multi_history_from F L h0 r m1 m' t1 (fun o ho => hall o (List.mem_cons_of_mem _ ho)) hr
      refine ⟨fun j o ho => ?_, i2.trans s2, fun k hk hkeep => ?_, t'⟩
      · obtain ⟨o1, ho1, hstp⟩ := s1 j o ho
        obtain ⟨o', ho', hrun⟩ := i1 j o1 ho1
        exact ⟨o', ho', by rw [List.map_cons, run, hstp]; exact hrun⟩
      · rw [i3 k hk fun o ho => hkeep o (List.mem_cons_of_mem _ ho)]
        exact s3 k hk (hkeep op List.mem_cons_self)

end Pew.LaserEdit
