import PewModel.Agilent
import PewProofs.SortKey
import Mathlib.Data.List.TakeWhile
import Mathlib.Data.List.Nodup
import Mathlib.Data.List.Induction
import Mathlib.Data.Int.Order.Basic

/-! C02, which lines in which order: closed forms of the readers that `collect_datafiles` chooses among (both log loops
are `keepLast` of a `filterMap`, the two sorts are THE stable sort resp. an ascending permutation) and of the selection
loop itself (`List.findSome?` over what one method yields). -/
namespace Pew.Agilent

section keepLast
variable {α : Type} [DecidableEq α]

theorem appendLast_eq (acc : List α) (p : α) : appendLast acc p = acc.erase p ++ [p] := by
  unfold appendLast
  split
  · rfl
  · rw [List.erase_of_not_mem ‹_›]

theorem mem_keepLast (l : List α) (x : α) : x ∈ keepLast l ↔ x ∈ l := by
  induction l with
  | nil => simp [keepLast]
  | cons y ys ih =>
    unfold keepLast
    split
    · rw [ih]; constructor
      · exact fun h => List.mem_cons_of_mem _ h
      · intro h; rcases List.mem_cons.mp h with rfl | h
        · assumption
        · exact h
    · simp [ih]

theorem keepLast_nodup (l : List α) : (keepLast l).Nodup := by
  induction l with
  | nil => simp [keepLast]
  | cons y ys ih =>
    unfold keepLast
    split
    · exact ih
    · exact List.nodup_cons.mpr ⟨by rwa [mem_keepLast], ih⟩

theorem keepLast_of_nodup (l : List α) (h : l.Nodup) : keepLast l = l := by
  induction l with
  | nil => rfl
  | cons y ys ih =>
    have := List.nodup_cons.mp h
    unfold keepLast
    rw [if_neg this.1, ih this.2]

theorem keepLast_append (l₁ l₂ : List α) :
    keepLast (l₁ ++ l₂) = (keepLast l₁).filter (fun a => decide (a ∉ l₂)) ++ keepLast l₂ := by
  induction l₁ with
  | nil => rfl
  | cons x xs ih =>
    rw [List.cons_append, keepLast, keepLast, ih]
    by_cases h1 : x ∈ xs
    · simp [h1]
    · by_cases h2 : x ∈ l₂ <;> simp [h1, h2]

theorem foldl_appendLast (l : List α) : l.foldl appendLast [] = keepLast l := by
  induction l using List.reverseRecOn with
  | nil => rfl
  | append_singleton l x ih =>
    -- `keepLast l` has no duplicates, so erasing `x` from it is filtering `x` out: `keepLast_append` with `l₂ = [x]`
    rw [List.foldl_append, List.foldl_cons, List.foldl_nil, ih, appendLast_eq, keepLast_append,
      (keepLast_nodup l).erase_eq_filter]
    congr 1
    exact List.filter_congr fun a _ => by simp [bne, beq_eq_decide]
end keepLast

theorem rfind_ge (c : Char) (s : Name) : -1 ≤ rfind c s := by
  induction s with
  | nil => simp [rfind]
  | cons x xs ih => simp only [rfind]; split <;> [omega; (split <;> omega)]

theorem rfind_lt (c : Char) (s : Name) : rfind c s < s.length := by
  induction s with
  | nil => rw [rfind]; decide
  | cons x xs ih => simp only [rfind, List.length_cons]; split <;> [omega; (split <;> omega)]

theorem rfind_of_not_mem {c : Char} {s : Name} (h : c ∉ s) : rfind c s = -1 := by
  induction s with
  | nil => rfl
  | cons x xs ih =>
    rw [rfind, ih (fun hm => h (List.mem_cons_of_mem _ hm)), if_neg (by decide),
      if_neg (fun e => h (List.mem_cons.mpr (Or.inl e.symm)))]

theorem rfind_append_of_not_mem {c : Char} (s : Name) {t : Name} (h : c ∉ t) : rfind c (s ++ t) = rfind c s := by
  induction s with
  | nil => exact rfind_of_not_mem h
  | cons x xs ih => rw [List.cons_append, rfind, rfind, ih]

theorem rfind_append_cons_self {c : Char} (pre : Name) {post : Name} (h : c ∉ post) :
    rfind c (pre ++ c :: post) = pre.length := by
  induction pre with
  | nil => rw [List.nil_append, rfind, rfind_of_not_mem h, if_neg (by decide), if_pos rfl]; rfl
  | cons x xs ih => rw [List.cons_append, rfind, ih, if_pos (Int.natCast_nonneg _)]; rfl

theorem drop_max_rfind {c c' : Char} (pre : Name) {post : Name} (h : c ∉ post) (h' : c' ∉ c :: post) :
    (pre ++ c :: post).drop (max (rfind c (pre ++ c :: post)) (rfind c' (pre ++ c :: post)) + 1).toNat = post := by
  have := rfind_lt c' pre
  rw [rfind_append_cons_self pre h, rfind_append_of_not_mem pre h', max_eq_left (by omega)]
  show (pre ++ c :: post).drop (pre.length + 1) = post
  rw [← List.drop_drop, List.drop_left]; rfl

theorem isSep_iff (c : Char) : isSep c = true ↔ c = '\\' ∨ c = '/' := by
  simp [isSep]

theorem basenameSpec_eq_of_split (pre post : Name) (c : Char) (hc : isSep c = true)
    (hpost : ∀ d ∈ post, isSep d = false) : basenameSpec (pre ++ c :: post) = post := by
  unfold basenameSpec
  rw [List.reverse_append, List.reverse_cons, List.append_assoc, List.takeWhile_append_of_pos]
  · simp [hc]
  · intro d hd
    have := hpost d (List.mem_reverse.mp hd)
    simp [this]

theorem basenameSpec_eq_self (s : Name) (h : ∀ d ∈ s, isSep d = false) : basenameSpec s = s := by
  unfold basenameSpec
  rw [List.takeWhile_eq_self_iff.mpr]
  · simp
  · intro d hd
    have := h d (List.mem_reverse.mp hd)
    simp [this]

theorem not_mem_of_not_sep {c : Char} (hc : isSep c = true) {post : Name} (h : ∀ d ∈ post, isSep d = false) : c ∉ post :=
  fun hm => by rw [h c hm] at hc; cases hc

theorem basename_of_split (pre : Name) {c : Char} {post : Name} (hc : isSep c = true)
    (hpost : ∀ d ∈ post, isSep d = false) : basename (pre ++ c :: post) = post := by
  have hb : '\\' ∉ post := not_mem_of_not_sep rfl hpost
  have hf : '/' ∉ post := not_mem_of_not_sep rfl hpost
  rcases (isSep_iff c).mp hc with rfl | rfl
  · exact drop_max_rfind pre hb (List.not_mem_cons_of_ne_of_not_mem (by decide) hf)
  · rw [basename, max_comm]
    exact drop_max_rfind pre hf (List.not_mem_cons_of_ne_of_not_mem (by decide) hb)

theorem basename_cases (s : Name) :
    ((∀ d ∈ s, isSep d = false) ∧ basename s = s ∧ basenameSpec s = s) ∨
    ∃ pre c post, s = pre ++ c :: post ∧ isSep c = true ∧ (∀ d ∈ post, isSep d = false) ∧
      basename s = post ∧ basenameSpec s = post := by
  induction s with
  | nil => exact Or.inl ⟨fun _ h => absurd h List.not_mem_nil, rfl, rfl⟩
  | cons x xs ih =>
    -- only the split at the last separator passes through the induction (`-`): the two values are computed anew for `x :: xs`
    rcases ih with ⟨h, -, -⟩ | ⟨pre, c, post, rfl, hc, hpost, -, -⟩
    · cases hx : isSep x with
      | false =>
        have hs : ∀ d ∈ x :: xs, isSep d = false := List.forall_mem_cons.mpr ⟨hx, h⟩
        refine Or.inl ⟨hs, ?_, basenameSpec_eq_self _ hs⟩
        rw [basename, rfind_of_not_mem (not_mem_of_not_sep rfl hs), rfind_of_not_mem (not_mem_of_not_sep rfl hs)]
        rfl
      | true => exact Or.inr ⟨[], x, xs, rfl, hx, h, basename_of_split [] hx h, basenameSpec_eq_of_split [] xs x hx h⟩
    · exact Or.inr ⟨x :: pre, c, post, rfl, hc, hpost, basename_of_split (x :: pre) hc hpost,
        basenameSpec_eq_of_split (x :: pre) post c hc hpost⟩

theorem basename_eq : basename = basenameSpec := by
  funext s
  rcases basename_cases s with ⟨-, h1, h2⟩ | ⟨_, _, _, -, -, -, h1, h2⟩ <;> rw [h1, h2]

theorem foldl_step_eq_keepLast {β : Type} (g : β → Option Name) (step : List Name → β → List Name)
    (hstep : ∀ acc b, step acc b = match g b with | some n => appendLast acc n | none => acc) (l : List β) :
    l.foldl step [] = keepLast (l.filterMap g) := by
  have h : ∀ acc, l.foldl step acc = (l.filterMap g).foldl appendLast acc := by
    induction l with
    | nil => exact fun _ => rfl
    | cons b bs ih =>
      intro acc
      rw [List.foldl_cons, ih, hstep, List.filterMap_cons]
      cases g b <;> rfl
  rw [h, foldl_appendLast]

theorem batchXml_eq (log : List LogEntry) : batchXml log = logSpec log :=
  foldl_step_eq_keepLast _ xmlStep
    (fun acc e => by unfold xmlStep; rw [basename_eq]; split <;> [cases e.file <;> rfl; rfl]) log

def csvLogNames (rows : List CsvRow) : List Name :=
  rows.filterMap (fun r => if r.result.take 4 = pass then some (basename (r.file.take 264)) else none)

theorem batchCsv_eq (rows : List CsvRow) : batchCsv rows = keepLast (csvLogNames rows) :=
  foldl_step_eq_keepLast _ csvStep (fun acc r => by unfold csvStep; split <;> rfl) rows

theorem csvLogNames_of_fit (rows : List CsvRow)
    (h : ∀ r ∈ rows, (r.result.take 4 = pass → r.result = pass) ∧ r.file.length ≤ 264) :
    csvLogNames rows = rows.filterMap fun r => if r.result = pass then some (basenameSpec r.file) else none := by
  refine List.filterMap_congr fun r hr => ?_
  rw [List.take_of_length_le (h r hr).2, basename_eq]
  exact if_congr ⟨(h r hr).1, fun e => by rw [e]; rfl⟩ rfl rfl

theorem csvLogNames_eq_passNames (log : List LogEntry) (rows : List CsvRow)
    (hsame : List.Forall₂ (fun e r => e.file = some r.file ∧ r.result = e.result) log rows)
    (hres : ∀ e ∈ log, e.result.take 4 = pass → e.result = pass)
    (hlen : ∀ r ∈ rows, r.file.length ≤ 264) :
    csvLogNames rows = passNames log := by
  -- `hsame` says that the log is the rows read back as entries
  obtain rfl : log = rows.map fun r => ⟨r.result, some r.file⟩ := by
    induction hsame with
    | nil => rfl
    | @cons e r _ _ h _ ih =>
      obtain ⟨_, _⟩ := e
      rw [List.map_cons, ← ih (fun e he => hres e (List.mem_cons_of_mem _ he)) fun r hr => hlen r (List.mem_cons_of_mem _ hr)]
      simp only at h
      rw [h.1, h.2]
  rw [csvLogNames_of_fit rows fun r hr => ⟨hres ⟨r.result, some r.file⟩ (List.mem_map_of_mem hr), hlen r hr⟩, passNames,
    List.filterMap_map]
  rfl

theorem csvLogNames_eq_spec (rows : List CsvRow)
    (h : ∀ r ∈ rows, (r.result.take 4 = pass → r.result = pass) ∧ r.file.length ≤ 264) :
    csvLogNames rows = (rows.filter (fun r => r.result = pass)).map (fun r => basenameSpec r.file) := by
  rw [csvLogNames_of_fit rows h, ← List.filterMap_eq_filter, List.map_filterMap]
  refine List.filterMap_congr fun r _ => ?_
  by_cases hp : r.result = pass <;> simp [Option.guard, hp]

theorem logSpec_of_clean (log : List LogEntry) (hpass : ∀ e ∈ log, e.result = pass) (hnodup : (log.map logName).Nodup) :
    logSpec log = (log.map logName).filterMap id := by
  have hnames : passNames log = (log.map logName).filterMap id := by
    rw [List.filterMap_map, passNames, ← basename_eq]
    exact List.filterMap_congr fun e he => if_pos (hpass e he)
  rw [logSpec, hnames]
  exact keepLast_of_nodup _ (hnodup.filterMap fun a a' b h1 h2 => (Option.mem_def.mp h1).trans (Option.mem_def.mp h2).symm)

section stable
variable {α : Type} (key : α → Int)

theorem sortByInt_stable (l : List α) : StableSortedBy key l (sortByInt key l) :=
  ⟨List.mergeSort_perm _ _, Pew.SortKey.sortKey_sorted key l, fun v =>
    Pew.MergeSort.filter_mergeSort (Pew.SortKey.keyLe_trans key) (Pew.SortKey.keyLe_total key) _ l
      -- the elements with key `v` are `≤` one another, so their group is sorted as it stands in `l`: all that stability asks
      fun a b ha hb => decide_eq_true (by rw [of_decide_eq_true ha, of_decide_eq_true hb])⟩

theorem head_key_le_of_groups (a b : α) (t₁ t₂ : List α) (h₁ : (a :: t₁).Pairwise (fun a b => key a ≤ key b))
    (h : (a :: t₁).filter (fun x => key x = key b) = (b :: t₂).filter (fun x => key x = key b)) : key a ≤ key b := by
  have hb : b ∈ (a :: t₁).filter (fun x => decide (key x = key b)) := by
    rw [h]; exact List.mem_filter.mpr ⟨List.mem_cons_self, decide_eq_true rfl⟩
  rcases List.mem_cons.mp (List.mem_filter.mp hb).1 with rfl | hb'
  · exact Int.le_refl _
  · exact (List.pairwise_cons.mp h₁).1 b hb'

theorem eq_of_sorted_of_groups : ∀ (s₁ s₂ : List α),
    s₁.Pairwise (fun a b => key a ≤ key b) → s₂.Pairwise (fun a b => key a ≤ key b) →
    (∀ v : Int, s₁.filter (fun a => key a = v) = s₂.filter (fun a => key a = v)) → s₁ = s₂
  | [], [], _, _, _ => rfl
  | [], b :: t, _, _, h => by
    have := h (key b)
    simp at this
  | a :: t, [], _, _, h => by
    have := h (key a)
    simp at this
  | a :: t₁, b :: t₂, h₁, h₂, h => by
    -- the heads have equal keys: `b` is in the second list's group of `key b`, hence in the first list, at or behind `a`,
    -- and symmetrically; the group of that key then begins with `a` in one list and with `b` in the other
    have hk : key a = key b :=
      Int.le_antisymm (head_key_le_of_groups key a b t₁ t₂ h₁ (h _)) (head_key_le_of_groups key b a t₂ t₁ h₂ (h _).symm)
    have h0 := h (key a)
    rw [List.filter_cons_of_pos (by simp), List.filter_cons_of_pos (by simp [hk])] at h0
    obtain rfl : a = b := (List.cons.inj h0).1
    congr 1
    apply eq_of_sorted_of_groups t₁ t₂ (List.pairwise_cons.mp h₁).2 (List.pairwise_cons.mp h₂).2
    intro v
    have hv := h v
    by_cases hav : key a = v
    · rw [List.filter_cons_of_pos (by simp [hav]), List.filter_cons_of_pos (by simp [hav])] at hv
      exact (List.cons.inj hv).2
    · rw [List.filter_cons_of_neg (by simp [hav]), List.filter_cons_of_neg (by simp [hav])] at hv
      exact hv

theorem stableSortedBy_unique (l s₁ s₂ : List α) (h₁ : StableSortedBy key l s₁) (h₂ : StableSortedBy key l s₂) :
    s₁ = s₂ :=
  eq_of_sorted_of_groups key s₁ s₂ h₁.2.1 h₂.2.1 (fun v => (h₁.2.2 v).trans (h₂.2.2 v).symm)

end stable

theorem insertSample_append (a : Sample) (l₁ l₂ : List Sample)
    (h1 : ∀ b ∈ l₁, sampleKey b < sampleKey a) (h2 : ∀ b ∈ l₂, sampleKey a ≤ sampleKey b) :
    insertSample a (l₁ ++ l₂) = l₁ ++ a :: l₂ := by
  induction l₁ with
  | nil =>
    cases l₂ with
    | nil => rfl
    | cons b bs => simp [insertSample, h2 b (by simp)]
  | cons x xs ih =>
    have hx := h1 x (by simp)
    have : ¬ sampleKey a ≤ sampleKey x := by omega
    simp only [List.cons_append, insertSample, this, if_false]
    rw [ih (fun b hb => h1 b (by simp [hb]))]

theorem sortByInt_cons (a : Sample) (l : List Sample) :
    sortByInt sampleKey (a :: l) = insertSample a (sortByInt sampleKey l) := by
  -- core's `mergeSort_cons`: the sorted tail splits as `l₁ ++ l₂` with `a` strictly above all of `l₁`, the sorted
  -- whole being `l₁ ++ a :: l₂`; `a` is below all of `l₂` because the whole is sorted
  obtain ⟨l₁, l₂, h₁, h₂, h₃⟩ := List.mergeSort_cons (le := fun a b => decide (sampleKey a ≤ sampleKey b))
    (Pew.SortKey.keyLe_trans sampleKey) (Pew.SortKey.keyLe_total sampleKey) a l
  have hs := (sortByInt_stable sampleKey (a :: l)).2.1
  unfold sortByInt at hs ⊢
  rw [h₁] at hs ⊢
  rw [h₂]
  symm
  apply insertSample_append
  · intro b hb
    have := h₃ b hb
    simp only [Bool.not_eq_true', decide_eq_false_iff_not] at this
    omega
  · intro b hb
    have := (List.pairwise_append.mp hs).2.1
    exact (List.pairwise_cons.mp this).1 b hb

theorem sortByInt_eq_acqSorted (l : List Sample) : sortByInt sampleKey l = acqSorted l := by
  induction l with
  | nil => simp [sortByInt, acqSorted]
  | cons a l ih => rw [sortByInt_cons, ih]; rfl

theorem acqMethod_eq_spec (l : List Sample) : acqMethod l = acqSpec l := by
  rw [acqMethod, acqSpec, sortByInt_eq_acqSorted]

theorem insertByNum_perm (x : Name) (l : List Name) : (insertByNum x l).Perm (x :: l) := by
  induction l with
  | nil => simp [insertByNum]
  | cons y ys ih =>
    unfold insertByNum
    split
    · exact List.Perm.refl _
    · exact (List.Perm.cons y ih).trans (List.Perm.swap x y ys)

theorem insertByNum_sorted (x : Name) (l : List Name)
    (h : l.Pairwise (fun a b => digitsVal a ≤ digitsVal b)) :
    (insertByNum x l).Pairwise (fun a b => digitsVal a ≤ digitsVal b) := by
  induction l with
  | nil => simp [insertByNum]
  | cons y ys ih =>
    have hy := List.pairwise_cons.mp h
    unfold insertByNum
    split
    · rename_i hlt
      refine List.pairwise_cons.mpr ⟨?_, h⟩
      intro b hb
      rcases List.mem_cons.mp hb with rfl | hb
      · exact Nat.le_of_lt hlt
      · exact (Nat.le_of_lt hlt).trans (hy.1 b hb)
    · rename_i hge
      refine List.pairwise_cons.mpr ⟨?_, ih hy.2⟩
      intro b hb
      have hb' := (insertByNum_perm x ys).mem_iff.mp hb
      rcases List.mem_cons.mp hb' with rfl | hb'
      · exact Nat.le_of_not_lt hge
      · exact hy.1 b hb'

theorem foldl_insertByNum_perm_sorted (l acc : List Name)
    (h : acc.Pairwise (fun a b => digitsVal a ≤ digitsVal b)) :
    (l.foldl (fun acc x => insertByNum x acc) acc).Perm (l ++ acc) ∧
    (l.foldl (fun acc x => insertByNum x acc) acc).Pairwise (fun a b => digitsVal a ≤ digitsVal b) := by
  induction l generalizing acc with
  | nil => exact ⟨by simp, h⟩
  | cons x xs ih =>
    have := ih (insertByNum x acc) (insertByNum_sorted x acc h)
    refine ⟨?_, this.2⟩
    refine this.1.trans ?_
    refine ((insertByNum_perm x acc).append_left xs).trans ?_
    simp

theorem sortByNat_eq_foldl_insertByNum (l : List Name)
    (hinj : ∀ a ∈ l, ∀ b ∈ l, digitsVal a = digitsVal b → a = b) :
    sortByNat digitsVal l = l.foldl (fun acc x => insertByNum x acc) [] := by
  obtain ⟨hp, hs⟩ := foldl_insertByNum_perm_sorted l [] List.Pairwise.nil
  rw [List.append_nil] at hp
  -- `eq_sorted_of_perm` wants the comparison antisymmetric on the members: distinct numbers.  Equal numbers would need
  -- the stability of both sorts instead.
  exact Pew.MergeSort.eq_sorted_of_perm (Pew.SortKey.keyLe_trans digitsVal) (Pew.SortKey.keyLe_total digitsVal) hp.symm
    (hs.imp fun h => decide_eq_true h) fun a ha b hb h1 h2 =>
      hinj a (hp.mem_iff.mp ha) b (hp.mem_iff.mp hb) (Nat.le_antisymm (of_decide_eq_true h1) (of_decide_eq_true h2))

theorem Meta.source_eq_spec (m : Meta)
    (hcsv : ∀ rows, m.csv = some rows → ∀ r ∈ rows, (r.result.take 4 = pass → r.result = pass) ∧ r.file.length ≤ 264)
    (meth : Method) : m.source false meth = m.source true meth := by
  cases meth with
  | batchCsv =>
    simp only [Meta.source]
    cases hc : m.csv with
    | none => rfl
    | some rows =>
      simp only [Option.map_some, Bool.false_eq_true, if_false, if_true]
      rw [batchCsv_eq, csvLogNames_eq_spec rows (hcsv rows hc)]
  | _ => simp [Meta.source, batchXml_eq, acqMethod_eq_spec]

theorem collect_cons_of_ne (m : Meta) (spc : Bool) (meth : Method) (rest : List Method)
    (h : meth ≠ .alphabetical) :
    collect m spc (meth :: rest) =
      match m.source spc meth with
      | some files => if files.all m.exists then some files else collect m spc rest
      | none => collect m spc rest := by
  cases meth <;> first | rfl | exact absurd rfl h

/-- what one collection method yields: `none` = passed over, `some r` = the loop stops with `r` -/
def attempt (m : Meta) (src : Method → Option (List Name)) (scan : Option (List Name)) (meth : Method) :
    Option (Option (List Name)) :=
  if meth = .alphabetical then some scan
  else (src meth).bind fun files => if files.all m.exists then some (some files) else none

theorem collect_eq_findSome? (m : Meta) (spc : Bool) (methods : List Method) :
    collect m spc methods = (methods.findSome? (attempt m (m.source spc) (m.scan spc))).getD none := by
  induction methods with
  | nil => rfl
  | cons meth rest ih =>
    by_cases h : meth = .alphabetical
    · subst h; rfl
    · rw [collect_cons_of_ne m spc meth rest h, ih, List.findSome?_cons, attempt, if_neg h]
      cases m.source spc meth with
      | none => rfl
      | some files => by_cases hall : files.all m.exists = true <;> simp only [Option.bind_some, hall, if_true] <;> rfl

theorem attempt_eq_none {m : Meta} {src : Method → Option (List Name)} {scan : Option (List Name)} {x : Method} :
    attempt m src scan x = none ↔ m.Fails src x := by
  unfold attempt Meta.Fails
  by_cases h : x = .alphabetical
  · simp only [h, if_true, reduceCtorEq, ne_eq, not_true_eq_false, false_and]
  · simp only [h, if_false, ne_eq, not_false_eq_true, true_and, Option.bind_eq_none_iff, ite_eq_right_iff,
      reduceCtorEq, imp_false, List.all_eq_true, not_forall, Bool.not_eq_true, exists_prop]

theorem attempt_eq_some {m : Meta} {src : Method → Option (List Name)} {scan r : Option (List Name)} {x : Method} :
    attempt m src scan x = some r ↔ (x = .alphabetical ∧ r = scan) ∨
      (x ≠ .alphabetical ∧ ∃ files, src x = some files ∧ (∀ f ∈ files, m.exists f = true) ∧ r = some files) := by
  unfold attempt
  by_cases h : x = .alphabetical
  · simp only [h, if_true, Option.some.injEq, true_and, ne_eq, not_true_eq_false, false_and, or_false]
    exact eq_comm
  · simp only [h, if_false, false_and, false_or, ne_eq, not_false_eq_true, true_and, Option.bind_eq_some_iff,
      Option.ite_none_right_eq_some, Option.some.injEq, List.all_eq_true]
    exact exists_congr fun files => and_congr_right fun _ => and_congr_right fun _ => eq_comm

theorem selected_iff (m : Meta) (src : Method → Option (List Name)) (scan r : Option (List Name)) (methods : List Method) :
    Selected m src scan methods r ↔ (methods.findSome? (attempt m src scan)).getD none = r := by
  have : Selected m src scan methods r ↔ methods.findSome? (attempt m src scan) = some r ∨
      (methods.findSome? (attempt m src scan) = none ∧ r = none) := by
    -- `Selected` splits the methods at the first one that does not fail: the right side of `List.findSome?_eq_some_iff`
    simp only [Selected, List.findSome?_eq_some_iff, List.findSome?_eq_none_iff, attempt_eq_none, attempt_eq_some,
      and_comm (b := ∀ x ∈ _, m.Fails src x)]
  rw [this]
  cases methods.findSome? (attempt m src scan) <;> simp [eq_comm]

theorem collect_linesOf_congr (m₁ m₂ : Meta) (s₁ s₂ : Bool)
    (hsrc : ∀ meth, m₁.source s₁ meth = m₂.source s₂ meth) (hex : ∀ n, m₁.exists n = m₂.exists n)
    (hscan : m₁.scan s₁ = m₂.scan s₂) (methods : List Method) :
    collect m₁ s₁ methods = collect m₂ s₂ methods ∧ linesOf m₁ s₁ methods = linesOf m₂ s₂ methods := by
  have hc : collect m₁ s₁ methods = collect m₂ s₂ methods := by
    rw [collect_eq_findSome?, collect_eq_findSome?, hscan, funext hsrc]
    unfold attempt
    rw [funext hex]
  exact ⟨hc, by unfold linesOf; rw [hc, hscan]⟩

end Pew.Agilent
