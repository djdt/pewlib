import PewModel.Agilent
import PewProofs.Lists

/-! The model's `allSome` (all of a list of options, or nothing) characterised: `allSome l = some r ↔ l = r.map some`,
and what `lines.map (findFile files) = dfs.map some` gives: the files index by index, each one of `files`. -/
namespace Pew.Agilent

theorem allSome_eq_some_iff {β : Type} (l : List (Option β)) (r : List β) : allSome l = some r ↔ l = r.map some := by
  constructor
  · intro h
    induction l generalizing r with
    | nil => cases h; rfl
    | cons x xs ih =>
      cases x with
      | none => cases h
      | some v =>
        rw [allSome, Option.map_eq_some_iff] at h
        obtain ⟨t, ht, rfl⟩ := h
        rw [ih t ht]; rfl
  · rintro rfl
    induction r with
    | nil => rfl
    | cons y ys ih => rw [List.map_cons, allSome, ih]; rfl

theorem allSome_map_of_forall {β γ : Type} (l : List β) (f : β → Option γ) (g : β → γ)
    (h : ∀ x ∈ l, f x = some (g x)) : allSome (l.map f) = some (l.map g) := by
  rw [allSome_eq_some_iff, List.map_map]
  exact List.map_congr_left h

theorem allSome_map_some {β : Type} (l : List β) : allSome (l.map some) = some l :=
  (allSome_eq_some_iff _ _).mpr rfl

theorem allSome_map_eq_filterMap {β γ : Type} {f : β → Option γ} {l : List β} (h : ∀ x ∈ l, (f x).isSome) :
    allSome (l.map f) = some (l.filterMap f) :=
  (allSome_eq_some_iff _ _).mpr (Lists.map_some_filterMap_of_isSome h).symm

theorem getElem_of_map_eq_map_some {β γ : Type} {l : List β} {g : β → Option γ} {r : List γ}
    (h : l.map g = r.map some) :
    r.length = l.length ∧ ∀ i (hi : i < l.length) (hi' : i < r.length), g l[i] = some r[i] := by
  refine ⟨by simpa using (congrArg List.length h).symm, fun i hi hi' => ?_⟩
  have := List.getElem_of_eq h (i := i) (by simpa using hi)
  simpa using this

theorem mem_files_of_lines {α : Type} {files : List (DataFile α)} {lines : List Name} {dfs : List (DataFile α)}
    (h : lines.map (findFile files) = dfs.map some) : ∀ f ∈ dfs, f ∈ files := by
  intro f hf
  have : some f ∈ lines.map (findFile files) := h ▸ List.mem_map_of_mem hf
  obtain ⟨n, _, hn⟩ := List.mem_map.mp this
  exact List.mem_of_find?_eq_some hn

end Pew.Agilent
