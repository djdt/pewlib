import PewModel.Imzml
import Mathlib.Tactic.Ring
import Mathlib.Algebra.Order.Field.Rat
import Batteries.Data.List.Lemmas

/-! C05, one spectrum. The loop body of `extract_masses` is, for every input, a `map` over the windows of the slice
between two `searchsorted` indices (`extractSpectrum_eq_map`); on a strictly increasing axis that slice is the window
sum (`sliceSum_ssLeft`). Everything about one spectrum follows from one or both. -/
namespace Pew.Imzml

theorem incr_iff_pairwise (l : List Rat) : Incr l ↔ l.Pairwise (· < ·) := by
  rw [← List.isChain_iff_pairwise]
  induction l with
  | nil => simp [Incr]
  | cons a r ih =>
    cases r with
    | nil => simp [Incr]
    | cons b r => rw [List.isChain_cons_cons, ← ih]; rfl

theorem incr_tail {a : Rat} {l : List Rat} (h : Incr (a :: l)) : Incr l :=
  (incr_iff_pairwise l).mpr ((incr_iff_pairwise _).mp h).tail

theorem incr_head_lt {a : Rat} {l : List Rat} (h : Incr (a :: l)) : ∀ x ∈ l, a < x :=
  fun _ hx => List.rel_of_pairwise_cons ((incr_iff_pairwise _).mp h) hx

theorem incr_head_le {a : Rat} {l : List Rat} (h : Incr (a :: l)) : ∀ x ∈ a :: l, a ≤ x := by
  intro x hx
  rcases List.mem_cons.mp hx with rfl | hx
  · exact le_refl _
  · exact le_of_lt (incr_head_lt h x hx)

theorem incr_head?_le {l : List Rat} (h : Incr l) {a : Rat} (ha : l.head? = some a) : ∀ x ∈ l, a ≤ x := by
  cases l with
  | nil => cases ha
  | cons b r => cases ha; exact incr_head_le h

theorem pairwise_le_getLast? {α} [Preorder α] {l : List α} (h : l.Pairwise (· < ·)) {z : α} (hz : l.getLast? = some z) :
    ∀ x ∈ l, x ≤ z := by
  obtain ⟨ys, rfl⟩ := List.getLast?_eq_some_iff.mp hz
  intro x hx
  rcases List.mem_append.mp hx with hx | hx
  · exact le_of_lt ((List.pairwise_append.mp h).2.2 x hx z (List.mem_singleton_self z))
  · exact le_of_eq (List.mem_singleton.mp hx)

theorem incr_le_getLast? {l : List Rat} (h : Incr l) {z : Rat} (hz : l.getLast? = some z) : ∀ x ∈ l, x ≤ z :=
  pairwise_le_getLast? ((incr_iff_pairwise l).mp h) hz

theorem incrB_iff (l : List Rat) : incrB l = true ↔ Incr l := by
  induction l with
  | nil => simp [incrB, Incr]
  | cons a r ih =>
    cases r with
    | nil => simp [incrB, Incr]
    | cons b r => simp [incrB, Incr, ih]

instance (l : List Rat) : Decidable (Incr l) := decidable_of_iff _ (incrB_iff l)

theorem incr_scale {mz : List Rat} {k : Rat} (hk : 0 < k) (h : Incr mz) : Incr (mz.map (k * ·)) :=
  (incr_iff_pairwise _).mpr (((incr_iff_pairwise _).mp h).map _ fun _ _ hab => mul_lt_mul_of_pos_left hab hk)

theorem ssLeft_cons_lt {m v : Rat} (ms : List Rat) (h : m < v) : ssLeft (m :: ms) v = ssLeft ms v + 1 := by
  simp [ssLeft, List.takeWhile, h]

theorem ssLeft_cons_ge {m v : Rat} (ms : List Rat) (h : ¬ m < v) : ssLeft (m :: ms) v = 0 := by
  simp [ssLeft, List.takeWhile, h]

theorem ssLeft_le_length (ms : List Rat) (v : Rat) : ssLeft ms v ≤ ms.length :=
  (List.takeWhile_sublist _).length_le

theorem ssLeft_eq_length {ms : List Rat} {v : Rat} (h : ∀ x ∈ ms, x < v) : ssLeft ms v = ms.length := by
  induction ms with
  | nil => rfl
  | cons m ms ih =>
    rw [ssLeft_cons_lt ms (h m List.mem_cons_self), ih fun x hx => h x (List.mem_cons_of_mem _ hx), List.length_cons]

theorem ssLeft_zero_of_all_ge {ms : List Rat} {v : Rat} (h : ∀ x ∈ ms, v ≤ x) : ssLeft ms v = 0 := by
  cases ms with
  | nil => rfl
  | cons a r => exact ssLeft_cons_ge r (not_lt.mpr (h a List.mem_cons_self))

/-- no order of the axis is needed in this direction -/
theorem exists_peak_of_ssLeft_lt {mz : List Rat} {a b : Rat} (h : ssLeft mz a < ssLeft mz b) :
    ∃ m ∈ mz, a ≤ m ∧ m < b := by
  induction mz with
  | nil => cases h
  | cons m ms ih =>
    by_cases h2 : m < b
    · by_cases h1 : m < a
      · rw [ssLeft_cons_lt ms h1, ssLeft_cons_lt ms h2] at h
        obtain ⟨x, hx, hx'⟩ := ih (Nat.lt_of_succ_lt_succ h)
        exact ⟨x, List.mem_cons_of_mem _ hx, hx'⟩
      · exact ⟨m, List.mem_cons_self, not_lt.mp h1, h2⟩
    · rw [ssLeft_cons_ge ms h2] at h; cases h

theorem ssLeft_lt_length {mz : List Rat} {a : Rat} (h : ssLeft mz a < mz.length) : ∃ m ∈ mz, a ≤ m := by
  by_contra hc
  exact ne_of_lt h (ssLeft_eq_length fun x hx => not_le.mp fun hax => hc ⟨x, hx, hax⟩)

theorem ssLeft_lt_of_exists_peak {mz : List Rat} {a b : Rat} (hs : Incr mz) (h : ∃ m ∈ mz, a ≤ m ∧ m < b) :
    ssLeft mz a < ssLeft mz b := by
  induction mz with
  | nil => obtain ⟨m, hm, _⟩ := h; cases hm
  | cons m ms ih =>
    obtain ⟨x, hx, hax, hxb⟩ := h
    rw [ssLeft_cons_lt ms (lt_of_le_of_lt (incr_head_le hs x hx) hxb)]
    by_cases h1 : m < a
    · rw [ssLeft_cons_lt ms h1]
      rcases List.mem_cons.mp hx with rfl | hx'
      · exact absurd hax (not_le.mpr h1)
      · exact Nat.succ_lt_succ (ih (incr_tail hs) ⟨x, hx', hax, hxb⟩)
    · rw [ssLeft_cons_ge ms h1]; exact Nat.succ_pos _

theorem windowSum_cons (m : Rat) (ms : List Rat) (i : Rat) (is : List Rat) (lo hi : Rat) :
    windowSum (m :: ms) (i :: is) lo hi = (if lo ≤ m ∧ m < hi then i else 0) + windowSum ms is lo hi := rfl

theorem windowSum_zero_of_no_peak {mz it : List Rat} {lo hi : Rat} (h : ¬ ∃ m ∈ mz, lo ≤ m ∧ m < hi) :
    windowSum mz it lo hi = 0 := by
  fun_induction windowSum mz it lo hi with
  | case1 m ms i is lo hi ih =>
    rw [if_neg fun hm => h ⟨m, List.mem_cons_self, hm⟩,
      ih fun ⟨x, hx, hx'⟩ => h ⟨x, List.mem_cons_of_mem _ hx, hx'⟩, add_zero]
  | case2 => rfl

theorem windowSum_empty (ms it : List Rat) {lo hi : Rat} (h : hi ≤ lo) : windowSum ms it lo hi = 0 :=
  windowSum_zero_of_no_peak fun ⟨_, _, h1, h2⟩ => not_lt.mpr h (lt_of_le_of_lt h1 h2)

theorem windowSum_nonneg {mz it : List Rat} {lo hi : Rat} (hp : ∀ i ∈ it, 0 ≤ i) :
    0 ≤ windowSum mz it lo hi := by
  fun_induction windowSum mz it lo hi with
  | case1 m ms i is lo hi ih =>
    have h1 := ih fun j hj => hp j (List.mem_cons_of_mem _ hj)
    split
    · exact add_nonneg (hp i List.mem_cons_self) h1
    · rw [zero_add]; exact h1
  | case2 => exact le_refl _

theorem windowSum_pos_of_peak {mz it : List Rat} {lo hi : Rat} (hlen : it.length = mz.length)
    (hp : ∀ i ∈ it, 0 < i) (h : ∃ m ∈ mz, lo ≤ m ∧ m < hi) : 0 < windowSum mz it lo hi := by
  induction mz generalizing it with
  | nil => obtain ⟨m, hm, _⟩ := h; cases hm
  | cons m ms ih =>
    cases it with
    | nil => cases hlen
    | cons i is =>
      rw [windowSum_cons]
      have hi0 := hp i List.mem_cons_self
      have hp' : ∀ j ∈ is, 0 < j := fun j hj => hp j (List.mem_cons_of_mem _ hj)
      by_cases hm : lo ≤ m ∧ m < hi
      · rw [if_pos hm]
        exact add_pos_of_pos_of_nonneg hi0 (windowSum_nonneg fun j hj => le_of_lt (hp' j hj))
      · rw [if_neg hm, zero_add]
        obtain ⟨x, hx, hx'⟩ := h
        rcases List.mem_cons.mp hx with rfl | hx
        · exact absurd hx' hm
        · exact ih (Nat.succ.inj hlen) hp' ⟨x, hx, hx'⟩

theorem indicator_split {a b c : Rat} (hab : a ≤ b) (hbc : b ≤ c) (m i : Rat) :
    (if a ≤ m ∧ m < b then i else 0) + (if b ≤ m ∧ m < c then i else 0) = if a ≤ m ∧ m < c then i else 0 := by
  rcases lt_or_ge m b with h | h
  · simp only [h, not_le.mpr h, lt_of_lt_of_le h hbc, and_true, if_false, add_zero]
  · simp only [h, not_lt.mpr h, le_trans hab h, and_false, true_and, if_false, zero_add]

theorem windowSum_split (mz it : List Rat) {a b c : Rat} (hab : a ≤ b) (hbc : b ≤ c) :
    windowSum mz it a b + windowSum mz it b c = windowSum mz it a c := by
  fun_induction windowSum mz it a b with
  | case1 m ms i is a b ih =>
    simp only [windowSum_cons]
    rw [← ih hab hbc, ← indicator_split hab hbc m i]; ring
  | case2 => simp only [windowSum, add_zero]

theorem windowSum_all (mz it : List Rat) {a c : Rat} (hlen : it.length = mz.length)
    (h : ∀ x ∈ mz, a ≤ x ∧ x < c) : windowSum mz it a c = it.sum := by
  induction mz generalizing it with
  | nil => rw [List.length_eq_zero_iff.mp hlen]; rfl
  | cons m ms ih =>
    cases it with
    | nil => cases hlen
    | cons i is =>
      rw [windowSum_cons, if_pos (h m List.mem_cons_self),
        ih is (Nat.succ.inj hlen) fun x hx => h x (List.mem_cons_of_mem _ hx), List.sum_cons]

theorem windowSum_outside (mz it : List Rat) (lo hi : Rat) (g : Rat → Rat → Rat) :
    windowSum mz (List.zipWith (fun m i => if lo ≤ m ∧ m < hi then i else g m i) mz it) lo hi
      = windowSum mz it lo hi := by
  induction mz generalizing it with
  | nil => simp [windowSum]
  | cons m ms ih =>
    cases it with
    | nil => simp [windowSum]
    | cons i is =>
      simp only [List.zipWith_cons_cons, windowSum, ih is]
      by_cases h : lo ≤ m ∧ m < hi <;> simp [h]

theorem windowSum_scale (mz it : List Rat) (lo hi k : Rat) (hk : 0 < k) :
    windowSum (mz.map (k * ·)) it (k * lo) (k * hi) = windowSum mz it lo hi := by
  induction mz generalizing it with
  | nil => simp [windowSum]
  | cons m ms ih =>
    cases it with
    | nil => simp [windowSum]
    | cons i is =>
      simp only [List.map_cons, windowSum, ih is, mul_le_mul_iff_right₀ hk, mul_lt_mul_iff_right₀ hk]

theorem sliceSum_cons_succ (i : Rat) (is : List Rat) (a b : Nat) :
    sliceSum (i :: is) (a + 1) (b + 1) = sliceSum is a b := by
  rw [sliceSum, sliceSum, List.drop_succ_cons, Nat.add_sub_add_right]

theorem sliceSum_cons_zero_succ (i : Rat) (is : List Rat) (b : Nat) :
    sliceSum (i :: is) 0 (b + 1) = i + sliceSum is 0 b := by
  simp only [sliceSum, List.drop_zero, Nat.sub_zero, List.take_succ_cons, List.sum_cons]

theorem sliceSum_empty (a : List Rat) {i j : Nat} (h : j ≤ i) : sliceSum a i j = 0 := by
  rw [sliceSum, Nat.sub_eq_zero_of_le h, List.take_zero, List.sum_nil]

theorem sliceSum_length (it : List Rat) (a : Nat) : sliceSum it a it.length = (it.drop a).sum := by
  rw [sliceSum, List.take_of_length_le (by rw [List.length_drop])]

theorem sliceSum_append_sentinel (it : List Rat) (z : Rat) {a b : Nat} (hb : b ≤ it.length) :
    sliceSum (it ++ [z]) a b = sliceSum it a b := by
  by_cases ha : a ≤ it.length
  · rw [sliceSum, sliceSum, List.drop_append_of_le_length ha, List.take_append_of_le_length]
    rw [List.length_drop]
    exact Nat.sub_le_sub_right hb a
  · have hba : b ≤ a := le_trans hb (Nat.le_of_not_le ha)
    rw [sliceSum_empty _ hba, sliceSum_empty _ hba]

/-- no order between `lo` and `hi` is asked for: both sides are 0 when `hi ≤ lo` -/
theorem sliceSum_ssLeft (mz it : List Rat) (lo hi : Rat) (hs : Incr mz) (hlen : it.length = mz.length) :
    sliceSum it (ssLeft mz lo) (ssLeft mz hi) = windowSum mz it lo hi := by
  induction mz generalizing it with
  | nil => rw [List.length_eq_zero_iff.mp hlen]; rfl
  | cons m ms ih =>
    cases it with
    | nil => cases hlen
    | cons i is =>
      have ih' := ih is (incr_tail hs) (Nat.succ.inj hlen)
      by_cases h2 : m < hi
      · rw [ssLeft_cons_lt ms h2, windowSum_cons, ← ih']
        by_cases h1 : m < lo
        · rw [ssLeft_cons_lt ms h1, sliceSum_cons_succ, if_neg fun hc => not_le.mpr h1 hc.1, zero_add]
        · rw [ssLeft_cons_ge ms h1, sliceSum_cons_zero_succ, if_pos ⟨not_lt.mp h1, h2⟩,
            ssLeft_zero_of_all_ge fun x hx => le_trans (not_lt.mp h1) (le_of_lt (incr_head_lt hs x hx))]
      · rw [ssLeft_cons_ge ms h2, sliceSum_empty _ (Nat.zero_le _), windowSum_zero_of_no_peak]
        rintro ⟨x, hx, _, hxhi⟩
        exact h2 (lt_of_le_of_lt (incr_head_le hs x hx) hxhi)

theorem reduceat_cons_tail (a : List Rat) (j : Nat) (r : List Nat) :
    ∃ y, reduceat a (j :: r) = y :: reduceat a r := by
  cases r with
  | nil => exact ⟨_, rfl⟩
  | cons k r => exact ⟨_, rfl⟩

/-- needs no hypothesis: what `reduceat` returns for an empty segment (the single element `a[i]`) is what the zeroing
of `idx[::2] >= idx[1::2]` overwrites, and `sliceSum` is 0 there anyway -/
theorem extractSpectrum_eq_map (mz it : List Rat) (wins : List (Rat × Rat)) :
    extractSpectrum mz it wins
      = wins.map fun w => sliceSum (it ++ [0]) (ssLeft mz w.1) (ssLeft mz w.2) := by
  induction wins with
  | nil => rfl
  | cons w rest ih =>
    -- `y`, the entry between this window's right index and the next window's left one, is what `[::2]` drops
    obtain ⟨y, hy⟩ := reduceat_cons_tail (it ++ [0]) (ssLeft mz w.2) ((flatten rest).map (ssLeft mz))
    rw [List.map_cons, ← ih]
    simp only [extractSpectrum, flatten, List.flatMap_cons, List.cons_append, List.nil_append, List.map_cons,
      reduceat, odds] at hy ⊢
    rw [hy]
    simp only [evens, zeroEmpty]
    by_cases h : ssLeft mz w.1 < ssLeft mz w.2
    · rw [if_neg (Nat.not_le.mpr h), if_pos h]
    · rw [if_pos (Nat.not_lt.mp h), sliceSum_empty _ (Nat.not_lt.mp h)]

theorem extractSpectrum_append (mz it : List Rat) (a b : List (Rat × Rat)) :
    extractSpectrum mz it (a ++ b) = extractSpectrum mz it a ++ extractSpectrum mz it b := by
  simp only [extractSpectrum_eq_map, List.map_append]

theorem extractSpectrum_length (mz it : List Rat) (wins : List (Rat × Rat)) :
    (extractSpectrum mz it wins).length = wins.length := by
  rw [extractSpectrum_eq_map, List.length_map]

theorem extractSpectrum_getElem? (mz it : List Rat) (wins : List (Rat × Rat)) (k : Nat) :
    (extractSpectrum mz it wins)[k]? = (wins[k]?).bind (fun w => (extractSpectrum mz it [w])[0]?) := by
  simp only [extractSpectrum_eq_map, List.getElem?_map, List.map_cons, Option.map_eq_bind]
  rfl

/-- adjacent half-open windows telescope (`windowSum_split`); one edge alone: no window to sum, and `[e, e)` is empty -/
theorem chain_sum (mz it : List Rat) (e : Rat) (r : List Rat) (h : Incr (e :: r)) :
    ∀ l, (e :: r).getLast? = some l →
      ((chain (e :: r)).map (fun w => windowSum mz it w.1 w.2)).sum = windowSum mz it e l := by
  induction r generalizing e with
  | nil =>
    intro l hl
    rw [← Option.some.inj hl]
    exact (windowSum_empty mz it (le_refl e)).symm
  | cons b r ih =>
    intro l hl
    rw [List.getLast?_cons_cons] at hl
    simp only [chain, List.map_cons, List.sum_cons]
    rw [ih b h.2 l hl]
    exact windowSum_split mz it (le_of_lt h.1) (incr_le_getLast? h.2 hl b List.mem_cons_self)

end Pew.Imzml
