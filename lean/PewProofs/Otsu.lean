import PewModel.Otsu
import Mathlib.Tactic.Ring
import Mathlib.Algebra.Order.Field.Rat
import Mathlib.Algebra.Order.Field.Basic
import Mathlib.Algebra.Order.BigOperators.Group.List

/-! # C15 — the criterion of `otsu`

The four criterion arrays of the model (`critList`, `critListN`, `critListR`, `critListB`) are one list program, `critProg`,
over five operations.  Over exact cumulative sums its entries are known (the cumulative-sum alignment, `critProg_getElem?`:
the entries of `critList` and `critListN`); the rounded arrays `critListR`, `critListB` are reached as whole lists, through the
one theorem that every relation the operations respect is respected by the arrays (`critProg_rel`). -/
namespace Pew.Otsu

@[simp] theorem sumR_nil : sumR [] = 0 := rfl
@[simp] theorem sumR_cons (a : Rat) (l : List Rat) : sumR (a :: l) = a + sumR l := rfl

theorem sumR_eq_sum (l : List Rat) : sumR l = l.sum := by
  induction l with
  | nil => rfl
  | cons a l ih => exact congrArg (a + ·) ih

theorem sumR_reverse (l : List Rat) : sumR l.reverse = sumR l := by
  simp only [sumR_eq_sum, List.sum_reverse]

theorem sumR_map_mul (c : Rat) (l : List Rat) : sumR (l.map (c * ·)) = c * sumR l := by
  induction l with
  | nil => simp
  | cons a l ih => simp [ih]; ring

theorem sumR_nonneg (l : List Rat) (h : ∀ x ∈ l, 0 ≤ x) : 0 ≤ sumR l :=
  sumR_eq_sum l ▸ List.sum_nonneg h

theorem getD_le_sumR (l : List Rat) (h : ∀ x ∈ l, 0 ≤ x) (k : Nat) : l.getD k 0 ≤ sumR l := by
  rw [sumR_eq_sum, List.getD_eq_getElem?_getD]
  cases hk : l[k]? with
  | none => exact List.sum_nonneg h
  | some a => exact List.single_le_sum h a (List.mem_of_getElem? hk)

theorem sumR_zipWith_zero (h cs : List Rat) (hnn : ∀ x ∈ h, 0 ≤ x) (hz : sumR h = 0) :
    sumR (List.zipWith (· * ·) h cs) = 0 := by
  induction h generalizing cs with
  | nil => rfl
  | cons a t ih =>
    have ht : ∀ x ∈ t, 0 ≤ x := fun x hx => hnn x (List.mem_cons_of_mem a hx)
    obtain ⟨a0, t0⟩ := (add_eq_zero_iff_of_nonneg (hnn a List.mem_cons_self) (sumR_nonneg t ht)).mp hz
    cases cs with
    | nil => rfl
    | cons c cs =>
      show a * c + sumR (List.zipWith (· * ·) t cs) = 0
      rw [a0, zero_mul, zero_add, ih cs ht t0]

theorem sumR_take_succ (l : List Rat) (k : Nat) : sumR (l.take (k + 1)) = sumR (l.take k) + l.getD k 0 := by
  induction l generalizing k with
  | nil => simp
  | cons a l ih =>
    cases k with
    | zero => exact add_comm _ _
    | succ k => exact (congrArg (a + ·) (ih k)).trans (add_assoc _ _ _).symm

theorem sumR_drop_succ (l : List Rat) (k : Nat) : sumR (l.drop k) = l.getD k 0 + sumR (l.drop (k + 1)) := by
  induction l generalizing k with
  | nil => simp
  | cons a l ih =>
    cases k with
    | zero => rfl
    | succ k => exact ih k

theorem getD_zipWith_mul (h cs : List Rat) (k : Nat) :
    (List.zipWith (· * ·) h cs).getD k 0 = h.getD k 0 * cs.getD k 0 := by
  simp only [List.getD_eq_getElem?_getD, List.getElem?_zipWith]
  cases h[k]? <;> cases cs[k]? <;> simp

@[simp] theorem cumsum_length (l : List Rat) : (cumsum l).length = l.length := by
  induction l with
  | nil => rfl
  | cons a l ih => simp [cumsum, ih]

theorem cumsum_getElem? (l : List Rat) (i : Nat) (h : i < l.length) :
    (cumsum l)[i]? = some (sumR (l.take (i + 1))) := by
  induction l generalizing i with
  | nil => exact absurd h (Nat.not_lt_zero _)
  | cons a l ih =>
    cases i with
    | zero => exact congrArg some (add_zero a).symm
    | succ i =>
      show ((cumsum l).map (a + ·))[i]? = _
      rw [List.getElem?_map, ih i (Nat.lt_of_succ_lt_succ h)]
      rfl

/-- backward cumulative sums: `np.cumsum(a[::-1])[::-1]` -/
def rcum (l : List Rat) : List Rat := (cumsum l.reverse).reverse

@[simp] theorem rcum_length (l : List Rat) : (rcum l).length = l.length := by simp [rcum]

theorem rcum_getElem? (l : List Rat) (j : Nat) (h : j < l.length) :
    (rcum l)[j]? = some (sumR (l.drop j)) := by
  unfold rcum
  rw [List.getElem?_reverse (by simpa using h)]
  simp only [cumsum_length, List.length_reverse]
  rw [cumsum_getElem? _ _ (by simp; omega)]
  rw [List.take_reverse, sumR_reverse]
  -- entry `j` of the reversed list is entry `len − 1 − j`, and that prefix of the reverse is the suffix from `j`
  congr 3
  omega

abbrev weights (hist : List Nat) : List Rat := hist.map (fun (k : Nat) => (k : Rat))

theorem weights_nonneg (hist : List Nat) : ∀ x ∈ weights hist, 0 ≤ x := fun x hx => by
  obtain ⟨k, -, rfl⟩ := List.mem_map.mp hx
  exact Nat.cast_nonneg k

theorem weights_getD (hist : List Nat) (k : Nat) :
    (weights hist).getD k 0 = ((hist.getD k 0 : Nat) : Rat) := by
  simp only [List.getD_eq_getElem?_getD, List.getElem?_map]
  cases hist[k]? <;> simp

section program
open List
variable {μ μ' α α' : Type}
  {mul : Rat → μ → μ} {cum : List μ → List μ} {dv : μ → Rat → α} {sb : α → α → α} {fin : Rat → α → α}
  {mul' : Rat → μ' → μ'} {cum' : List μ' → List μ'} {dv' : μ' → Rat → α'} {sb' : α' → α' → α'} {fin' : Rat → α' → α'}

variable (mul cum dv sb fin) in
/-- over numbers `μ` and quotients `α` (which may be NaN); the class weights `h` are exact in all four arrays -/
def critProg (h : List Rat) (cs : List μ) : List α :=
  zipWith fin (zipWith (· * ·) (cumsum h) (rcum h).tail)
    (zipWith sb (zipWith dv (cum (zipWith mul h cs)) (cumsum h))
      (zipWith dv (cum (zipWith mul h cs).reverse) (rcum h).reverse).reverse.tail)

theorem critProg_length (hcum : ∀ z, (cum z).length = z.length) (h : List Rat) (cs : List μ)
    (hc : cs.length = h.length) : (critProg mul cum dv sb fin h cs).length = h.length - 1 := by
  simp [critProg, hcum, hc]

theorem critProg_getElem? (mul : Rat → Rat → Rat) (dv : Rat → Rat → α) (sb : α → α → α) (fin : Rat → α → α)
    (h cs : List Rat) (hc : cs.length = h.length) (i : Nat) (hi : i + 1 < h.length) :
    (critProg mul cumsum dv sb fin h cs)[i]? =
    some (fin (sumR (h.take (i + 1)) * sumR (h.drop (i + 1)))
      (sb (dv (sumR ((zipWith mul h cs).take (i + 1))) (sumR (h.take (i + 1))))
        (dv (sumR ((zipWith mul h cs).drop (i + 1))) (sumR (h.drop (i + 1)))))) := by
  have hz : (zipWith mul h cs).length = h.length := by simp [hc]
  unfold critProg
  generalize zipWith mul h cs = z at hz ⊢
  have e : (zipWith dv (cumsum z.reverse) (rcum h).reverse).reverse = zipWith dv (rcum z) (rcum h) := by
    rw [reverse_zipWith (by simp [hz]), reverse_reverse]; rfl
  rw [e]
  simp only [getElem?_zipWith, getElem?_tail]
  rw [cumsum_getElem? h i (Nat.lt_of_succ_lt hi), cumsum_getElem? z i (hz ▸ Nat.lt_of_succ_lt hi),
    rcum_getElem? h (i + 1) hi, rcum_getElem? z (i + 1) (hz ▸ hi)]

theorem forall₂_zipWith {α β γ δ ε ζ : Type} {R : α → β → Prop} {S : γ → δ → Prop} {T : ε → ζ → Prop}
    {f : α → γ → ε} {g : β → δ → ζ} (hT : ∀ a b c d, R a b → S c d → T (f a c) (g b d)) :
    ∀ {as : List α} {bs : List β} {cs : List γ} {ds : List δ}, Forall₂ R as bs → Forall₂ S cs ds →
      Forall₂ T (zipWith f as cs) (zipWith g bs ds)
  | _, _, _, _, .nil, _ => .nil
  | _, _, _, _, .cons _ _, .nil => .nil
  | _, _, _, _, .cons h1 t1, .cons h2 t2 => .cons (hT _ _ _ _ h1 h2) (forall₂_zipWith hT t1 t2)

/-- `R`, `A`, `C` occur only applied to images of the operations, so unification can guess them only where they are
constants (`Near` in `near_critList`); a relation that is a `fun`, like the graph of a map in `critProg_map`, has to be
named at the use: `(R := …) (A := …)`. -/
theorem critProg_rel {R : μ → μ' → Prop} {A C : α → α' → Prop}
    (hmul : ∀ a {c c'}, R c c' → R (mul a c) (mul' a c'))
    (hcum : ∀ {z z'}, Forall₂ R z z' → Forall₂ R (cum z) (cum' z'))
    (hdv : ∀ w {s s'}, R s s' → A (dv s w) (dv' s' w))
    (hsb : ∀ {a a' b b'}, A a a' → A b b' → A (sb a b) (sb' a' b'))
    (hfin : ∀ w {d d'}, A d d' → C (fin w d) (fin' w d'))
    (h : List Rat) {cs : List μ} {cs' : List μ'} (hc : Forall₂ R cs cs') :
    Forall₂ C (critProg mul cum dv sb fin h cs) (critProg mul' cum' dv' sb' fin' h cs') := by
  have hz := forall₂_zipWith (R := (· = ·)) (T := R) (f := mul) (g := mul') (fun a _ _ _ e hc => e ▸ hmul a hc)
    (forall₂_refl h) hc
  have hdiv : ∀ {ss ss'} (ws : List Rat), Forall₂ R ss ss' → Forall₂ A (zipWith dv ss ws) (zipWith dv' ss' ws) :=
    fun ws hs => forall₂_zipWith (S := (· = ·)) (T := A) (f := dv) (g := dv') (fun _ _ w _ hs e => e ▸ hdv w hs) hs
      (forall₂_refl ws)
  refine forall₂_zipWith (R := (· = ·)) (T := C) (f := fin) (g := fin') (fun w _ _ _ e hd => e ▸ hfin w hd) (forall₂_refl _)
    (forall₂_zipWith (T := A) (f := sb) (g := sb') (fun _ _ _ _ ha hb => hsb ha hb) (hdiv _ (hcum hz)) ?_)
  simpa only [drop_one] using forall₂_drop 1 (rel_reverse (hdiv _ (hcum (rel_reverse hz))))

theorem forall₂_graph {α β : Type} {f : α → β} {l : List α} {l' : List β} :
    Forall₂ (fun a b => f a = b) l l' ↔ l.map f = l' := by
  rw [← forall₂_map_left_iff, forall₂_eq_eq_eq]

theorem critProg_map {f : μ → μ'} {g m : α → α'}
    (hmul : ∀ a c, f (mul a c) = mul' a (f c))
    (hcum : ∀ z, (cum z).map f = cum' (z.map f))
    (hdv : ∀ s w, g (dv s w) = dv' (f s) w)
    (hsb : ∀ a b, g (sb a b) = sb' (g a) (g b))
    (hfin : ∀ w d, m (fin w d) = fin' w (g d))
    (h : List Rat) (cs : List μ) :
    (critProg mul cum dv sb fin h cs).map m = critProg mul' cum' dv' sb' fin' h (cs.map f) :=
  forall₂_graph.mp (critProg_rel (R := fun a b => f a = b) (A := fun a b => g a = b)
    (fun a c _ hc => hc ▸ hmul a c) (fun {z _} hz => forall₂_graph.mpr (forall₂_graph.mp hz ▸ hcum z))
    (fun w s _ hs => hs ▸ hdv s w) (fun {a _ b _} ha hb => ha ▸ hb ▸ hsb a b) (fun w d _ hd => hd ▸ hfin w d)
    h (forall₂_graph.mpr rfl))

end program

theorem critList_eq_critProg (hist : List Nat) (cs : List Rat) :
    critList hist cs = critProg (· * ·) cumsum (· / ·) (· - ·) (fun a d => a * d ^ 2) (weights hist) cs := rfl

theorem critListN_eq_critProg (hist : List Nat) (cs : List Rat) :
    critListN hist cs = critProg (· * ·) cumsum divN subN (fun a d => d.map (fun d => a * d ^ 2)) (weights hist) cs := rfl

theorem critListR_eq_critProg (fl : Rat → Rat) (hist : List Nat) (cs : List Rat) :
    critListR fl hist cs = critProg (fun a c => fl (a * c)) (cumsumR fl) (fun s w => fl (s / w)) (fun a b => fl (a - b))
      (fun a d => fl (fl a * fl (d * d))) (weights hist) cs := rfl

theorem critListB_eq_critProg (u η : Rat) (hist : List Nat) (cs : List EB) :
    critListB u η hist cs = critProg (fun a c => rndB u η (mulB (a, 0) c)) (cumsumB u η) (fun s w => rndB u η (divB s w))
      (fun a b => rndB u η (subB a b)) (fun a d => rndB u η (mulB (rndB u η (a, 0)) (rndB u η (mulB d d))))
      (weights hist) cs := rfl

theorem critList_length (hist : List Nat) (cs : List Rat) (hc : cs.length = hist.length) :
    (critList hist cs).length = hist.length - 1 := by
  rw [critList_eq_critProg, critProg_length cumsum_length _ _ (by simp [hc]), List.length_map]

theorem critList_getElem? (hist : List Nat) (cs : List Rat) (hc : cs.length = hist.length)
    (i : Nat) (hi : i + 1 < hist.length) :
    (critList hist cs)[i]? = some (specCrit hist cs i) := by
  rw [critList_eq_critProg, critProg_getElem? _ _ _ _ _ _ (by simp [hc]) i (by simpa using hi)]
  rfl

theorem critList_getD (hist : List Nat) (cs : List Rat) (hc : cs.length = hist.length)
    (i : Nat) (hi : i + 1 < hist.length) :
    (critList hist cs).getD i 0 = specCrit hist cs i := by
  rw [List.getD_eq_getElem?_getD, critList_getElem? hist cs hc i hi]; rfl

theorem specCritList_length (hist : List Nat) (cs : List Rat) :
    (specCritList hist cs).length = hist.length - 1 := by simp [specCritList]

theorem critList_eq_spec (hist : List Nat) (cs : List Rat) (hc : cs.length = hist.length) :
    critList hist cs = specCritList hist cs :=
  List.ext_getElem?' fun i hi => by
    rw [critList_length hist cs hc, specCritList_length, Nat.max_self] at hi
    rw [critList_getElem? hist cs hc i (Nat.add_lt_of_lt_sub hi)]
    simp [specCritList, List.getElem?_range hi]

theorem argmaxFirst_cons_cons (a b : Rat) (l : List Rat) :
    argmaxFirst (a :: b :: l) =
      if a < (b :: l).getD (argmaxFirst (b :: l)) 0 then argmaxFirst (b :: l) + 1 else 0 := rfl

theorem argmaxFirst_spec : ∀ (l : List Rat), l ≠ [] →
    argmaxFirst l < l.length ∧
    ∀ j, j < l.length → l.getD j 0 ≤ l.getD (argmaxFirst l) 0 ∧
      (j < argmaxFirst l → l.getD j 0 < l.getD (argmaxFirst l) 0)
  | [a], _ => ⟨Nat.one_pos, fun j hj => by
      obtain rfl : j = 0 := Nat.lt_one_iff.mp hj
      exact ⟨le_refl _, fun h => absurd h (lt_irrefl _)⟩⟩
  | a :: b :: l, _ => by
    obtain ⟨hlt, hmax⟩ := argmaxFirst_spec (b :: l) (List.cons_ne_nil _ _)
    rw [argmaxFirst_cons_cons]
    generalize argmaxFirst (b :: l) = r at *
    by_cases hc : a < (b :: l).getD r 0
    · -- the head is beaten by the maximum of the tail: every index moves up by one
      rw [if_pos hc]
      refine ⟨Nat.succ_lt_succ hlt, fun j hj => ?_⟩
      cases j with
      | zero => exact ⟨hc.le, fun _ => hc⟩
      | succ j =>
        obtain ⟨h1, h2⟩ := hmax j (Nat.lt_of_succ_lt_succ hj)
        exact ⟨h1, fun h => h2 (Nat.lt_of_succ_lt_succ h)⟩
    · rw [if_neg hc]
      refine ⟨Nat.succ_pos _, fun j hj => ?_⟩
      cases j with
      | zero => exact ⟨le_refl _, fun h => absurd h (lt_irrefl _)⟩
      | succ j =>
        exact ⟨(hmax j (Nat.lt_of_succ_lt_succ hj)).1.trans (not_lt.mp hc), fun h => absurd h (Nat.not_lt_zero _)⟩

theorem argmaxFirst_cuts {l : List Rat} {n : Nat} (hl : l.length = n - 1) (hn : 2 ≤ n) :
    argmaxFirst l + 1 < n ∧ ∀ j, j + 1 < n → l.getD j 0 ≤ l.getD (argmaxFirst l) 0 ∧
      (j < argmaxFirst l → l.getD j 0 < l.getD (argmaxFirst l) 0) := by
  obtain ⟨hlt, hmax⟩ := argmaxFirst_spec l (List.ne_nil_of_length_pos (hl ▸ Nat.sub_pos_of_lt hn))
  rw [hl] at hlt hmax
  exact ⟨Nat.add_lt_of_lt_sub hlt, fun j hj => hmax j (Nat.lt_sub_of_add_lt hj)⟩

theorem argmax_critList (hist : List Nat) (cs : List Rat) (hn : 2 ≤ hist.length) (hc : cs.length = hist.length) :
    argmaxFirst (critList hist cs) + 1 < hist.length ∧
    ∀ j, j + 1 < hist.length → specCrit hist cs j ≤ specCrit hist cs (argmaxFirst (critList hist cs)) ∧
      (j < argmaxFirst (critList hist cs) → specCrit hist cs j < specCrit hist cs (argmaxFirst (critList hist cs))) := by
  obtain ⟨hr, hmax⟩ := argmaxFirst_cuts (critList_length hist cs hc) hn
  refine ⟨hr, fun j hj => ?_⟩
  have := hmax j hj
  rwa [critList_getD hist cs hc j hj, critList_getD hist cs hc _ hr] at this

@[simp] theorem centres_length (edges : List Rat) : (centres edges).length = edges.length - 1 := by
  simp [centres]

theorem centres_length_eq {edges : List Rat} {n : Nat} (he : edges.length = n + 1) : (centres edges).length = n := by
  rw [centres_length, he, Nat.add_sub_cancel]

theorem centres_getD (edges : List Rat) (i : Nat) (hi : i + 1 < edges.length) :
    (centres edges).getD i 0 = (edges.getD (i + 1) 0 + edges.getD i 0) / 2 := by
  have h0 : i < edges.length := Nat.lt_of_succ_lt hi
  unfold centres
  rw [List.getD_eq_getElem?_getD, List.getD_eq_getElem?_getD, List.getD_eq_getElem?_getD, List.getElem?_zipWith,
    List.getElem?_tail, List.getElem?_eq_getElem hi, List.getElem?_eq_getElem h0]
  rfl

theorem pairwise_getD_lt (edges : List Rat) (hp : edges.Pairwise (· < ·)) (i j : Nat) (hij : i < j)
    (hj : j < edges.length) : edges.getD i 0 < edges.getD j 0 := by
  have hi : i < edges.length := hij.trans hj
  rw [List.getD_eq_getElem?_getD, List.getD_eq_getElem?_getD, List.getElem?_eq_getElem hi,
    List.getElem?_eq_getElem hj]
  exact List.pairwise_iff_getElem.mp hp i j hi hj hij

theorem pairwise_getD_le (edges : List Rat) (hp : edges.Pairwise (· < ·)) (i j : Nat) (hij : i ≤ j)
    (hj : j < edges.length) : edges.getD i 0 ≤ edges.getD j 0 := by
  rcases Nat.lt_or_eq_of_le hij with h | h
  · exact le_of_lt (pairwise_getD_lt edges hp i j h hj)
  · subst h; exact le_refl _

theorem centre_in_range (edges : List Rat) (hp : edges.Pairwise (· < ·)) (i : Nat)
    (hi : i + 1 < edges.length) :
    edges.getD 0 0 < (centres edges).getD i 0 ∧
      (centres edges).getD i 0 < edges.getD (edges.length - 1) 0 := by
  rw [centres_getD edges i hi, add_comm (edges.getD (i + 1) 0)]
  have h1 := pairwise_getD_le edges hp 0 i (Nat.zero_le _) (Nat.lt_of_succ_lt hi)
  have h2 := pairwise_getD_lt edges hp i (i + 1) (Nat.lt_succ_self _) hi
  have h3 := pairwise_getD_le edges hp (i + 1) (edges.length - 1) (Nat.le_sub_one_of_lt hi)
    (Nat.sub_lt (Nat.zero_lt_of_lt hi) Nat.one_pos)
  exact ⟨h1.trans_lt (left_lt_add_div_two.mpr h2), (add_div_two_lt_right.mpr h2).trans_le h3⟩

/-- occupied end bins: every class holds one of them -/
theorem class_weights_pos (hist : List Nat) {n : Nat} (hl : hist.length = n) (h0 : 1 ≤ hist.getD 0 0)
    (h1 : 1 ≤ hist.getD (n - 1) 0) (i : Nat) (hi : i + 1 < n) :
    0 < sumR ((weights hist).take (i + 1)) ∧
    0 < sumR ((weights hist).drop (i + 1)) := by
  subst hl
  have hnn := weights_nonneg hist
  have pos : ∀ k, 1 ≤ hist.getD k 0 → 0 < (weights hist).getD k 0 := fun k hk => by
    rw [weights_getD]; exact Nat.cast_pos.mpr hk
  generalize weights hist = h at hnn pos ⊢
  constructor
  · have := getD_le_sumR (h.take (i + 1)) (fun x hx => hnn x (List.mem_of_mem_take hx)) 0
    rw [List.getD_eq_getElem?_getD, List.getElem?_take_of_lt (Nat.succ_pos i), ← List.getD_eq_getElem?_getD] at this
    exact lt_of_lt_of_le (pos 0 h0) this
  · have := getD_le_sumR (h.drop (i + 1)) (fun x hx => hnn x (List.mem_of_mem_drop hx)) (hist.length - 1 - (i + 1))
    rw [List.getD_eq_getElem?_getD, List.getElem?_drop, ← List.getD_eq_getElem?_getD,
      Nat.add_sub_cancel' (Nat.le_sub_one_of_lt hi)] at this
    exact lt_of_lt_of_le (pos _ h1) this

theorem critListN_length (hist : List Nat) (cs : List Rat) (hc : cs.length = hist.length) :
    (critListN hist cs).length = hist.length - 1 := by
  rw [critListN_eq_critProg, critProg_length cumsum_length _ _ (by simp [hc]), List.length_map]

theorem subN_divN (a b c d : Rat) :
    subN (divN a b) (divN c d) = if b = 0 ∨ d = 0 then none else some (a / b - c / d) := by
  unfold divN
  by_cases hb : b = 0
  · simp [hb, subN]
  · by_cases hd : d = 0 <;> simp [hb, hd, subN]

theorem critListN_getElem? (hist : List Nat) (cs : List Rat) (hc : cs.length = hist.length)
    (i : Nat) (hi : i + 1 < hist.length) :
    (critListN hist cs)[i]? = some
      (if sumR ((weights hist).take (i + 1)) = 0 ∨
          sumR ((weights hist).drop (i + 1)) = 0 then none
        else some (specCrit hist cs i)) := by
  rw [critListN_eq_critProg, critProg_getElem? _ _ _ _ _ _ (by simp [hc]) i (by simpa using hi), subN_divN]
  split <;> rfl

theorem critListN_eq_some (hist : List Nat) (cs : List Rat) {n : Nat} (hl : hist.length = n) (hc : cs.length = n)
    (h0 : 1 ≤ hist.getD 0 0) (h1 : 1 ≤ hist.getD (n - 1) 0) :
    critListN hist cs = (critList hist cs).map some := by
  subst hl
  exact List.ext_getElem?' fun i hi => by
      rw [critListN_length hist cs hc, List.length_map, critList_length hist cs hc, Nat.max_self] at hi
      have hi' : i + 1 < hist.length := Nat.add_lt_of_lt_sub hi
      obtain ⟨p1, p2⟩ := class_weights_pos hist rfl h0 h1 i hi'
      rw [critListN_getElem? hist cs hc i hi', List.getElem?_map, critList_getElem? hist cs hc i hi',
        if_neg (not_or.mpr ⟨p1.ne', p2.ne'⟩)]
      rfl

theorem argmaxN_map_some (l : List Rat) : argmaxN (l.map some) = argmaxFirst l := by
  have e : (l.map some).findIdx (·.isNone) = (l.map some).length := List.findIdx_eq_length.mpr (by simp)
  unfold argmaxN
  rw [e, if_neg (Nat.lt_irrefl _), List.map_map]
  exact congrArg argmaxFirst (List.map_id l)

theorem argmaxN_critListN (hist : List Nat) (cs : List Rat) {n : Nat} (hl : hist.length = n) (hc : cs.length = n)
    (h0 : 1 ≤ hist.getD 0 0) (h1 : 1 ≤ hist.getD (n - 1) 0) :
    argmaxN (critListN hist cs) = argmaxFirst (critList hist cs) := by
  rw [critListN_eq_some hist cs hl hc h0 h1, argmaxN_map_some]

theorem otsuHistN_eq (hist : List Nat) (edges : List Rat) {n : Nat} (hl : hist.length = n) (he : edges.length = n + 1)
    (h0 : 1 ≤ hist.getD 0 0) (h1 : 1 ≤ hist.getD (n - 1) 0) :
    otsuHistN hist edges = otsuHist hist edges :=
  congrArg ((centres edges).getD · 0) (argmaxN_critListN hist _ hl (centres_length_eq he) h0 h1)

theorem argmaxN_of_mem_none {l : List (Option Rat)} (h : none ∈ l) : argmaxN l = l.findIdx (·.isNone) :=
  if_pos (List.findIdx_lt_length_of_exists ⟨none, h, rfl⟩)

theorem argmaxN_lt (l : List (Option Rat)) (hne : l ≠ []) : argmaxN l < l.length := by
  unfold argmaxN
  split
  · assumption
  · have := (argmaxFirst_spec (l.map (·.getD 0)) (by simpa using hne)).1
    simpa using this

theorem argmaxN_of_head_nan (l : List (Option Rat)) (h : l[0]? = some none) : argmaxN l = 0 := by
  cases l with
  | nil => cases h
  | cons a t => cases Option.some.inj h; rfl

theorem cutSums_succ_of_empty (hist : List Nat) (cs : List Rat) (i : Nat) (h : hist.getD (i + 1) 0 = 0) :
    cutSums hist cs (i + 1) = cutSums hist cs i := by
  have hz : (weights hist).getD (i + 1) 0 = 0 := by
    rw [weights_getD, h]; simp
  have hz2 := (getD_zipWith_mul _ cs (i + 1)).trans (by rw [hz, zero_mul])
  unfold cutSums
  simp only
  rw [sumR_take_succ _ (i + 1), hz, sumR_take_succ (List.zipWith _ _ _) (i + 1), hz2,
    sumR_drop_succ _ (i + 1), hz, sumR_drop_succ (List.zipWith _ _ _) (i + 1), hz2]
  simp

theorem classStart_spec {α : Type} (hist : List Nat) (f : Nat → α)
    (hf : ∀ i, hist.getD (i + 1) 0 = 0 → f (i + 1) = f i) (i : Nat) :
    classStart hist i ≤ i ∧ (∀ j, classStart hist i < j → j ≤ i → hist.getD j 0 = 0) ∧
      f (classStart hist i) = f i := by
  induction i with
  | zero => exact ⟨Nat.le_refl _, fun j h1 h2 => absurd (h1.trans_le h2) (lt_irrefl _), rfl⟩
  | succ i ih =>
    obtain ⟨h1, h2, h3⟩ := ih
    unfold classStart
    split
    · rename_i he
      refine ⟨Nat.le_succ_of_le h1, fun j hj1 hj2 => ?_, h3.trans (hf i he).symm⟩
      rcases Nat.lt_or_ge i j with hj | hj
      · rw [Nat.le_antisymm hj2 hj]; exact he
      · exact h2 j hj1 hj
    · exact ⟨Nat.le_refl _, fun j hj1 hj2 => absurd (hj1.trans_le hj2) (lt_irrefl _), rfl⟩

theorem specCrit_eq_cutSums (hist : List Nat) (cs : List Rat) (i : Nat) :
    specCrit hist cs i =
      (cutSums hist cs i).1 * (cutSums hist cs i).2.1 *
        ((cutSums hist cs i).2.2.1 / (cutSums hist cs i).1 - (cutSums hist cs i).2.2.2 / (cutSums hist cs i).2.1) ^ 2 := rfl

end Pew.Otsu
