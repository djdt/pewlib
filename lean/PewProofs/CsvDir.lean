import PewProofs.SortCsv

/-! # C04 — which tables `load` reads, and in which order: the directory enters `load` through its accepted files, sorted
into the submission list (`submitted`), and the executor returns their tables in that order whatever the completion
order π -/
namespace Pew.CsvDir

variable {α P : Type}

theorem accepted_eq_filter (v : Vendor) (listing : List (Entry α)) :
    accepted v listing = listing.filter (fun e => e.isFile && !hidden e.name && matchesV v e.name) := by
  unfold accepted visible
  rw [List.filter_filter]
  apply List.filter_congr
  intro x _
  exact Bool.and_comm _ _

theorem accepted_accepted (v : Vendor) (listing : List (Entry α)) : accepted v (accepted v listing) = accepted v listing := by
  rw [accepted_eq_filter v (accepted v listing), accepted_eq_filter, List.filter_filter]
  exact List.filter_congr fun x _ => Bool.and_self _

theorem accepted_perm (v : Vendor) {σ listing : List (Entry α)} (h : σ.Perm listing) :
    (accepted v σ).Perm (accepted v listing) :=
  (h.filter _).filter _

theorem lookup_complete {β : Type} (tasks : List β) (π : List Nat) (i : Nat) :
    (complete tasks π).lookup i = if i ∈ π then tasks[i]? else none :=
  Lists.lookup_filterMap_self π (fun i => tasks[i]?) i

/-- every reader task completes -/
def Covers (n : Nat) (π : List Nat) : Prop := ∀ i, i < n → i ∈ π

instance (n : Nat) (π : List Nat) : Decidable (Covers n π) :=
  decidable_of_iff (∀ i ∈ List.range n, i ∈ π) (by simp [Covers])

theorem gather_complete {β : Type} (tasks : List β) (π : List Nat) (hπ : Covers tasks.length π) :
    gather tasks.length (complete tasks π) = tasks := by
  unfold gather
  rw [filterMap_congr' (g := fun i => tasks[i]?), filterMap_range_getElem?]
  intro i hi
  rw [lookup_complete, if_pos (hπ i (List.mem_range.mp hi))]

def submitted (v : Vendor) (tkey : List Nat → Int) (listing : List (Entry α)) : List (Entry α) :=
  sortBy (fun e => sortKey v tkey e.name) (accepted v listing)

theorem submitted_perm (v : Vendor) (tkey : List Nat → Int) (listing : List (Entry α)) :
    (submitted v tkey listing).Perm (accepted v listing) :=
  sortBy_perm _ _

theorem submitted_eq_byRank (v : Vendor) (tkey : List Nat → Int) (listing : List (Entry α))
    (hd : (accepted v listing).Pairwise (fun a b => acqKey v a.name ≠ acqKey v b.name))
    (hkey : ∀ a ∈ accepted v listing, ∀ b ∈ accepted v listing,
      keyLe (sortKey v tkey a.name) (sortKey v tkey b.name) = keyLe (acqKey v a.name) (acqKey v b.name)) :
    submitted v tkey listing = byRank (fun e => acqKey v e.name) (accepted v listing) := by
  unfold submitted
  rw [sortBy_congr (fun e : Entry α => sortKey v tkey e.name) (fun e => acqKey v e.name) _ hkey]
  exact sortBy_eq_byRank (fun e : Entry α => acqKey v e.name) _ hd

theorem readLines_submitted (v : Vendor) (tkey : List Nat → Int) (listing : List (Entry α)) (π : List Nat) :
    readLines v tkey listing π
      = gather (submitted v tkey listing).length (complete ((submitted v tkey listing).map (·.line)) π) := by
  simp only [readLines, submitted, List.length_map]

theorem readLines_eq (v : Vendor) (tkey : List Nat → Int) (listing : List (Entry α)) (π : List Nat)
    (hπ : Covers (accepted v listing).length π) :
    readLines v tkey listing π = (submitted v tkey listing).map (·.line) := by
  have := gather_complete ((submitted v tkey listing).map (·.line)) π
    (by rw [List.length_map, (submitted_perm v tkey listing).length_eq]; exact hπ)
  rwa [List.length_map, ← readLines_submitted] at this

theorem keysDefined_perm (v : Vendor) {l₁ l₂ : List String} (h : l₁.Perm l₂) : keysDefined v l₁ = keysDefined v l₂ := by
  cases v <;> simp only [keysDefined]
  exact h.all_eq

theorem load_eq_ite (isNan : α → Bool) (rp : Vendor → Image α → P) (v : Vendor) (tkey : List Nat → Int)
    (listing : List (Entry α)) (π : List Nat) :
    load isNan rp v tkey listing π
      = if keysDefined v ((accepted v listing).map (·.name)) = true ∧ (readLines v tkey listing π).isEmpty = false
        then some (post isNan rp v (stack (readLines v tkey listing π))) else none := by
  unfold load
  by_cases hvis : (visible listing).isEmpty = true
  · -- without a visible file no line is read: the first test of `load` is contained in the third
    have hacc : accepted v listing = [] := by
      unfold accepted; rw [List.isEmpty_iff.mp hvis]; rfl
    have hsub : submitted v tkey listing = [] := (hacc ▸ submitted_perm v tkey listing).eq_nil
    have hlines : readLines v tkey listing π = [] := by rw [readLines_submitted, hsub]; rfl
    simp [hvis, hlines]
  · rw [if_neg hvis]
    cases hk : keysDefined v ((accepted v listing).map (·.name)) <;>
      cases he : (readLines v tkey listing π).isEmpty <;> simp [he]

theorem load_congr (isNan : α → Bool) (rp : Vendor → Image α → P) (v : Vendor) (tkey : List Nat → Int)
    {l₁ l₂ : List (Entry α)} (π : List Nat) (h : submitted v tkey l₁ = submitted v tkey l₂) :
    load isNan rp v tkey l₁ π = load isNan rp v tkey l₂ π := by
  have hacc : (accepted v l₁).Perm (accepted v l₂) :=
    (submitted_perm v tkey l₁).symm.trans (h ▸ submitted_perm v tkey l₂)
  rw [load_eq_ite, load_eq_ite, readLines_submitted, readLines_submitted, h, keysDefined_perm v (hacc.map _)]

theorem specLoad_eq_ite (isNan : α → Bool) (rp : Vendor → Image α → P) (v : Vendor)
    (listing : List (Entry α)) :
    specLoad isNan rp v listing
      = if (accepted v listing).isEmpty then none else
          some (specPost isNan rp v ((byRank (fun e => acqKey v e.name) (accepted v listing)).map (·.line))) := by
  unfold specLoad
  rw [accepted_eq_filter]

end Pew.CsvDir
