import PewProofs.AgilentLists
import Mathlib.Tactic.Ring
import Mathlib.Algebra.BigOperators.Group.List.Basic

/-! C02, the binary import: on the instrument's layout a decoded field IS a column of the profile; the mass table after
the XAddition rows; the sum of the time differences telescopes. -/
namespace Pew.Agilent

theorem flatten_index {α : Type} (M : List (List α)) (k : Nat)
    (hk : ∀ row ∈ M, row.length = k) (r j : Nat) (hr : r < M.length) (hj : j < k) :
    M.flatten[r * k + j]? = (M[r]?).bind (fun row => row[j]?) := by
  rw [← List.flatMap_id, Nat.mul_comm, Lists.getElem?_flatMap_const id k M hk r j hr hj, List.getElem?_eq_getElem hr]
  rfl

/-- `min(…, size - 1)` in `binary_read_datafile` -/
theorem clip_inactive (R k r j : Nat) (hr : r < R) (hj : j < k) : r * k + j ≤ R * k - 1 := by
  have := Lists.mul_add_lt hr hj
  omega

/-- `(SpectrumOffset - 68) // ByteCount` recovers the record number -/
theorem offset_div (r bc : Nat) (hbc : 0 < bc) :
    (((68 + r * bc : Nat) : Int) - profileHeader) / (bc : Int) = (r : Int) := by
  have : (((68 + r * bc : Nat) : Int) - profileHeader) = (r : Int) * (bc : Int) := by
    unfold profileHeader; push_cast; omega
  rw [this, Int.mul_ediv_cancel _ (by omega)]

theorem pyIndex_natCast {α : Type} (l : List α) (n : Nat) : pyIndex l (n : Int) = l[n]? := by
  rw [pyIndex, if_pos (Int.natCast_nonneg n), Int.toNat_natCast]

theorem decodeMass_getElem {α : Type} {R k bc : Nat} {scans : List ScanRec} {profile : List (List α)}
    (L : Layout R k bc scans profile) (r j : Nat) (hr : r < R) (hj : j < k) :
    (decodeMass k scans profile (j + 1))[r]? = some ((profile[r]?).bind (fun row => row[j]?)) := by
  have hr' : r < scans.length := by rw [L.nscans]; exact hr
  obtain ⟨ho, hb⟩ := L.offs r hr'
  have hlt := Lists.mul_add_lt hr hj
  have hidx : min ((((scans[r].off : Int) - profileHeader) / (scans[r].bc : Int)) * (k : Int) + (((j + 1 : Nat) : Int) - 1))
      (((profile.length * k : Nat) : Int) - 1) = ((r * k + j : Nat) : Int) := by
    rw [ho, hb, offset_div r bc L.pos, L.nprofile]
    omega
  rw [decodeMass, List.getElem?_map, List.getElem?_eq_getElem hr', Option.map_some, hidx, pyIndex_natCast, flat,
    flatten_index profile k L.width r j (by rw [L.nprofile]; exact hr) hj]

theorem profile_getElem_some {α : Type} {R k bc : Nat} {scans : List ScanRec} {profile : List (List α)}
    (L : Layout R k bc scans profile) (r j : Nat) (hr : r < R) (hj : j < k) :
    ∃ v, (profile[r]?).bind (fun row => row[j]?) = some v := by
  have hr' : r < profile.length := by rw [L.nprofile]; exact hr
  have hj' : j < profile[r].length := by rw [L.width _ (List.getElem_mem hr')]; exact hj
  exact ⟨profile[r][j], by rw [List.getElem?_eq_getElem hr', Option.bind_some, List.getElem?_eq_getElem hj']⟩

theorem isSome_getElem?_of_width {α : Type} {profile : List (List α)} {j k : Nat}
    (hw : ∀ row ∈ profile, row.length = k) (hj : j < k) : ∀ row ∈ profile, (row[j]?).isSome :=
  fun row hrow => by simp [hw row hrow, hj]

theorem column_getElem {α : Type} (profile : List (List α)) (j k : Nat)
    (hw : ∀ row ∈ profile, row.length = k) (hj : j < k) (r : Nat) :
    (column profile j)[r]? = (profile[r]?).bind (fun row => row[j]?) :=
  Lists.getElem?_filterMap_of_isSome (isSome_getElem?_of_width hw hj) r

theorem length_column {α : Type} {profile : List (List α)} {j k : Nat}
    (hw : ∀ row ∈ profile, row.length = k) (hj : j < k) : (column profile j).length = profile.length :=
  Lists.length_filterMap_of_isSome (isSome_getElem?_of_width hw hj)

theorem decodeMass_eq_column {α : Type} {R k bc : Nat} {scans : List ScanRec} {profile : List (List α)}
    (L : Layout R k bc scans profile) (j : Nat) (hj : j < k) :
    decodeMass k scans profile (j + 1) = (column profile j).map some := by
  apply List.ext_getElem?
  intro r
  rw [List.getElem?_map, column_getElem profile j k L.width hj r]
  by_cases hr : r < R
  · rw [decodeMass_getElem L r j hr hj]
    obtain ⟨v, hv⟩ := profile_getElem_some L r j hr hj
    rw [hv]; rfl
  · rw [List.getElem?_eq_none (by rw [decodeMass, List.length_map, L.nscans]; omega),
      List.getElem?_eq_none (by rw [L.nprofile]; omega)]
    rfl

theorem decode_range' {α : Type} (k : Nat) (scans : List ScanRec) (profile : List (List α)) :
    decode (List.range' 1 k) scans profile = (List.range k).map fun j => decodeMass k scans profile (j + 1) := by
  rw [decode, List.length_range', List.range'_eq_map_range, List.map_map]
  exact List.map_congr_left fun j _ => by rw [Function.comp, Nat.add_comm]

theorem decode_allSome {α : Type} {R k bc : Nat} {scans : List ScanRec} {profile : List (List α)}
    (L : Layout R k bc scans profile) :
    allSome ((decode (List.range' 1 k) scans profile).map allSome) = some ((List.range k).map (column profile)) := by
  rw [decode_range', List.map_map]
  exact allSome_map_of_forall _ _ _ fun j hj => by
    rw [Function.comp, decodeMass_eq_column L j (List.mem_range.mp hj), allSome_map_some]

def updMass (msms : Bool) (m : MassInfo) (a : XAdd) : MassInfo :=
  { m with mz := a.precursor, mz2 := if msms then some a.product else m.mz2 }

theorem foldl_applyAdd (msms : Bool) (rows : List XAdd) (tbl : List MassInfo) :
    rows.foldl (applyAdd msms) tbl = tbl.map (fun m =>
      match rows.reverse.find? (fun a => a.index = m.id) with
      | none => m
      | some a => updMass msms m a) := by
  induction rows generalizing tbl with
  | nil => simp
  | cons a rs ih =>
    rw [List.foldl_cons, ih, applyAdd, List.map_map]
    apply List.map_congr_left
    intro m _
    simp only [Function.comp, List.reverse_cons, List.find?_append]
    by_cases hm : m.id = a.index
    · simp only [hm, if_true]
      cases List.find? (fun x => decide (x.index = a.index)) rs.reverse with
      | none => simp [updMass]; exact hm.symm
      | some b =>
        -- a later row `b` with this index overwrites both fields `a` wrote (`mz2` stays as it was when not MS/MS)
        simp only [Option.some_or, updMass]
        cases msms <;> simp <;> exact hm.symm
    · simp only [hm, if_false]
      have : (fun x : XAdd => decide (x.index = m.id)) a = false := by
        simp; exact fun e => hm e.symm
      cases List.find? (fun x => decide (x.index = m.id)) rs.reverse with
      | none => simp [this]
      | some b => simp

theorem xspecific_ids (xs : List XMass) : (xspecific xs).map (·.id) = List.range' 1 xs.length := by
  rw [xspecific, List.map_map]
  exact List.ext_getElem (by simp) fun i h1 h2 => by simp [Nat.add_comm]

theorem length_of_ids {ms : List MassInfo} {k : Nat} (hids : ms.map (·.id) = List.range' 1 k) : ms.length = k := by
  simpa using congrArg List.length hids

theorem mz2_of_mem_xspecific {xs : List XMass} {m : MassInfo} (h : m ∈ xspecific xs) : m.mz2 = none := by
  obtain ⟨x, _, rfl⟩ := List.mem_map.mp h
  rfl

theorem massInfoSpec_ids (xs : List XMass) (xadd : Option (Bool × List XAdd)) :
    (massInfoSpec xs xadd).map (·.id) = (xspecific xs).map (·.id) := by
  rw [massInfoSpec, List.map_map]
  refine List.map_congr_left fun m _ => ?_
  rcases xadd with _ | ⟨msms, rows⟩
  · rfl
  · simp only [Function.comp]
    cases List.find? (fun a => decide (a.index = m.id)) rows.reverse <;> rfl

theorem sum_diffs : ∀ l : List Rat, (diffs l).sum = l.getLastD 0 - l.headD 0
  | [] => by simp [diffs]
  | [a] => by simp [diffs]
  | a :: b :: rest => by
    rw [diffs, List.sum_cons, sum_diffs (b :: rest)]
    simp only [List.getLastD_cons, List.headD_cons]
    ring

theorem length_diffs (l : List Rat) : (diffs l).length = l.length - 1 := by
  induction l with
  | nil => rfl
  | cons a rest ih =>
    cases rest with
    | nil => rfl
    | cons b r2 => rw [diffs, List.length_cons, ih]; rfl

/-- no `2 ≤ m` is needed: for `m ≤ 1` both sides are `0 / 0` -/
theorem meanDiff_eq_spec (times : List (List Rat)) (m : Nat) (hrows : ∀ row ∈ times, row.length = m) :
    meanDiff times = meanDiffSpec times m := by
  have hlen : ((times.map diffs).flatten).length = times.length * (m - 1) := by
    rw [← List.flatMap_def, Lists.length_flatMap_const diffs (m - 1) times fun row hr => by rw [length_diffs, hrows row hr],
      Nat.mul_comm]
  have hsum : ((times.map diffs).flatten).sum = (times.map (fun row => row.getLastD 0 - row.headD 0)).sum := by
    rw [List.sum_flatten, List.map_map]
    exact congrArg List.sum (List.map_congr_left fun row _ => sum_diffs row)
  simp only [meanDiff, meanDiffSpec, hlen, hsum]

end Pew.Agilent
