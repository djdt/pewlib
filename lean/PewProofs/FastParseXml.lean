import PewProofs.FastParse
/-! # C17 — the tree queries against the dictionaries

The dictionary of a loop keeps the last value it has seen for an accession, the XML parser finds the first in the
element it queries, and the layout says the accession occurs once, there (`lookup_reverse_unique`, `firstVal_part`,
`dict_has`, `pickG_eq`).  So on a document of the layout every element parses, to what the tree queries find:
`LayoutCore` gives `FastDoc` with the model `xmlView` builds (`layout_fastDoc`). -/
namespace Pew.FastParse

theorem hasAcc_iff (k : String) (items : List Item) : hasAcc k items = true ↔ k ∈ accs items := by
  unfold hasAcc
  induction items with
  | nil => simp [firstVal, accs]
  | cons it r ih =>
    cases it with
    | cv a v =>
      by_cases h : a = k
      · simp [firstVal, accs, h]
      · have h' : ¬ k = a := fun e => h e.symm
        simp [firstVal, accs, h, h', ih]
    | ref _ => simpa [firstVal, accs] using ih
    | misc => simpa [firstVal, accs] using ih

theorem keys_pairs (cls : String → Bool) (items : List Item) : (pairs cls items).map Prod.fst = accs items := by
  induction items with
  | nil => rfl
  | cons it r ih => cases it <;> simp [pairs, accs, ih]

theorem lookup_pairs (cls : String → Bool) (k : String) (items : List Item) :
    (pairs cls items).lookup k = (firstVal k items).map (reVal cls) := by
  induction items with
  | nil => rfl
  | cons it r ih =>
    cases it with
    | cv a v =>
      simp only [pairs, firstVal, List.lookup_cons]
      by_cases h : k = a
      · subst h; simp
      · have h' : ¬ a = k := fun e => h e.symm
        have hb : (k == a) = false := by simpa using h
        simp [hb, h', ih]
    | ref _ => simpa [pairs, firstVal] using ih
    | misc => simpa [pairs, firstVal] using ih

theorem lookup_isSome_iff {V} (l : List (String × V)) (k : String) :
    (l.lookup k).isSome = true ↔ k ∈ l.map Prod.fst := by
  rw [List.lookup_isSome_iff, List.mem_map]
  exact ⟨fun ⟨p, hp, e⟩ => ⟨p, hp, (beq_iff_eq.1 e).symm⟩, fun ⟨p, hp, e⟩ => ⟨p, hp, beq_iff_eq.2 e.symm⟩⟩

/-- with at most one entry for `k`, "last wins" and "first found" coincide -/
theorem lookup_reverse_unique {V} (l : List (String × V)) (k : String) (h : (l.map Prod.fst).count k ≤ 1) :
    l.reverse.lookup k = l.lookup k := by
  induction l with
  | nil => rfl
  | cons p r ih =>
    obtain ⟨a, v⟩ := p
    simp only [List.reverse_cons, List.lookup_append, List.lookup_cons, List.lookup_nil]
    simp only [List.map_cons, List.count_cons] at h
    by_cases hk : k = a
    · subst hk
      have hc : (r.map Prod.fst).count k = 0 := by simp at h; omega
      have hn : k ∉ r.map Prod.fst := List.count_eq_zero.mp hc
      have hn' : k ∉ r.reverse.map Prod.fst := by simpa using hn
      rw [Option.not_isSome_iff_eq_none.1 (mt (lookup_isSome_iff _ k).1 hn')]
      simp
    · have hb : (k == a) = false := by simpa using hk
      have hb' : (a == k) = false := by simpa using (fun e => hk e.symm)
      rw [hb]
      rw [hb'] at h
      rw [ih h]
      cases r.lookup k <;> simp

theorem dict_has (cls : String → Bool) (k : String) (items : List Item) :
    (((pairs cls items).reverse).lookup k).isSome = hasAcc k items := by
  rw [Bool.eq_iff_iff, lookup_isSome_iff, List.map_reverse, keys_pairs, hasAcc_iff, List.mem_reverse]

theorem accs_sublist {part whole : List Item} (h : part.Sublist whole) : (accs part).Sublist (accs whole) := by
  induction h with
  | slnil => exact .slnil
  | @cons _ _ a _ ih =>
    cases a with
    | cv => exact ih.cons _
    | _ => exact ih
  | @cons_cons _ _ a _ ih =>
    cases a with
    | cv => exact ih.cons_cons _
    | _ => exact ih

/-- the XML parser queries one child element, the fast parser's dictionary has seen the lines of several:
they find the same when the part holds every occurrence of the accession -/
theorem firstVal_part (k : String) {part whole : List Item} (h : part.Sublist whole)
    (hc : (accs whole).count k = (accs part).count k) : firstVal k whole = firstVal k part := by
  induction h with
  | slnil => rfl
  | @cons p w a hs ih =>
    cases a with
    | cv a v =>
      have := (accs_sublist hs).count_le k
      by_cases e : a = k
      · simp [accs, e] at hc; omega
      · simp only [firstVal, e, if_false]; exact ih (by simpa [accs, e] using hc)
    | _ => exact ih hc
  | @cons_cons p w a hs ih =>
    cases a with
    | cv a v =>
      by_cases e : a = k
      · simp [firstVal, e]
      · simp only [firstVal, e, if_false]; exact ih (by simpa [accs, e] using hc)
    | _ => exact ih hc

theorem firstVal_none_of_not_mem (k : String) (items : List Item) (h : k ∉ accs items) : firstVal k items = none :=
  firstVal_part k (List.nil_sublist items) (List.count_eq_zero.2 h)

theorem dict_lookup_part (cls : String → Bool) (k : String) {part whole : List Item} (h : part.Sublist whole)
    (hc : (accs whole).count k = (accs part).count k) (h1 : (accs part).count k ≤ 1) :
    ((pairs cls whole).reverse).lookup k = (firstVal k part).map (reVal cls) := by
  rw [lookup_reverse_unique _ _ (by rw [keys_pairs]; exact hc ▸ h1), lookup_pairs, firstVal_part k h hc]

theorem oneVal_read (cls : String → Bool) (k : String) {part whole : List Item} (h : oneVal cls k part)
    (hs : part.Sublist whole) (hc : (accs whole).count k = (accs part).count k) :
    ∃ v, firstVal k part = some (some v) ∧ ((pairs cls whole).reverse).lookup k = some (some v) := by
  obtain ⟨h1, hv⟩ := h
  rw [dict_lookup_part cls k hs hc (Nat.le_of_eq h1)]
  unfold valOk at hv
  cases hf : firstVal k part with
  | none => simp [hf] at hv
  | some ov =>
    cases ov with
    | none => simp [hf] at hv
    | some v => exact ⟨v, rfl, by simpa [reVal, hf] using hv⟩

theorem optVal_read (cls : String → Bool) (k : String) {part whole : List Item} (h : optVal cls k part)
    (hs : part.Sublist whole) (hc : (accs whole).count k = (accs part).count k) :
    (firstVal k part = none ∧ ((pairs cls whole).reverse).lookup k = none) ∨
    ∃ v, firstVal k part = some (some v) ∧ ((pairs cls whole).reverse).lookup k = some (some v) := by
  rcases h with h | h
  · have hn := firstVal_none_of_not_mem k part (List.count_eq_zero.mp h)
    exact Or.inl ⟨hn, by rw [dict_lookup_part cls k hs hc (by omega), hn]; rfl⟩
  · exact Or.inr (oneVal_read cls k h hs hc)

theorem group_agree (cls : String → Bool) (g : Group) (h : GroupOk g) :
    ∃ pg, fastGroup cls g = .ok pg ∧ xmlGroup g = some pg := by
  obtain ⟨hlen, hnc⟩ := h
  have hf : binTypes.filter (fun t => decide (t ∈ accs g.items)) = binTypes.filter (fun t => hasAcc t g.items) :=
    List.filter_congr fun t _ => by rw [Bool.eq_iff_iff, hasAcc_iff]; simp
  -- the loop takes the last binary type of the table that occurs, `find?` the first: one occurs
  obtain ⟨t, ht⟩ := List.length_eq_one_iff.1 hlen
  rw [hf] at ht
  have hnc' : hasAcc accNoCompression g.items = false := by
    rw [Bool.eq_false_iff]; intro hh; exact hnc ((hasAcc_iff _ _).mp hh)
  refine ⟨{ id := g.id, dtype := t, external := hasAcc accExternal g.items }, ?_, ?_⟩
  · simp only [fastGroup, finishGroup, dict_has, ht, List.getLast?_singleton]
  · have : binTypes.find? (fun t => hasAcc t g.items) = some t := by
      rw [← List.head?_filter, ht]; rfl
    simp [xmlGroup, this, hnc']

theorem settings_agree (cls : String → Bool) (s : Settings) (h : SettingsOk cls s) :
    ∃ x, fastSettings cls s = .ok x ∧ xmlSettings s = some x := by
  obtain ⟨hx, hy, hpx, hpy⟩ := h
  obtain ⟨px, hpx1, hpx2⟩ := oneVal_read cls _ hpx (.refl _) rfl
  obtain ⟨py, hpy1, hpy2⟩ := oneVal_read cls _ hpy (.refl _) rfl
  rcases optVal_read cls _ hx (.refl _) rfl with ⟨hx1, hx2⟩ | ⟨x, hx1, hx2⟩
  · exact ⟨{ size := none, pixel := (px, py) }, by simp [fastSettings, finishSettings, need, hx2, hpx2, hpy2],
      by simp [xmlSettings, hx1, hpx1, hpy1]⟩
  · rcases optVal_read cls _ hy (.refl _) rfl with ⟨hy1, hy2⟩ | ⟨y, hy1, hy2⟩
    · exact ⟨{ size := none, pixel := (px, py) }, by simp [fastSettings, finishSettings, need, hx2, hy2, hpx2, hpy2],
        by simp [xmlSettings, hx1, hy1, hpx1, hpy1]⟩
    · exact ⟨{ size := some (x, y), pixel := (px, py) }, by simp [fastSettings, finishSettings, need, hx2, hy2, hpx2, hpy2],
        by simp [xmlSettings, hx1, hy1, hpx1, hpy1]⟩

theorem firstRef_eq (items : List Item) : firstRef items = (refs items).head? := by
  induction items with
  | nil => rfl
  | cons it r ih => cases it <;> simp [firstRef, refs, ih]

theorem arr_agree (cls : String → Bool) (a : Arr) (h : ArrOk cls a) :
    ∃ x, fastArr cls a = .ok x ∧ xmlArr a = some x := by
  obtain ⟨hr, ho, hl⟩ := h
  obtain ⟨o, ho1, ho2⟩ := oneVal_read cls _ ho (.refl _) rfl
  obtain ⟨l, hl1, hl2⟩ := oneVal_read cls _ hl (.refl _) rfl
  obtain ⟨r, hr'⟩ := List.length_eq_one_iff.1 hr
  refine ⟨(r, o, l), ?_, ?_⟩
  · simp [fastArr, finishArray, need, lastRef, hr', ho2, hl2]
  · simp [xmlArr, firstRef_eq, hr', ho1, hl1]

theorem forall₂_mapM {α β} (P : α → β → Prop) (Q : α → Option β) (l : List α)
    (h : ∀ a ∈ l, ∃ y, P a y ∧ Q a = some y) : ∃ ys, List.Forall₂ P l ys ∧ l.mapM Q = some ys := by
  induction l with
  | nil => exact ⟨[], List.Forall₂.nil, by simp⟩
  | cons a r ih =>
    obtain ⟨y, hy1, hy2⟩ := h a (by simp)
    obtain ⟨ys, hys1, hys2⟩ := ih (fun a' ha' => h a' (by simp [ha']))
    exact ⟨y :: ys, List.Forall₂.cons hy1 hys1, by simp [List.mapM_cons, hy2, hys2]⟩

theorem spec_agree (cls : String → Bool) (s : Spec) (h : SpecOk cls s) :
    ∃ x, FastSpec cls s x ∧ xmlSpec s = some x := by
  obtain ⟨hne, hpx, hpy, hcx, hcy, hct, htic, harr⟩ := h
  obtain ⟨sc, rest, hsc⟩ := List.exists_cons_of_ne_nil (List.isEmpty_eq_false_iff.1 hne)
  rw [hsc, List.headD_cons] at hpx hpy
  obtain ⟨xs, hxs1, hxs2⟩ := forall₂_mapM (fun a y => fastArr cls a = .ok y) xmlArr s.arrays
    (fun a ha => arr_agree cls a (harr a ha))
  -- the positions are read in the first scan, the total ion current among the direct children of `<spectrum>`
  have hsub : sc.Sublist s.seen := by
    simp only [Spec.seen, hsc, List.flatten_cons]
    exact ((List.sublist_append_left _ _).trans (List.sublist_append_right _ _)).trans (List.sublist_append_left _ _)
  have hsub2 : (s.items ++ s.tail).Sublist s.seen := by
    simp only [Spec.seen, List.append_assoc]
    exact ((List.sublist_append_right _ _).trans (List.sublist_append_right _ _)).append_left _
  obtain ⟨x, hx1, hlx⟩ := oneVal_read cls _ hpx hsub (hcx.trans hpx.1.symm)
  obtain ⟨y, hy1, hly⟩ := oneVal_read cls _ hpy hsub (hcy.trans hpy.1.symm)
  rcases optVal_read cls _ htic hsub2 hct with ⟨ht1, hlt⟩ | ⟨t, ht1, hlt⟩
  · exact ⟨{ x := x, y := y, tic := none, arrays := xs }, ⟨xs, hxs1, by simp [finishSpectrum, need, hlx, hly, hlt]⟩,
      by simp [xmlSpec, hsc, hx1, hy1, hxs2, ht1]⟩
  · exact ⟨{ x := x, y := y, tic := some t, arrays := xs }, ⟨xs, hxs1, by simp [finishSpectrum, need, hlx, hly, hlt]⟩,
      by simp [xmlSpec, hsc, hx1, hy1, hxs2, ht1]⟩

theorem pickG_eq (cls : String → Bool) (name : String) (groups : List Group) (old : Option PGroup) :
    pickG cls name old groups
      = ((groups.filter (fun g => g.id = name)).getLast?.map fun g => (fastGroup cls g).toOption).getD old := by
  induction groups generalizing old with
  | nil => rfl
  | cons g r ih =>
    rw [pickG, ih, List.filter_cons]
    by_cases hg : g.id = name <;> simp only [hg, decide_true, decide_false, if_true, if_false, Bool.false_eq_true]
    rw [List.getLast?_cons]
    cases (r.filter fun g => g.id = name).getLast? <;> rfl

theorem find_congr_mem {α} (l : List α) (p q : α → Bool) (h : ∀ a ∈ l, p a = q a) : l.find? p = l.find? q := by
  induction l with
  | nil => rfl
  | cons a r ih =>
    simp only [List.find?_cons, h a (by simp)]
    rw [ih (fun a' ha' => h a' (by simp [ha']))]

/-- the array group called `name` is the one the XML parser finds by its accession `acc`, and both read it alike:
the loop keeps the last group of that name, `find` returns the first, and there is one -/
theorem named_group (cls : String → Bool) (groups : List Group) (name acc : String)
    (h1 : (groups.filter (fun g => g.id = name)).length = 1)
    (hN : ∀ g ∈ groups, (g.id = name ↔ acc ∈ accs g.items)) (hok : ∀ g ∈ groups, g.id = name → GroupOk g) :
    ∃ g pg, groups.find? (fun g => hasAcc acc g.items) = some g ∧ xmlGroup g = some pg ∧
      pickG cls name none groups = some pg := by
  obtain ⟨g, hg⟩ := List.length_eq_one_iff.1 h1
  have hmem : g ∈ groups ∧ g.id = name := by
    have := List.mem_filter.1 (hg ▸ List.mem_singleton_self g : g ∈ groups.filter _)
    simpa using this
  obtain ⟨pg, hf, hx⟩ := group_agree cls g (hok g hmem.1 hmem.2)
  refine ⟨g, pg, ?_, hx, by simp [pickG_eq, hg, hf, Except.toOption]⟩
  rw [find_congr_mem groups _ (fun g => decide (g.id = name)) fun g' hg' => by rw [Bool.eq_iff_iff, hasAcc_iff]; simp [hN g' hg'],
    ← List.head?_filter, hg]
  rfl

theorem layout_fastDoc (cls : String → Bool) (d : Doc) (h : LayoutCore cls d) :
    ∃ m, FastDoc cls d m ∧ xmlView d = some m := by
  obtain ⟨hmz1, hin1, hmzN, hinN, hgok, hsne, hsok, hpne, hpok⟩ := h
  obtain ⟨gm, pgm, hxm, hpgm, hp1⟩ := named_group cls d.groups "mzArray" accMzArray hmz1 hmzN
    fun g hg hid => hgok g hg (Or.inl hid)
  obtain ⟨gi, pgi, hxi, hpgi, hp2⟩ := named_group cls d.groups "intensities" accIntensityArray hin1 hinN
    fun g hg hid => hgok g hg (Or.inr hid)
  obtain ⟨st0, strest, hst⟩ := List.exists_cons_of_ne_nil (List.isEmpty_eq_false_iff.1 hsne)
  obtain ⟨sc0, hsc0, hsc0x⟩ := settings_agree cls st0 (hsok st0 (by simp [hst]))
  obtain ⟨screst, hscr, _⟩ := forall₂_mapM (fun s x => fastSettings cls s = .ok x) xmlSettings strest
    (fun s hs => settings_agree cls s (hsok s (by simp [hst, hs])))
  obtain ⟨sps, hsps1, hsps2⟩ := forall₂_mapM (FastSpec cls) xmlSpec d.spectra
    (fun s hs => spec_agree cls s (hpok s hs))
  refine ⟨{ scan := sc0, mz := pgm, inten := pgi, spectra := sps },
    ⟨fun g hg hid => (group_agree cls g (hgok g hg hid)).imp fun _ hpg => hpg.1, hp1, hp2,
      ⟨screst, hst ▸ .cons hsc0 hscr⟩, List.isEmpty_eq_false_iff.1 hpne, hsps1⟩, ?_⟩
  simp [xmlView, hxm, hxi, hsps2, hst, hsc0x, hpgm, hpgi]

theorem core_eq_xml (cls : String → Bool) (d : Doc) (h : LayoutCore cls d) :
    ∃ m, finishCore (coreRun (render cls d)) = .ok m ∧ xmlView d = some m :=
  (layout_fastDoc cls d h).imp fun _ hm => ⟨run_render hm.1, hm.2⟩

end Pew.FastParse
