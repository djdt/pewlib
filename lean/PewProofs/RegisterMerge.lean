import PewProofs.Register
import PewProofs.Overlap
/-! # C12 — "register, then merge"

What a window of a scene contributes to a merge, and: `overlap_arrays` reads an input only inside its shape
(`overlap_congr`), so an image that shows a scene from some origin on, placed at that origin (`placed`), can be replaced
by the window of the scene (`window`). -/
namespace Pew.Register
open Pew.Overlap

theorem window_at (scene : Idx → Rat) (off : List Int) (shape : List Nat) (p : Idx) :
    (window scene off shape).at p = if (window scene off shape).inside p then some (some (scene p)) else none := by
  unfold Arr.at
  split
  · rename_i h
    simp only [window]
    have hlen : p.length = off.length := by
      simp only [Arr.inside, window, Bool.and_eq_true, beq_iff_eq] at h
      exact h.1
    rw [sub_add_self p off hlen]
  · rfl

theorem contribs_windows (scene : Idx → Rat) (ws : List (List Int × List Nat)) (p : Idx) :
    contribs (ws.map fun w => window scene w.1 w.2) p
      = List.replicate ((ws.map fun w => window scene w.1 w.2).countP (fun a => a.inside p)) (scene p) := by
  induction ws with
  | nil => simp [contribs]
  | cons w ws ih =>
    simp only [List.map_cons]
    rw [contribs_cons, window_at, ih, List.countP_cons]
    by_cases h : (window scene w.1 w.2).inside p
    · simp [h, List.replicate_succ']
      rw [← List.replicate_succ, List.replicate_succ']
    · simp [h]

/-- two inputs of `overlap_arrays` that cannot be told apart: same offset, same shape, same pixels inside the shape -/
def sameArr (a a' : Arr) : Prop :=
  a.off = a'.off ∧ a.shape = a'.shape ∧ ∀ q, inRange q a.shape = true → a.get q = a'.get q

theorem at_congr (a a' : Arr) (h : sameArr a a') (p : Idx) : a.at p = a'.at p := by
  obtain ⟨h1, h2, h3⟩ := h
  unfold Arr.at Arr.inside
  rw [← h1, ← h2]
  split
  · rename_i hin
    simp only [Bool.and_eq_true] at hin
    rw [h3 _ hin.2]
  · rfl

theorem foldl_step_congr (m : Mode) (l l' : List Arr) (h : List.Forall₂ sameArr l l') (p : Idx) (c c' : Idx → Cell)
    (hc : c p = c' p) : (l.foldl (step m) c) p = (l'.foldl (step m) c') p := by
  induction h generalizing c c' with
  | nil => exact hc
  | cons hh _ ih => exact ih _ _ (by simp only [step, at_congr _ _ hh p, hc])

theorem forall2_bare (l l' : List Arr) (h : List.Forall₂ sameArr l l') : l.map bare = l'.map bare := by
  induction h with
  | nil => rfl
  | cons hh _ ih =>
    simp only [List.map_cons, ih, List.cons.injEq, and_true]
    simp only [bare, hh.1, hh.2.1]

theorem forall2_normalise (ndim : Nat) (l l' : List Arr) (h : List.Forall₂ sameArr l l') :
    List.Forall₂ sameArr (normalise ndim l) (normalise ndim l') := by
  simp only [normalise, (geometry_congr ndim (forall2_bare l l' h)).1]
  generalize minOffset ndim l' = mo
  induction h with
  | nil => exact List.Forall₂.nil
  | cons hh _ ih =>
    refine List.Forall₂.cons ?_ ih
    exact ⟨by simp only [hh.1], hh.2.1, hh.2.2⟩

theorem overlap_congr (m : Mode) (fill : V) (ndim : Nat) (l l' : List Arr) (h : List.Forall₂ sameArr l l') :
    overlap false m fill ndim l = overlap false m fill ndim l' :=
  overlap_ext (geometry_congr ndim (forall2_bare l l' h)).2 fun p _ =>
    congrArg (finish m fill) (foldl_step_congr m _ _ (forall2_normalise ndim l l' h) p _ _ rfl)

theorem inRange_eq_inBoxI : Pew.Overlap.inRange = inBoxI := by
  funext q s
  induction q generalizing s with
  | nil => cases s <;> rfl
  | cons i is ih =>
    cases s with
    | nil => rfl
    | cons s ss => rw [Pew.Overlap.inRange, inBoxI, ih]

theorem inRange_length (q : List Int) (s : List Nat) (h : inRange q s = true) : q.length = s.length :=
  ((inRange_iff q s).mp h).1

theorem placed_sameArr (x : Img) (o : List Int) (scene : Idx → Rat)
    (hx : ∀ n, inBox n x.shape = true → x.get n = scene (List.zipWith (· + ·) (n.map Int.ofNat) o)) :
    sameArr (placed x o) (window scene o x.shape) := by
  refine ⟨rfl, rfl, ?_⟩
  intro q hq
  obtain ⟨h1, h2⟩ := inBoxI_toNat q x.shape (inRange_eq_inBoxI ▸ hq)
  simp only [placed, window]
  rw [hx _ h1, h2]

end Pew.Register
