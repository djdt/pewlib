import PewProofs.ConvolveDens
import Mathlib.Analysis.SpecialFunctions.Pow.Real

/-! # C18 — the special functions of the kernel densities instantiated with the real `exp`, `log`, power, `|·|`
and `√(2π)` of Mathlib: they are `Special.Sound` -/
namespace Pew.Convolve

/-- the functions pewlib approximates in floating point, as real functions -/
noncomputable def realSpecial : Special ℝ where
  ofRat := fun q => (q : ℝ)
  exp := Real.exp
  log := Real.log
  rpow := fun x y => x ^ y
  abs := fun t => |t|
  s2pi := Real.sqrt (2 * Real.pi)

theorem realSpecial_sound : realSpecial.Sound where
  cast := fun _ => rfl
  exp_pos := Real.exp_pos
  rpow_pos := fun _ y hx => Real.rpow_pos_of_pos hx y
  rpow_zero_nonneg := fun y => Real.rpow_nonneg (le_refl 0) y
  s2pi_pos := Real.sqrt_pos.mpr (mul_pos (by norm_num) Real.pi_pos)

end Pew.Convolve
