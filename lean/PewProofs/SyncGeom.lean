import PewProofs.Sync

/-! # C08 — the logged ends of a rendered line are whole pixels from the origin: its segment is axis-parallel and its
travel steps are the ground-truth pixels -/
namespace Pew.Sync

theorem toPix_aligned (o : Int) (u j : Nat) (hu : 0 < u) :
    toPix o ((u : Rat) / 10000) (o + ((j * u : Nat) : Int)) = (j : Int) := by
  have := pixel_of_aligned o u j hu 0 (by norm_num) (by norm_num)
  simpa [toPix] using this

theorem div_aligned (o : Int) (m u : Nat) (hu : 0 < u) :
    (o + ((m * u : Nat) : Int) - o) / (u : Int) = (m : Int) := by
  have : o + ((m * u : Nat) : Int) - o = (m : Int) * (u : Int) := by push_cast; ring
  rw [this]
  exact Int.mul_ediv_cancel _ (by exact_mod_cast hu.ne')

theorem aligned_of_mod (X o : Int) (u : Nat) (hu : 0 < u) (hle : o ≤ X) (hmod : (X - o) % (u : Int) = 0) :
    ∃ c : Nat, X = o + ((c * u : Nat) : Int) := by
  have hdvd : (u : Int) ∣ (X - o) := Int.dvd_of_emod_eq_zero hmod
  obtain ⟨q, hq⟩ := hdvd
  have hq0 : 0 ≤ q := by
    by_contra hneg
    have : q ≤ -1 := by omega
    have : (u : Int) * q ≤ (u : Int) * (-1) := Int.mul_le_mul_of_nonneg_left this (by omega)
    omega
  refine ⟨q.toNat, ?_⟩
  push_cast
  rw [Int.toNat_of_nonneg hq0]
  have : X = o + (u : Int) * q := by omega
  rw [this]; ring

theorem add_aligned (X o : Int) (c m u : Nat) (hX : X = o + ((c * u : Nat) : Int)) :
    X + ((m * u : Nat) : Int) = o + (((c + m) * u : Nat) : Int) := by
  rw [hX]; push_cast; ring

theorem toPix_grid (o X : Int) (c m u : Nat) (hu : 0 < u) (hX : X = o + ((c * u : Nat) : Int)) :
    toPix o ((u : Rat) / 10000) (X + ((m * u : Nat) : Int)) = ((c + m : Nat) : Int) := by
  rw [add_aligned X o c m u hX, toPix_aligned _ _ _ hu]

theorem div_grid (o X : Int) (c m u : Nat) (hu : 0 < u) (hX : X = o + ((c * u : Nat) : Int)) :
    (X + ((m * u : Nat) : Int) - o) / (u : Int) = ((c + m : Nat) : Int) := by
  rw [add_aligned X o c m u hX, div_aligned _ _ _ hu]

/-- The four directions, unidirectional or serpentine (`lineEnds`/`stepCell` follow `lineDir`): for
line `i` of a pattern that sits `cx`, `cy` whole spot sizes above the origin, the pixel indices of the
logged `On`/`Off` coordinates give an axis-parallel segment of `npix` pixels whose travel step `j` is
the ground-truth pixel of the stage cell under the laser at step `j`; all indices are ≥ 0. -/
theorem render_line_cells (p : Pattern) (i : Nat) (ox oy : Int) (cx cy : Nat)
    (hX : p.X = ox + ((cx * p.sxu : Nat) : Int)) (hY : p.Y = oy + ((cy * p.syu : Nat) : Int))
    (hu : 0 < p.sxu) (hv : 0 < p.syu) (hn : 0 < p.npix) (g : Seg)
    (hx0 : g.x0 = toPix ox ((p.sxu : Rat) / 10000) (p.lineEnds i).1.1)
    (hx1 : g.x1 = toPix ox ((p.sxu : Rat) / 10000) (p.lineEnds i).2.1)
    (hy0 : g.y0 = toPix oy ((p.syu : Rat) / 10000) (p.lineEnds i).1.2)
    (hy1 : g.y1 = toPix oy ((p.syu : Rat) / 10000) (p.lineEnds i).2.2) :
    (g.y0 = g.y1 ∨ g.x0 = g.x1) ∧ g.len = p.npix ∧
    (∀ j, j < p.npix → g.cellAt j =
      (((p.stepCell i j).2 - oy) / (p.syu : Int), ((p.stepCell i j).1 - ox) / (p.sxu : Int))) ∧
    0 ≤ g.x0 ∧ 0 ≤ g.x1 ∧ 0 ≤ g.y0 ∧ 0 ≤ g.y1 := by
  have tx := fun m => toPix_grid ox p.X cx m p.sxu hu hX
  have ty := fun m => toPix_grid oy p.Y cy m p.syu hv hY
  have tx0 : toPix ox ((p.sxu : Rat) / 10000) p.X = (cx : Int) := by rw [hX, toPix_aligned _ _ _ hu]
  have ty0 : toPix oy ((p.syu : Rat) / 10000) p.Y = (cy : Int) := by rw [hY, toPix_aligned _ _ _ hv]
  have dx := fun m => div_grid ox p.X cx m p.sxu hu hX
  have dy := fun m => div_grid oy p.Y cy m p.syu hv hY
  obtain ⟨t0, t1, x0, x1, y0, y1⟩ := g
  unfold Pattern.lineEnds at hx0 hx1 hy0 hy1
  unfold Pattern.stepCell Seg.len Seg.cellAt
  clear hX hY
  cases hd : p.lineDir i <;> simp only [hd, tx, ty, tx0, ty0] at hx0 hx1 hy0 hy1 <;> subst hx0 hx1 hy0 hy1 <;>
    simp only [dx, dy] <;> clear tx ty tx0 ty0 dx dy hu hv
  · refine ⟨Or.inl trivial, ?_, fun j hj => ?_, Int.natCast_nonneg _, Int.natCast_nonneg _,
      Int.natCast_nonneg _, Int.natCast_nonneg _⟩
    · rw [if_pos trivial]; omega
    · rw [if_pos trivial, if_pos (by omega)]; exact Prod.ext rfl (by simp only; omega)
  · refine ⟨Or.inl trivial, ?_, fun j hj => ?_, Int.natCast_nonneg _, Int.natCast_nonneg _,
      Int.natCast_nonneg _, Int.natCast_nonneg _⟩
    · rw [if_pos trivial]; omega
    · rw [if_pos trivial, if_neg (by omega)]; exact Prod.ext rfl (by simp only; omega)
  · have hne : ¬ ((cy : Int) = ((cy + p.npix : Nat) : Int)) := by omega
    refine ⟨Or.inr trivial, ?_, fun j hj => ?_, Int.natCast_nonneg _, Int.natCast_nonneg _,
      Int.natCast_nonneg _, Int.natCast_nonneg _⟩
    · rw [if_neg hne]; omega
    · rw [if_neg hne, if_pos (by omega)]; exact Prod.ext (by simp only; omega) rfl
  · have hne : ¬ (((cy + p.npix : Nat) : Int) = (cy : Int)) := by omega
    refine ⟨Or.inr trivial, ?_, fun j hj => ?_, Int.natCast_nonneg _, Int.natCast_nonneg _,
      Int.natCast_nonneg _, Int.natCast_nonneg _⟩
    · rw [if_neg hne]; omega
    · rw [if_neg hne, if_neg (by omega)]; exact Prod.ext (by simp only; omega) rfl

theorem lineEnds_ge (p : Pattern) (i : Nat) :
    p.X ≤ (p.lineEnds i).1.1 ∧ p.X ≤ (p.lineEnds i).2.1 ∧ p.Y ≤ (p.lineEnds i).1.2 ∧ p.Y ≤ (p.lineEnds i).2.2 := by
  unfold Pattern.lineEnds
  cases p.lineDir i <;> simp only <;> omega

theorem lineEnds_zero (p : Pattern) :
    ((p.lineEnds 0).1.1 = p.X ∨ (p.lineEnds 0).2.1 = p.X) ∧ ((p.lineEnds 0).1.2 = p.Y ∨ (p.lineEnds 0).2.2 = p.Y) := by
  unfold Pattern.lineEnds
  cases p.lineDir 0 <;> simp

end Pew.Sync
