import PewModel.Thermo
import PewProofs.Lists

/-! # C03 — the text of any table (no acquisition is mentioned here)

`line.split(d)` undoes `d.join(fields)` when no field holds `d`, and a table whose first field is empty starts with its
delimiter: the lines of `renderText d t` split back into `t`, delimiter passed or not. A substring free of `d` lies in
one field of a joined line: the sniffer on the text is the sniffer on the table. Lines that are `IsLine`, written with
either line end and with or without a byte order mark, come back unchanged from the text layer. -/
namespace Pew.Thermo

theorem beq_false_of_not_mem_cons {d c : Char} {f : List Char} (h : d ∉ c :: f) : (c == d) = false := by
  rw [beq_eq_false_iff_ne]
  intro e
  exact h (e ▸ List.mem_cons_self)

theorem splitC_eq : splitC = Lists.splitOn := by
  funext d s
  induction s with
  | nil => rfl
  | cons c cs ih =>
    rw [splitC, Lists.splitOn, ih]
    simp only [beq_iff_eq]
    cases Lists.splitOn d cs <;> rfl

theorem splitC_noDelim (d : Char) (f : List Char) (h : d ∉ f) : splitC d f = [f] :=
  splitC_eq ▸ Lists.splitOn_of_not_mem d h

theorem splitC_append (d : Char) (rest f : List Char) (h : d ∉ f) : splitC d (f ++ d :: rest) = f :: splitC d rest :=
  splitC_eq ▸ Lists.splitOn_append d rest h

theorem joinC_eq : joinC = Lists.join := by
  funext d ls
  induction ls with
  | nil => rfl
  | cons f t ih => cases t with
    | nil => rfl
    | cons g t => rw [joinC, Lists.join, ih]; exact List.cons_ne_nil g t

theorem splitC_joinC (d : Char) (ls : List (List Char)) (hne : ls ≠ []) (h : ∀ l ∈ ls, d ∉ l) :
    splitC d (joinC d ls) = ls :=
  splitC_eq ▸ joinC_eq ▸ Lists.splitOn_join d hne h

theorem map_ofList_toList : ∀ (l : List String), (l.map String.toList).map String.ofList = l
  | [] => rfl
  | a :: t => by rw [List.map_cons, List.map_cons, String.ofList_toList, map_ofList_toList t]

theorem splitLine_joinLine (d : Char) (r : Row) (hne : r ≠ []) (h : ∀ f ∈ r, d ∉ f.toList) :
    splitLine d (joinLine d r) = r := by
  unfold splitLine joinLine
  rw [String.toList_ofList, splitC_joinC d (r.map String.toList) (by simpa using hne)
    (by intro l hl; obtain ⟨f, hf, rfl⟩ := List.mem_map.mp hl; exact h f hf)]
  exact map_ofList_toList r

theorem splitLines_renderText (d : Char) : ∀ (t : Table), (∀ r ∈ t, r ≠ []) → (∀ r ∈ t, ∀ f ∈ r, d ∉ f.toList) →
    (renderText d t).map (splitLine d) = t
  | [], _, _ => rfl
  | r :: t, hne, h => by
    rw [renderText, List.map_cons, List.map_cons, splitLine_joinLine d r (hne r List.mem_cons_self) (h r List.mem_cons_self)]
    exact congrArg _ (splitLines_renderText d t (fun q hq => hne q (List.mem_cons_of_mem _ hq))
      (fun q hq => h q (List.mem_cons_of_mem _ hq)))

theorem joinC_append_single (d : Char) (z : List Char) : ∀ (ls : List (List Char)), ls ≠ [] →
    joinC d (ls ++ [z]) = joinC d ls ++ d :: z
  | [], h => absurd rfl h
  | [f], _ => by simp [joinC]
  | f :: g :: t, _ => by
    have ih := joinC_append_single d z (g :: t) (by simp)
    simp only [List.cons_append, joinC] at ih ⊢
    rw [ih]
    simp

theorem mem_joinC (d c : Char) (ls : List (List Char)) (h : c ∈ joinC d ls) : c = d ∨ ∃ l ∈ ls, c ∈ l :=
  Lists.mem_join d (joinC_eq ▸ h)

theorem joinLine_blank (d : Char) (g : String) (r : Row) :
    (joinLine d ("" :: g :: r)).toList = d :: joinC d ((g :: r).map String.toList) := by
  simp [joinLine, joinC, String.toList_ofList]

theorem tableOf_renderText_of (d : Char) {t : Table} (hform : ∃ g r rest, t = ("" :: g :: r) :: rest)
    (hne : ∀ q ∈ t, q ≠ []) (h : ∀ q ∈ t, ∀ f ∈ q, d ∉ f.toList) {explicit : Option Char}
    (hexp : explicit = none ∨ explicit = some d) : tableOf explicit (renderText d t) = some t := by
  rcases hexp with rfl | rfl
  · obtain ⟨g, r, rest, rfl⟩ := hform
    simp only [tableOf, renderText, List.map_cons, List.headD_cons, joinLine_blank]
    exact congrArg some (splitLines_renderText d _ hne h)
  · exact congrArg some (splitLines_renderText d _ hne h)

theorem loadText_renderText (x : Ext V) (d : Char) {t : Table} (hform : ∃ g r rest, t = ("" :: g :: r) :: rest)
    (hne : ∀ q ∈ t, q ≠ []) (h : ∀ q ∈ t, ∀ f ∈ q, d ∉ f.toList) (ua : Bool) :
    loadText x (renderText d t) ua = load x d t ua := by
  obtain ⟨g, r, rest, rfl⟩ := hform
  simp only [loadText, renderText, List.map_cons, List.headD_cons, joinLine_blank]
  exact congrArg (load x d · ua) (splitLines_renderText d _ hne h)

theorem hasSub_mainruns_self : hasSub "MainRuns" "MainRuns" = true := by decide +kernel
theorem hasSub_mainruns_empty : hasSub "MainRuns" "" = false := by decide +kernel
theorem hasSub_mainruns_eol : hasSub "MainRuns" "\n" = false := by decide +kernel
theorem hasSub_mainruns_ident : hasSub "MainRuns" "<Identifier>" = false := by decide +kernel

theorem isPrefixOf_append_delim (d : Char) (v : List Char) : ∀ (p u : List Char), d ∉ p →
    p.isPrefixOf (u ++ d :: v) = p.isPrefixOf u
  | [], u, _ => by simp [List.isPrefixOf]
  | c :: p, [], h => by
    have hc : (c == d) = false := beq_false_of_not_mem_cons h
    simp [List.isPrefixOf, hc]
  | c :: p, b :: u, h => by
    have ih := isPrefixOf_append_delim d v p u (fun hm => h (List.mem_cons_of_mem _ hm))
    simp only [List.cons_append, List.isPrefixOf, ih]

theorem hasSubC_append_delim (d : Char) (p rest : List Char) (hp : p ≠ []) (hd : d ∉ p) : ∀ (f : List Char),
    hasSubC p (f ++ d :: rest) = (hasSubC p f || hasSubC p rest)
  | [] => by
    obtain ⟨c, q, rfl⟩ := List.exists_cons_of_ne_nil hp
    have hc : (c == d) = false := beq_false_of_not_mem_cons hd
    simp [hasSubC, List.isPrefixOf, hc]
  | b :: f => by
    have ih := hasSubC_append_delim d p rest hp hd f
    have hpre := isPrefixOf_append_delim d rest p (b :: f) hd
    simp only [List.cons_append] at hpre ⊢
    simp only [hasSubC, hpre, ih, Bool.or_assoc]

theorem hasSubC_joinC (d : Char) (p : List Char) (hp : p ≠ []) (hd : d ∉ p) : ∀ (ls : List (List Char)),
    hasSubC p (joinC d ls) = ls.any (hasSubC p)
  | [] => by
    obtain ⟨c, q, rfl⟩ := List.exists_cons_of_ne_nil hp
    simp [joinC, hasSubC]
  | [f] => by simp [joinC]
  | f :: g :: t => by
    have ih := hasSubC_joinC d p hp hd (g :: t)
    simp only [joinC, hasSubC_append_delim d p _ hp hd f, ih, List.any_cons]

theorem hasSub_joinLine (d : Char) (sub : String) (hp : sub.toList ≠ []) (hd : d ∉ sub.toList) (r : Row) :
    hasSub sub (joinLine d r) = lineHas sub r := by
  unfold hasSub joinLine lineHas
  rw [String.toList_ofList, hasSubC_joinC d _ hp hd, List.any_map]
  rfl

theorem lineHas_single (sub l : String) : lineHas sub [l] = hasSub sub l := by
  simp [lineHas]

theorem lineHas_main_getD_single (ls : List String) (i : Nat) :
    lineHas "MainRuns" ((ls.map fun l => [l]).getD i []) = hasSub "MainRuns" (ls.getD i "") := by
  simp only [List.getD, List.getElem?_map]
  cases h : ls[i]? with
  | none => simp [lineHas, hasSub_mainruns_empty]
  | some l => simp [lineHas]

theorem hasSub_main_getD_renderText (d : Char) (hd : d ∉ "MainRuns".toList) (t : Table) (i : Nat) :
    hasSub "MainRuns" ((renderText d t).getD i "") = lineHas "MainRuns" (t.getD i []) := by
  -- a line past the end reads as `""`, which is the join of the row `[]` past the end of the table
  rw [renderText, show "" = joinLine d [] from rfl, Lists.getD_map_of_map_default]
  exact hasSub_joinLine d "MainRuns" (by decide) hd _

theorem sniffText_renderText (d : Char) (hd : d ∉ "MainRuns".toList) (t : Table) :
    sniffText (renderText d t) = sniff t := by
  unfold sniffText sniff
  rw [lineHas_main_getD_single, lineHas_main_getD_single, hasSub_main_getD_renderText d hd, hasSub_main_getD_renderText d hd]

/-- `sniff` by cases; the third case is `sniff_unknown` in PewTheorems/C03.lean -/
theorem sniff_rows {t : Table} (h : lineHas "MainRuns" (t.getD 0 []) = true) : sniff t = .rows := by
  rw [sniff, if_pos h]

theorem sniff_columns {t : Table} (h0 : lineHas "MainRuns" (t.getD 0 []) = false)
    (h2 : lineHas "MainRuns" (t.getD 2 []) = true) : sniff t = .columns := by
  rw [sniff, if_neg (by rw [h0]; exact Bool.false_ne_true), if_pos h2]

theorem univNl_cons_ne (c : Char) (t : List Char) (hc : (c == '\r') = false) : univNl (c :: t) = c :: univNl t := by
  cases t with
  | nil => simp [univNl, hc]
  | cons d t => simp [univNl, hc]

theorem univNl_crlf (t : List Char) : univNl ('\r' :: '\n' :: t) = '\n' :: univNl t := by
  simp [univNl]

theorem univNl_append (rest : List Char) : ∀ (body : List Char), '\r' ∉ body → univNl (body ++ rest) = body ++ univNl rest
  | [], _ => rfl
  | c :: b, h => by
    have hc : (c == '\r') = false := beq_false_of_not_mem_cons h
    rw [List.cons_append, univNl_cons_ne c _ hc, univNl_append rest b (fun hm => h (List.mem_cons_of_mem _ hm))]
    rfl

theorem splitKeep_append (rest : List Char) : ∀ (body : List Char), '\n' ∉ body →
    splitKeep (body ++ '\n' :: rest) = (body ++ ['\n']) :: splitKeep rest
  | [], _ => by simp [splitKeep]
  | c :: b, h => by
    have hc : (c == '\n') = false := beq_false_of_not_mem_cons h
    have ih := splitKeep_append rest b (fun hm => h (List.mem_cons_of_mem _ hm))
    simp only [List.cons_append, splitKeep, hc, Bool.false_eq_true, if_false, ih]

/-- a line of a text file as Qtegra writes it: some characters that are no line end, then `\n` -/
def IsLine (l : String) : Prop := ∃ body, l.toList = body ++ ['\n'] ∧ '\n' ∉ body ∧ '\r' ∉ body

theorem univNl_lines (eol : List Char) (heol : eol = ['\n'] ∨ eol = ['\r', '\n']) : ∀ (lines : List String),
    (∀ l ∈ lines, IsLine l) → univNl (lines.flatMap (rawLine eol)) = lines.flatMap String.toList
  | [], _ => rfl
  | l :: tl, h => by
    obtain ⟨body, hl, _, hr⟩ := h l List.mem_cons_self
    have ih := univNl_lines eol heol tl (fun q hq => h q (List.mem_cons_of_mem _ hq))
    have hraw : rawLine eol l = body ++ eol := by
      unfold rawLine; rw [hl, List.dropLast_concat]
    simp only [List.flatMap_cons, hraw, List.append_assoc, hl]
    rw [univNl_append _ body hr]
    congr 1
    rcases heol with rfl | rfl
    · rw [List.singleton_append, univNl_cons_ne '\n' _ (by decide), ih]; rfl
    · show univNl ('\r' :: '\n' :: _) = _
      rw [univNl_crlf]
      show '\n' :: univNl (List.flatMap (rawLine ['\r', '\n']) tl) = _
      rw [ih]; rfl

theorem splitKeep_lines : ∀ (lines : List String), (∀ l ∈ lines, IsLine l) →
    splitKeep (lines.flatMap String.toList) = lines.map String.toList
  | [], _ => rfl
  | l :: tl, h => by
    obtain ⟨body, hl, hn, _⟩ := h l List.mem_cons_self
    have ih := splitKeep_lines tl (fun q hq => h q (List.mem_cons_of_mem _ hq))
    simp only [List.flatMap_cons, List.map_cons, hl, List.append_assoc, List.singleton_append]
    rw [splitKeep_append _ body hn, ih]

theorem stripBom_rawLine (eol : List Char) (heol : eol = ['\n'] ∨ eol = ['\r', '\n']) (l : String) (hl : IsLine l)
    (hb : l.toList.head? ≠ some bomChar) (rest : List Char) :
    stripBom (rawLine eol l ++ rest) = rawLine eol l ++ rest := by
  obtain ⟨body, hbody, _, _⟩ := hl
  have hraw : rawLine eol l = body ++ eol := by
    unfold rawLine; rw [hbody, List.dropLast_concat]
  rw [hraw]
  cases body with
  | nil =>
    rcases heol with rfl | rfl <;> simp [stripBom, bomChar]
  | cons c b =>
    have hc : (c == bomChar) = false := by
      rw [beq_eq_false_iff_ne]; intro e
      apply hb; rw [hbody, e]; rfl
    simp [stripBom, hc]

theorem stripBom_rawText (bom : Bool) (eol : List Char) (heol : eol = ['\n'] ∨ eol = ['\r', '\n']) (lines : List String)
    (h : ∀ l ∈ lines, IsLine l) (hfirst : bom = false → ∀ l ∈ lines.head?, l.toList.head? ≠ some bomChar) :
    stripBom (rawText bom eol lines) = lines.flatMap (rawLine eol) := by
  unfold rawText
  cases bom with
  | true => simp [stripBom]
  | false =>
    simp only [Bool.false_eq_true, if_false, List.nil_append]
    cases lines with
    | nil => rfl
    | cons l tl =>
      exact stripBom_rawLine eol heol l (h l List.mem_cons_self) (hfirst rfl l (by simp)) _

def NoEol (f : String) : Prop := '\n' ∉ f.toList ∧ '\r' ∉ f.toList

theorem isLine_joinLine (d : Char) (hdn : d ≠ '\n') (hdr : d ≠ '\r') (fs : Row) (h : ∀ f ∈ fs, NoEol f) :
    IsLine (joinLine d (fs ++ ["\n"])) := by
  unfold IsLine joinLine
  rw [String.toList_ofList, List.map_append]
  have hz : (["\n"] : List String).map String.toList = [['\n']] := rfl
  rw [hz]
  by_cases hfs : fs = []
  · subst hfs
    exact ⟨[], by simp [joinC], by simp, by simp⟩
  · rw [joinC_append_single d ['\n'] _ (by simpa using hfs)]
    have key : ∀ c : Char, d ≠ c → (∀ f ∈ fs, c ∉ f.toList) → c ∉ joinC d (fs.map String.toList) ++ [d] := by
      intro c hdc hc hm
      rcases List.mem_append.mp hm with hm | hm
      · rcases mem_joinC d c _ hm with h' | ⟨l, hl, hcl⟩
        · exact hdc h'.symm
        · obtain ⟨f, hf, rfl⟩ := List.mem_map.mp hl
          exact hc f hf hcl
      · exact hdc (List.mem_singleton.mp hm).symm
    exact ⟨joinC d (fs.map String.toList) ++ [d], by simp, key _ hdn fun f hf => (h f hf).1, key _ hdr fun f hf => (h f hf).2⟩

theorem isLine_renderText (d : Char) (hdn : d ≠ '\n') (hdr : d ≠ '\r') (t : Table)
    (hend : ∀ r ∈ t, r.getLast? = some "\n") (hclean : ∀ r ∈ t, ∀ f ∈ r.dropLast, NoEol f) :
    ∀ l ∈ renderText d t, IsLine l := by
  intro l hl
  obtain ⟨r, hr, rfl⟩ := List.mem_map.mp hl
  obtain ⟨pre, rfl⟩ := List.getLast?_eq_some_iff.mp (hend r hr)
  exact isLine_joinLine d hdn hdr pre (by simpa using hclean _ hr)

theorem head_renderText_ne (d c : Char) (hdc : d ≠ c) (t : Table) (hfirst : ∀ r ∈ t.head?, ∃ g fs, r = "" :: g :: fs) :
    ∀ l ∈ (renderText d t).head?, l.toList.head? ≠ some c := by
  intro l hl
  cases t with
  | nil => cases hl
  | cons r rest =>
    obtain ⟨g, fs, rfl⟩ := hfirst r rfl
    cases hl
    rw [joinLine_blank]
    exact fun hb => hdc (Option.some.inj hb)

end Pew.Thermo
