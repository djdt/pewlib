import Mathlib.Data.List.Induction
import PewProofs.Lists

/-! # C08 — facts about lists that are not about the model -/
namespace Pew.Sync

theorem mem_zip_iff_getElem? {β γ} {A : List β} {B : List γ} {a : β} {b : γ} :
    (a, b) ∈ A.zip B ↔ ∃ i : Nat, A[i]? = some a ∧ B[i]? = some b := by
  rw [List.mem_iff_getElem?]
  simp [List.getElem?_zip_eq_some]

theorem map_fst_zip_sublist {β γ} (A : List β) (B : List γ) : List.Sublist ((A.zip B).map Prod.fst) A := by
  induction A generalizing B with
  | nil => simp
  | cons a as ih =>
    cases B with
    | nil => simp
    | cons b bs => simp [ih bs]

theorem pairwise_forall_ne {α} {R : α → α → Prop} {l : List α} (hs : ∀ a b, R a b → R b a) (h : l.Pairwise R) :
    ∀ a ∈ l, ∀ b ∈ l, a ≠ b → R a b := by
  intro a ha b hb
  refine List.Pairwise.forall_of_forall_of_flip (R := fun a b => a ≠ b → R a b) (fun _ _ h => absurd rfl h) ?_ ?_ ha hb
  · exact h.imp (S := fun a b => a ≠ b → R a b) fun h _ => h
  · exact h.imp (S := flip fun a b => a ≠ b → R a b) fun h _ => hs _ _ h

theorem getElem?_flatMap {α β} (f : α → List β) (L : List α) (n : Nat) (x : β) (h : (L.flatMap f)[n]? = some x) :
    ∃ A l B m, L = A ++ l :: B ∧ n = (A.flatMap f).length + m ∧ (f l)[m]? = some x := by
  induction L generalizing n with
  | nil => simp at h
  | cons a rest ih =>
    rw [List.flatMap_cons, List.getElem?_append] at h
    split at h
    · exact ⟨[], a, rest, n, rfl, by simp, h⟩
    · obtain ⟨A, l, B, m, rfl, hm, hx⟩ := ih _ h
      exact ⟨a :: A, l, B, m, rfl, by rw [List.flatMap_cons, List.length_append]; omega, hx⟩

theorem zip_range_pairwise {β} (n : Nat) (l : List β) :
    (List.zip (List.range n) l).Pairwise (fun a b => a.1 < b.1) := by
  have key : ∀ (A : List Nat) (B : List β), A.Pairwise (· < ·) → (List.zip A B).Pairwise (fun a b => a.1 < b.1) := by
    intro A
    induction A with
    | nil => intro B _; simp
    | cons a as ih =>
      intro B hA
      cases B with
      | nil => simp
      | cons b bs =>
        rw [List.pairwise_cons] at hA
        rw [List.zip_cons_cons, List.pairwise_cons]
        refine ⟨?_, ih bs hA.2⟩
        intro x hx
        exact hA.1 x.1 (List.of_mem_zip (a := x.1) (b := x.2) hx).1
  exact key _ _ List.pairwise_lt_range

theorem count_prefix {β} (l : List β) (f : β → Bool) (Q : Nat)
    (h : ∀ n x, l[n]? = some x → (f x = true ↔ n < Q)) : (l.filter f).length = min Q l.length := by
  induction l generalizing Q with
  | nil => simp
  | cons x xs ih =>
    have hx := h 0 x rfl
    cases Q with
    | zero =>
      rw [List.filter_cons_of_neg (by simpa using hx), ih 0 (fun n y hy => by simpa using h (n + 1) y hy)]
      simp
    | succ Q =>
      rw [List.filter_cons_of_pos (hx.mpr (Nat.succ_pos _)), List.length_cons,
        ih Q (fun n y hy => by simpa using h (n + 1) y hy)]
      simp [Nat.succ_min_succ]

theorem filter_eq_range {α} (d : α) (p : α → Bool) (l : List α) :
    l.filter p = ((List.range l.length).filter (fun i => p (l.getD i d))).map (fun i => l.getD i d) := by
  induction l using List.reverseRecOn with
  | nil => simp
  | append_singleton l a ih =>
    rw [List.filter_append, List.length_append, List.length_singleton, List.range_succ, List.filter_append,
      List.map_append]
    congr 1
    · rw [ih]
      have h1 : (List.range l.length).filter (fun i => p ((l ++ [a]).getD i d))
          = (List.range l.length).filter (fun i => p (l.getD i d)) := by
        apply List.filter_congr
        intro i hi
        have : i < l.length := List.mem_range.mp hi
        simp [List.getD, List.getElem?_append_left this]
      rw [h1]
      apply List.map_congr_left
      intro i hi
      have : i < l.length := List.mem_range.mp (List.mem_filter.mp hi).1
      simp [List.getD, List.getElem?_append_left this]
    · have : (l ++ [a]).getD l.length d = a := by simp [List.getD]
      by_cases hp : p a <;> simp [List.filter, hp]

theorem all_filter_of {α} (q f : α → Bool) (l : List α) (h : ∀ x ∈ l, q x = false → f x = true) :
    (l.filter q).all f = l.all f := by
  induction l with
  | nil => rfl
  | cons a l ih =>
    have ih' := ih (fun x hx => h x (List.mem_cons_of_mem _ hx))
    by_cases hq : q a
    · simp [List.filter, hq, ih']
    · have := h a (List.mem_cons_self) (by simpa using hq)
      simp [List.filter, hq, ih', this]

end Pew.Sync
