import PewProofs.SyncLayout
import Mathlib.Data.List.Basic

/-! # C08 — in a log made of numbered blocks, forward fill and selection keep whole blocks and pairing keeps their
`On`/`Off` rows; the rows `render` writes are such a log, so selection imports the selected patterns' lines -/
namespace Pew.Sync

def fillRowsAux (acc : Int) : List Row → List Row
  | [] => []
  | r :: rs => setSeq r (if r.seq = -1 then max acc r.seq else r.seq) :: fillRowsAux (max acc r.seq) rs

theorem zipWith_fillAux (acc : Int) (rows : List Row) :
    List.zipWith setSeq rows (fillIntsAux acc (rows.map (·.seq))) = fillRowsAux acc rows := by
  induction rows generalizing acc with
  | nil => rfl
  | cons r rs ih => simp [fillIntsAux, fillRowsAux, ih]

theorem fillInts_eq (l : List Int) : fillInts l = fillIntsAux (l.headD 0) l := by
  cases l with
  | nil => rfl
  | cons v vs => simp [fillInts, fillIntsAux]

theorem fillRowsAux_append (acc : Int) (a b : List Row) :
    fillRowsAux acc (a ++ b) = fillRowsAux acc a ++ fillRowsAux ((a.map (·.seq)).foldl max acc) b := by
  induction a generalizing acc with
  | nil => rfl
  | cons r rs ih => simp [fillRowsAux, ih]

theorem fillRowsAux_blank (acc : Int) (hacc : -1 ≤ acc) (body : List Row) (hb : ∀ r ∈ body, r.seq = -1) :
    fillRowsAux acc body = body.map (setSeq · acc) ∧ (body.map (·.seq)).foldl max acc = acc := by
  induction body with
  | nil => simp [fillRowsAux]
  | cons r rs ih =>
    have hr : r.seq = -1 := hb r (by simp)
    have hm : max acc r.seq = acc := by rw [hr]; omega
    have := ih (fun r' h' => hb r' (by simp [h']))
    constructor
    · simp only [fillRowsAux, hr, if_true, List.map_cons]
      have hm' : max acc (-1) = acc := by omega
      rw [hm', this.1]
    · simp only [List.map_cons, List.foldl_cons, hm]; exact this.2

theorem fill_blocks (bs : List Block)
    (hbody : ∀ b ∈ bs, ∀ r ∈ b.body, r.seq = -1)
    (hlow : ∀ b ∈ bs, -1 ≤ b.hdr.seq)
    (hinc : bs.Pairwise (fun a b => a.hdr.seq ≤ b.hdr.seq)) :
    List.zipWith setSeq (bs.flatMap Block.rows) (fillInts ((bs.flatMap Block.rows).map (·.seq)))
      = bs.flatMap (fun b => b.rows.map (setSeq · b.hdr.seq)) := by
  -- `acc`, the running maximum on entering a block, is the previous header's number: at most every later header
  have key : ∀ (bs : List Block) (acc : Int), -1 ≤ acc → (∀ b ∈ bs, acc ≤ b.hdr.seq) →
      (∀ b ∈ bs, ∀ r ∈ b.body, r.seq = -1) → bs.Pairwise (fun a b => a.hdr.seq ≤ b.hdr.seq) →
      fillRowsAux acc (bs.flatMap Block.rows) = bs.flatMap (fun b => b.rows.map (setSeq · b.hdr.seq)) := by
    intro bs
    induction bs with
    | nil => intros; rfl
    | cons b rest ih =>
      intro acc hacc hle hbody hinc
      rw [List.pairwise_cons] at hinc
      have hb := hle b (by simp)
      simp only [List.flatMap_cons, Block.rows]
      rw [List.cons_append, fillRowsAux]
      have hm : max acc b.hdr.seq = b.hdr.seq := by omega
      have hhead : (if b.hdr.seq = -1 then max acc b.hdr.seq else b.hdr.seq) = b.hdr.seq := by
        split <;> omega
      rw [hhead, hm, fillRowsAux_append]
      have hblank := fillRowsAux_blank b.hdr.seq (by omega) b.body (hbody b (by simp))
      rw [hblank.1, hblank.2]
      rw [ih b.hdr.seq (by omega) (fun b' hb' => hinc.1 b' hb') (fun b' hb' => hbody b' (by simp [hb'])) hinc.2]
      simp [Block.rows]
  cases bs with
  | nil => rfl
  | cons b rest =>
    rw [fillInts_eq, zipWith_fillAux]
    exact key (b :: rest) b.hdr.seq (hlow b (by simp))
      (fun b' hb' => (List.mem_cons.mp hb').elim (fun h => h ▸ le_rfl) ((List.pairwise_cons.mp hinc).1 b')) hbody hinc

theorem filter_labelled (bs : List Block) (s : List Int) :
    (bs.flatMap (fun b => b.rows.map (setSeq · b.hdr.seq))).filter (fun r => s.contains r.seq)
      = (bs.filter (fun b => s.contains b.hdr.seq)).flatMap (fun b => b.rows.map (setSeq · b.hdr.seq)) := by
  induction bs with
  | nil => rfl
  | cons b rest ih =>
    simp only [List.flatMap_cons, List.filter_append, List.filter_cons, ih]
    by_cases hc : s.contains b.hdr.seq = true
    · rw [if_pos hc, List.flatMap_cons]
      congr 1
      rw [List.filter_eq_self]
      intro r hr
      obtain ⟨r0, _, rfl⟩ := List.mem_map.mp hr
      exact hc
    · rw [if_neg hc]
      have : (b.rows.map (setSeq · b.hdr.seq)).filter (fun r => s.contains r.seq) = [] := by
        rw [List.filter_eq_nil_iff]
        intro r hr
        obtain ⟨r0, _, rfl⟩ := List.mem_map.mp hr
        exact hc
      rw [this]; rfl

theorem select_blocks (bs : List Block) (sel : Option (List Int))
    (hbody : ∀ b ∈ bs, ∀ r ∈ b.body, r.seq = -1)
    (hlow : ∀ b ∈ bs, -1 ≤ b.hdr.seq)
    (hinc : bs.Pairwise (fun a b => a.hdr.seq ≤ b.hdr.seq)) :
    selectRows sel (bs.flatMap Block.rows)
      = (bs.filter (fun b => isSelected sel b.hdr.seq)).flatMap (fun b => b.rows.map (setSeq · b.hdr.seq)) := by
  unfold selectRows
  simp only [fill_blocks bs hbody hlow hinc]
  cases sel with
  | none =>
    have : bs.filter (fun b => isSelected none b.hdr.seq) = bs := List.filter_eq_self.mpr (fun _ _ => rfl)
    rw [this]
  | some s => exact filter_labelled bs s

theorem pairs_off (r : Row) (rest : List Row) (h : r.on = false) : pairs (r :: rest) = pairs rest := by
  cases rest with
  | nil => simp [pairs, h]
  | cons r' rest => simp [pairs, h]

theorem pairs_append_off (A B : List Row) (h : ∀ r ∈ A, r.on = false) : pairs (A ++ B) = pairs B := by
  induction A with
  | nil => rfl
  | cons r rest ih =>
    rw [List.cons_append, pairs_off r _ (h r (by simp))]
    exact ih (fun r' hr' => h r' (by simp [hr']))

theorem pairs_on_off (r r' : Row) (rest : List Row) (h : r.on = true) (h' : r'.on = false) :
    pairs (r :: r' :: rest) = (pairs rest).map (fun l => (r, r') :: l) := by
  rw [pairs, if_pos h, pairs_off r' rest h']

theorem pairs_find_on (l : List Row) (pr : Row × Row) (prs : List (Row × Row)) (h : pairs l = some (pr :: prs)) :
    l.find? (·.on) = some pr.1 := by
  induction l with
  | nil => simp [pairs] at h
  | cons r rest ih =>
    by_cases hr : r.on = true
    · cases rest with
      | nil => simp [pairs, hr] at h
      | cons r' rest' =>
        rw [pairs, if_pos hr] at h
        cases hp : pairs (r' :: rest') with
        | none => simp [hp] at h
        | some l' =>
          simp [hp] at h
          simp [hr, ← h.1]
    · have hr' : r.on = false := by simpa using hr
      rw [pairs_off r rest hr'] at h
      simp [hr', ih h]

theorem moveRows_spec (l : LineRec) (r : Row) (h : r ∈ l.moveRows) :
    r.on = false ∧ r.seq = -1 ∧ r.spot = l.p.spotStr ∧ -1 ≤ r.time := by
  -- `-1`: the first move row is stamped 1 ms before its `On` row, which may be at laser clock 0 (whence `1 ≤ base` in
  -- `rendered_textHyp`)
  unfold LineRec.moveRows at h
  split at h
  · cases h
  · split at h
    · rw [List.mem_singleton] at h; subst h; exact ⟨rfl, rfl, rfl, by simp only; omega⟩
    · simp only [List.mem_cons, List.not_mem_nil, or_false] at h
      rcases h with h | h <;> subst h <;> exact ⟨rfl, rfl, rfl, by simp only; omega⟩

theorem lineRows_spec (l : LineRec) (r : Row) (h : r ∈ l.rows) : r.seq = -1 ∧ r.spot = l.p.spotStr ∧ -1 ≤ r.time := by
  unfold LineRec.rows at h
  rcases List.mem_append.mp h with h | h
  · exact (moveRows_spec l r h).2
  · simp only [List.mem_cons, List.not_mem_nil, or_false] at h
    rcases h with h | h <;> subst h <;> exact ⟨rfl, rfl, by simp only [LineRec.onRow, LineRec.offRow]; omega⟩

theorem pairs_lines (q : Int) (L : List LineRec) (B : List Row) :
    pairs ((L.flatMap LineRec.rows).map (setSeq · q) ++ B)
      = (pairs B).map (fun t => L.map (fun l => (setSeq l.onRow q, setSeq l.offRow q)) ++ t) := by
  induction L with
  | nil => simp
  | cons l rest ih =>
    rw [List.flatMap_cons, List.map_append, List.append_assoc]
    have hrows : l.rows = l.moveRows ++ [l.onRow, l.offRow] := rfl
    rw [hrows, List.map_append, List.append_assoc, pairs_append_off]
    · simp only [List.map_cons, List.map_nil, List.cons_append, List.nil_append]
      rw [pairs_on_off _ _ _ (by rfl) (by rfl), ih]
      cases pairs B <;> simp
    · intro r hr
      obtain ⟨r0, hr0, rfl⟩ := List.mem_map.mp hr
      exact (moveRows_spec l r0 hr0).1

def PatRec.block (b : PatRec) : Block :=
  { hdr := b.hdr, body := { b.hdr with seq := -1 } :: b.lines.flatMap LineRec.rows }

theorem block_rows (b : PatRec) : b.block.rows = b.rows := rfl

theorem pairs_blocks (bs : List PatRec) :
    pairs (bs.flatMap (fun b => b.block.rows.map (setSeq · b.block.hdr.seq)))
      = some (bs.flatMap (fun b => b.lines.map (fun l => (setSeq l.onRow b.p.seq, setSeq l.offRow b.p.seq)))) := by
  induction bs with
  | nil => simp [pairs]
  | cons b rest ih =>
    rw [List.flatMap_cons, List.flatMap_cons]
    simp only [PatRec.block, Block.rows, List.map_cons]
    rw [List.cons_append, List.cons_append, pairs_off _ _ (by rfl), pairs_off _ _ (by rfl)]
    have := pairs_lines b.hdr.seq b.lines
      (rest.flatMap (fun b => b.block.rows.map (setSeq · b.block.hdr.seq)))
    simp only [PatRec.block, Block.rows, List.map_cons] at this ih
    rw [this, ih]
    simp [PatRec.hdr]

/-- Selecting `sel` (`none` = everything) in the rendered log imports exactly the `On`/`Off` pairs of
the lines of the selected patterns, in the order of recording — wherever the wanted patterns sit in the
log, whatever stage-move rows surround the lines.  (Sequence numbers non-negative, non-decreasing.) -/
theorem render_selects_lines (a : Acq) (sel : Option (List Int))
    (hseq : ∀ p ∈ a.patterns, 0 ≤ p.seq)
    (hinc : (a.patterns.map (·.seq)).Pairwise (· ≤ ·)) :
    pairs (selectRows sel (emitAll a).rows) = some ((selLines a sel).map LineRec.pair) := by
  have hrows : (emitAll a).rows = (a.recs.map PatRec.block).flatMap Block.rows := by
    simp only [emitAll, List.flatMap_map, block_rows]
  rw [hrows, select_blocks]
  · rw [List.filter_map, List.flatMap_map]
    have := pairs_blocks (a.recs.filter ((fun b => isSelected sel b.hdr.seq) ∘ PatRec.block))
    rw [this]
    congr 1
    unfold selLines selRecs
    rw [List.map_flatMap]
    apply List.flatMap_congr
    intro b hb
    apply List.map_congr_left
    intro l hl
    have := mem_recs_lines a b (List.mem_filter.mp hb).1 l hl
    simp [LineRec.pair, this.1]
  · intro b hb r hr
    obtain ⟨b0, _, rfl⟩ := List.mem_map.mp hb
    simp only [PatRec.block, List.mem_cons] at hr
    rcases hr with hr | hr
    · subst hr; rfl
    · obtain ⟨l, _, hl⟩ := List.mem_flatMap.mp hr
      exact (lineRows_spec l r hl).1
  · intro b hb
    obtain ⟨b0, hb0, rfl⟩ := List.mem_map.mp hb
    have := hseq b0.p (mem_layPatterns 0 a.patterns b0 hb0).1
    simp only [PatRec.block, PatRec.hdr]; omega
  · rw [← recs_p, List.pairwise_map, List.pairwise_map] at hinc
    rw [List.pairwise_map]
    exact hinc

theorem mem_selLines (a : Acq) (sel : Option (List Int)) (l : LineRec) :
    l ∈ selLines a sel ↔ l ∈ a.lines ∧ isSelected sel l.p.seq = true := by
  unfold selLines selRecs Acq.lines
  simp only [List.mem_flatMap, List.mem_filter]
  constructor
  · rintro ⟨b, ⟨hb, hs⟩, hl⟩
    have := mem_recs_lines a b hb l hl
    exact ⟨⟨b, hb, hl⟩, by rw [this.1]; exact hs⟩
  · rintro ⟨⟨b, hb, hl⟩, hs⟩
    have := mem_recs_lines a b hb l hl
    exact ⟨b, ⟨hb, by rw [← this.1]; exact hs⟩, hl⟩

theorem selLines_pattern (a : Acq) (sel : Option (List Int)) (l : LineRec) (h : l ∈ selLines a sel) :
    l.p ∈ selectedPatterns a sel ∧ l.i < l.p.lines.length := by
  have := (mem_selLines a sel l).mp h
  have hm := mem_lines a l this.1
  exact ⟨List.mem_filter.mpr ⟨hm.1, this.2⟩, hm.2⟩

theorem selLines_line0 (a : Acq) (sel : Option (List Int)) (p : Pattern) (hp : p ∈ selectedPatterns a sel)
    (hne : p.lines ≠ []) : ∃ l ∈ selLines a sel, l.p = p ∧ l.i = 0 := by
  have hp' := List.mem_filter.mp hp
  have : p ∈ a.recs.map (·.p) := by rw [recs_p]; exact hp'.1
  obtain ⟨b, hb, rfl⟩ := List.mem_map.mp this
  obtain ⟨_, c', hl', _⟩ := mem_layPatterns 0 a.patterns b hb
  cases hlines : b.p.lines with
  | nil => exact absurd hlines hne
  | cons ln rest =>
    rw [hlines] at hl'
    refine ⟨{ p := b.p, i := 0, ln := ln, clock := c' }, ?_, rfl, rfl⟩
    unfold selLines selRecs
    refine List.mem_flatMap.mpr ⟨b, List.mem_filter.mpr ⟨hb, hp'.2⟩, ?_⟩
    rw [hl']; simp [layLines]

end Pew.Sync
