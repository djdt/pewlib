import PewProofs.Export

/-! # C16 — files written by other tools: the class `foreignFile` loads to the image it stands for; the files `save`
writes, and those with mixed separators, are of the class -/
namespace Pew.Export

variable {α : Type}

theorem pyLines_cons (k rest : Str) (hk : '\n' ∉ k) : pyLines (k ++ '\n' :: rest) = (k ++ ['\n']) :: pyLines rest := by
  unfold pyLines
  rw [splitOn_append '\n' k rest hk]
  obtain ⟨x, xs, hs⟩ := splitOn_eq_cons '\n' rest
  simp [hs]

theorem pyLines_last (k : Str) (hk : '\n' ∉ k) (hne : k ≠ []) : pyLines k = [k] := by
  unfold pyLines
  rw [splitOn_clean '\n' k hk]
  cases k with
  | nil => exact absurd rfl hne
  | cons c cs => simp

theorem universalNewlines_append_of_no_break (b : Bool) (k rest : Str) (hk : ∀ c ∈ k, c ≠ '\r' ∧ c ≠ '\n') (hne : k ≠ []) :
    universalNewlines b (k ++ rest) = k ++ universalNewlines false rest := by
  induction k generalizing b with
  | nil => exact absurd rfl hne
  | cons c cs ih =>
    have hc := hk c (by simp)
    simp only [List.cons_append, universalNewlines, if_neg hc.1, if_neg hc.2, List.cons.injEq, true_and]
    cases cs with
    | nil => rfl
    | cons d ds => exact ih false (fun x hx => hk x (by simp [hx])) (by simp)

theorem cutComment_clean (l : Str) (h : ∀ c ∈ l, c ≠ '#') : cutComment l = l := by
  have := List.takeWhile_append_of_pos (p := (· ≠ '#')) (l₂ := []) fun a ha => decide_eq_true (h a ha)
  rwa [List.takeWhile_nil, List.append_nil] at this

theorem cutComment_hash (p r : Str) (hp : '#' ∉ p) : cutComment (p ++ '#' :: r) = p := by
  rw [cutComment, List.takeWhile_append_of_pos (p := (· ≠ '#')) fun a ha => decide_eq_true fun e => hp (e ▸ ha),
    List.takeWhile_cons_of_neg (by simp), List.append_nil]

/-- `foreignOk` without the count of separators: `joinWith` ignores surplus separators and writes `,` for missing ones -/
def LinesOk (fmt : α → Str) : List (FLine α) → Prop
  | [] => True
  | l :: rest =>
    (∀ s ∈ l.seps, IsDelim s) ∧ (∀ c, l.comment = some c → ∀ x ∈ c, x ≠ '\r' ∧ x ≠ '\n') ∧
    (l.eol = .eof → rest = [] ∧ l.content fmt ≠ []) ∧
    (l.eol = .cr → ∀ n r, rest = n :: r → ¬ (n.content fmt = [] ∧ n.eol = .lf)) ∧ LinesOk fmt rest

theorem LinesOk.of_foreignOk (fmt : α → Str) : ∀ ls : List (FLine α), foreignOk fmt ls = true → LinesOk fmt ls
  | [], _ => trivial
  | l :: rest, h => by
    simp only [foreignOk, Bool.and_eq_true, List.all_eq_true, Bool.or_eq_true, decide_eq_true_eq] at h
    obtain ⟨⟨⟨⟨⟨h1, _⟩, h3⟩, h4⟩, h5⟩, h6⟩ := h
    refine ⟨fun s hs => or_assoc.mp (h1 s hs), fun c hc x hx => ?_, fun he => ?_, fun he n r hr => ?_, LinesOk.of_foreignOk fmt rest h6⟩
    · rw [hc] at h3
      simpa [and_comm] using List.all_eq_true.mp h3 x hx
    · simpa [he] using h4
    · rw [he, hr] at h5
      intro ⟨e1, e2⟩
      simp [e1, e2] at h5

theorem LinesOk.of_lf (fmt : α → Str) : ∀ ls : List (FLine α),
    (∀ l ∈ ls, l.eol = .lf ∧ (∀ s ∈ l.seps, IsDelim s) ∧ ∀ c, l.comment = some c → ∀ x ∈ c, x ≠ '\r' ∧ x ≠ '\n') → LinesOk fmt ls
  | [], _ => trivial
  | l :: rest, h => by
    obtain ⟨he, hs, hcm⟩ := h l (by simp)
    exact ⟨hs, hcm, fun e => (by rw [he] at e; cases e), fun e => (by rw [he] at e; cases e),
      LinesOk.of_lf fmt rest fun x hx => h x (by simp [hx])⟩

theorem LinesOk.mem {fmt : α → Str} : ∀ {ls : List (FLine α)}, LinesOk fmt ls → ∀ l ∈ ls,
    (∀ s ∈ l.seps, IsDelim s) ∧ ∀ c, l.comment = some c → ∀ x ∈ c, x ≠ '\r' ∧ x ≠ '\n'
  | _ :: _, h, l, hl => by
    rcases List.mem_cons.mp hl with rfl | hl
    · exact ⟨h.1, h.2.1⟩
    · exact LinesOk.mem h.2.2.2.2 l hl

/-- the terminator as the loader sees it -/
def eolN (e : Eol) : Str := if e = .eof then [] else ['\n']

theorem mem_eolN (e : Eol) : ∀ c ∈ eolN e, c = '\n' := by
  cases e <;> decide

theorem mem_spaces (n : Nat) (c : Char) (h : c ∈ spaces n) : c = ' ' := by
  simpa using (List.mem_replicate.mp h).2

theorem spaces_strip (n : Nat) : ∀ c ∈ spaces n, isStripChar c = true := by
  intro c h
  rw [mem_spaces n c h]; decide

theorem normalise_spaces (n : Nat) : normalise (spaces n) = spaces n :=
  normalise_clean _ (fun c h => by rw [mem_spaces n c h]; decide)

theorem mem_cellText (fmt : α → Str) (cell : Nat × α × Nat) (c : Char) (h : c ∈ cellText fmt cell) :
    c = ' ' ∨ c ∈ fmt cell.2.1 := by
  simp only [cellText, List.mem_append] at h
  rcases h with (h | h) | h
  · exact Or.inl (mem_spaces _ _ h)
  · exact Or.inr h
  · exact Or.inl (mem_spaces _ _ h)

theorem cellText_char {fmt : α → Str} {conv : Str → α} (hc : Clean fmt conv) {cell : Nat × α × Nat} {c : Char}
    (h : c ∈ cellText fmt cell) : ¬ IsDelim c ∧ c ≠ '\r' ∧ c ≠ '\n' ∧ c ≠ '#' := by
  rcases mem_cellText fmt cell c h with rfl | e
  · decide
  · obtain ⟨h1, h2, h3, hn, hr, hh, _⟩ := hc.chars _ c e
    exact ⟨fun d => d.elim h1 fun d => d.elim h2 h3, hr, hn, hh⟩

def joinTail (d : Char) : List Str → Str
  | [] => []
  | y :: ys => d :: join d (y :: ys)

theorem join_cons (d : Char) (x : Str) (xs : List Str) : join d (x :: xs) = x ++ joinTail d xs := by
  cases xs <;> simp [join, joinTail]

theorem normalise_joinWith (ss : List Char) (fs : List Str) (hs : ∀ s ∈ ss, IsDelim s)
    (hf : ∀ f ∈ fs, ∀ c ∈ f, ¬ IsDelim c) :
    normalise (joinWith ss fs) = join ',' fs := by
  induction fs generalizing ss with
  | nil => rfl
  | cons x r ih =>
    have hx : normalise x = x := normalise_clean x (hf x (by simp))
    cases r with
    | nil => cases ss <;> simpa [joinWith, join] using hx
    | cons y r =>
      have hr := fun ss hs => ih ss hs fun f h => hf f (List.mem_cons_of_mem _ h)
      cases ss with
      | nil => rw [joinWith, join, normalise_append, hx, normalise_cons, hr [] nofun, normChar_delim (Or.inl rfl)]
      | cons s ss =>
        rw [joinWith, join, normalise_append, hx, normalise_cons, normChar_delim (hs s (by simp)),
          hr ss fun t ht => hs t (by simp [ht])]

def trimFirst : List (Nat × α × Nat) → List (Nat × α × Nat)
  | [] => []
  | c :: r => (0, c.2.1, c.2.2) :: r

def trimLast : List (Nat × α × Nat) → List (Nat × α × Nat)
  | [] => []
  | [c] => [(c.1, c.2.1, 0)]
  | c :: c' :: r => c :: trimLast (c' :: r)

/-- the fields the splitter finds in a line with cells: the cells, the first without the spaces before it, the
last without those after it -/
def rowFields (fmt : α → Str) (l : FLine α) : List Str := (trimLast (trimFirst l.cells)).map (cellText fmt)

theorem trimFirst_values (cells : List (Nat × α × Nat)) : (trimFirst cells).map (·.2.1) = cells.map (·.2.1) := by
  cases cells <;> simp [trimFirst]

theorem trimLast_values (cells : List (Nat × α × Nat)) : (trimLast cells).map (·.2.1) = cells.map (·.2.1) := by
  induction cells with
  | nil => rfl
  | cons c r ih =>
    cases r with
    | nil => simp [trimLast]
    | cons c' r => simp only [trimLast, List.map_cons] at ih ⊢; rw [ih]

theorem trimLast_ne_nil (cells : List (Nat × α × Nat)) (h : cells ≠ []) : trimLast cells ≠ [] := by
  cases cells with
  | nil => exact absurd rfl h
  | cons c r => cases r <;> simp [trimLast]

theorem rowFields_values (fmt : α → Str) (conv : Str → α) (hpad : ∀ x a b, conv (spaces a ++ fmt x ++ spaces b) = x)
    (l : FLine α) : (rowFields fmt l).map conv = l.cells.map (·.2.1) := by
  unfold rowFields
  rw [List.map_map, ← trimFirst_values l.cells, ← trimLast_values (trimFirst l.cells)]
  apply List.map_congr_left
  intro cell _
  simp only [Function.comp, cellText]
  exact hpad _ _ _

theorem rowFields_eq_nil (fmt : α → Str) (l : FLine α) : rowFields fmt l = [] ↔ l.cells = [] := by
  rw [rowFields, List.map_eq_nil_iff]
  cases l.cells with
  | nil => exact ⟨fun _ => rfl, fun _ => rfl⟩
  | cons c r => exact ⟨fun h => absurd h (trimLast_ne_nil _ (by simp [trimFirst])), nofun⟩

section clean
variable (fmt : α → Str) (conv : Str → α) (hc : Clean fmt conv)
include hc

theorem row_char (ss : List Char) (cells : List (Nat × α × Nat)) (hs : ∀ s ∈ ss, IsDelim s) (c : Char)
    (h : c ∈ joinWith ss (cells.map (cellText fmt))) : c ≠ '\r' ∧ c ≠ '\n' ∧ c ≠ '#' := by
  rcases mem_joinWith _ _ _ h with e | e | ⟨f, hf, hcf⟩
  · rcases hs c e with rfl | rfl | rfl <;> decide
  · rw [e.1]; decide
  · obtain ⟨cell, _, rfl⟩ := List.mem_map.mp hf
    exact (cellText_char hc hcf).2

theorem content_no_break (l : FLine α)
    (hs : ∀ s ∈ l.seps, IsDelim s) (hcm : ∀ c, l.comment = some c → ∀ x ∈ c, x ≠ '\r' ∧ x ≠ '\n') :
    ∀ c ∈ l.content fmt, c ≠ '\r' ∧ c ≠ '\n' := by
  intro c h
  simp only [FLine.content, List.mem_append] at h
  rcases h with (h | h) | h
  · have := mem_spaces _ _ h; subst this; decide
  · exact ⟨(row_char fmt conv hc _ _ hs c h).1, (row_char fmt conv hc _ _ hs c h).2.1⟩
  · cases hcmt : l.comment with
    | none => rw [hcmt] at h; simp [commentText] at h
    | some cm =>
      rw [hcmt] at h
      simp only [commentText, List.mem_cons] at h
      rcases h with e | e
      · subst e; decide
      · exact hcm cm hcmt c e

/-- `b`: the line before ended in a lone `\r`; then (`hb`) the first line here is not an empty one ended by `\n`, for
the pair would be the single terminator `\r\n` -/
theorem universalNewlines_foreign (ls : List (FLine α)) (hok : LinesOk fmt ls) (b : Bool)
    (hb : b = true → ∀ n r, ls = n :: r → ¬ (n.content fmt = [] ∧ n.eol = .lf)) :
    universalNewlines b (foreignFile fmt ls) = ls.flatMap fun l => l.content fmt ++ eolN l.eol := by
  induction ls generalizing b with
  | nil => rfl
  | cons l rest ih =>
    obtain ⟨hs, hcm, heof, hcr, hrest⟩ := hok
    have hplain := content_no_break fmt conv hc l hs hcm
    have hff : foreignFile fmt (l :: rest) = l.content fmt ++ (l.eol.str ++ foreignFile fmt rest) := by
      simp [foreignFile]
    rw [hff, List.flatMap_cons, List.append_assoc]
    have key : ∀ b' : Bool, (b' = true → ¬ (l.eol = .lf)) →
        universalNewlines b' (l.eol.str ++ foreignFile fmt rest)
          = eolN l.eol ++ (rest.flatMap fun l => l.content fmt ++ eolN l.eol) := by
      intro b' hb'
      cases he : l.eol with
      | lf =>
        obtain rfl : b' = false := by
          cases b' with
          | false => rfl
          | true => exact absurd he (hb' rfl)
        simp [Eol.str, eolN, universalNewlines, ih hrest false (by simp)]
      | crlf => simp [Eol.str, eolN, universalNewlines, ih hrest false (by simp)]
      | cr => simp [Eol.str, eolN, universalNewlines, ih hrest true (fun _ n r hr => hcr he n r hr)]
      | eof =>
        obtain rfl := (heof he).1
        simp [Eol.str, eolN, foreignFile, universalNewlines]
    by_cases hk : l.content fmt = []
    · rw [hk, List.nil_append, List.nil_append]
      exact key b (fun hbt he => hb hbt l rest rfl ⟨hk, he⟩)
    · rw [universalNewlines_append_of_no_break b _ _ hplain hk, key false (by simp)]

theorem pyLines_foreign (ls : List (FLine α)) (hok : LinesOk fmt ls) :
    pyLines (universalNewlines false (foreignFile fmt ls)) = ls.map fun l => l.content fmt ++ eolN l.eol := by
  rw [universalNewlines_foreign fmt conv hc ls hok false (by simp)]
  induction ls with
  | nil => rfl
  | cons l rest ih =>
    obtain ⟨hs, hcm, heof, _, hrest⟩ := hok
    have hnl : '\n' ∉ l.content fmt := fun h => (content_no_break fmt conv hc l hs hcm _ h).2 rfl
    by_cases he : l.eol = .eof
    · obtain ⟨hr, hne⟩ := heof he
      subst hr
      simp only [List.flatMap_cons, List.flatMap_nil, List.append_nil, List.map_cons, List.map_nil, eolN, he, if_true]
      exact pyLines_last _ hnl hne
    · have : eolN l.eol = ['\n'] := by simp [eolN, he]
      simp only [List.flatMap_cons, List.map_cons, this, List.append_assoc, List.singleton_append]
      rw [pyLines_cons _ _ hnl, ih hrest]

theorem fmt_not_stripChar (x : α) : ∀ c ∈ fmt x, isStripChar c = false := by
  intro c h
  obtain ⟨_, _, _, hn, hr, _, hs⟩ := hc.chars x c h
  simp [isStripChar, hs, hr, hn]

theorem lstrip_row (i : Nat) (c : Nat × α × Nat)
    (r : List (Nat × α × Nat)) (t : Str) :
    (spaces i ++ join ',' ((c :: r).map (cellText fmt)) ++ t).dropWhile isStripChar
      = join ',' ((trimFirst (c :: r)).map (cellText fmt)) ++ t := by
  simp only [List.map_cons, trimFirst, join_cons, cellText, List.append_assoc]
  rw [List.dropWhile_append_of_pos (spaces_strip i), List.dropWhile_append_of_pos (spaces_strip c.1)]
  exact dropWhile_append_of_neg _ _ _ (hc.nonempty _) (fmt_not_stripChar fmt conv hc _)

theorem rstrip_row (cells : List (Nat × α × Nat)) (hne : cells ≠ []) :
    Lists.rstrip isStripChar (join ',' (cells.map (cellText fmt))) = join ',' ((trimLast cells).map (cellText fmt)) := by
  induction cells with
  | nil => exact absurd rfl hne
  | cons c r ih =>
    cases r with
    | nil =>
      have hl : ∀ ch, (spaces c.1 ++ fmt c.2.1).getLast? = some ch → isStripChar ch = false := fun ch h => by
        rw [List.getLast?_append, List.getLast?_eq_some_getLast (hc.nonempty c.2.1), Option.some_or] at h
        exact fmt_not_stripChar fmt conv hc c.2.1 ch (Option.some.inj h ▸ List.getLast_mem _)
      simp only [List.map_cons, List.map_nil, join, trimLast, cellText]
      rw [Lists.rstrip_append (spaces_strip _), Lists.rstrip_of_getLast? hl]
      simp [spaces]
    | cons c' r =>
      have ih' := ih (by simp)
      obtain ⟨y, ys, htl⟩ := List.exists_cons_of_ne_nil (trimLast_ne_nil (c' :: r) (by simp))
      rw [trimLast, htl]
      rw [htl] at ih'
      simp only [List.map_cons] at ih' ⊢
      rw [join, rstrip_stop _ _ _ _ (by decide), ih', join]
/-- the raw line up to its comment; `t`: the line break, unless a comment took it along -/
theorem cut_line (l : FLine α) (hs : ∀ s ∈ l.seps, IsDelim s) :
    ∃ t : Str, (∀ c ∈ t, c = '\n') ∧
      cutComment (l.content fmt ++ eolN l.eol)
        = spaces l.indent ++ joinWith l.seps (l.cells.map (cellText fmt)) ++ t := by
  have hP : '#' ∉ spaces l.indent ++ joinWith l.seps (l.cells.map (cellText fmt)) := by
    intro h
    rcases List.mem_append.mp h with h | h
    · exact absurd (mem_spaces _ _ h) (by decide)
    · exact (row_char fmt conv hc _ _ hs _ h).2.2 rfl
  rw [FLine.content, List.append_assoc]
  cases l.comment with
  | none =>
    refine ⟨eolN l.eol, mem_eolN _, cutComment_clean _ fun c h e => ?_⟩
    rcases List.mem_append.mp h with h | h
    · exact hP (e ▸ h)
    · exact absurd (e ▸ mem_eolN _ c h) (by decide)
  | some cm => exact ⟨[], nofun, by rw [commentText, List.cons_append, cutComment_hash _ _ hP, List.append_nil]⟩

theorem cut_line_normalised (l : FLine α) (hs : ∀ s ∈ l.seps, IsDelim s) :
    ∃ t : Str, (∀ c ∈ t, isStripChar c = true) ∧
      cutComment (normalise (l.content fmt ++ eolN l.eol))
        = spaces l.indent ++ join ',' (l.cells.map (cellText fmt)) ++ t := by
  obtain ⟨t, ht, hcut⟩ := cut_line fmt conv hc l hs
  refine ⟨t, fun c h => by rw [ht c h]; decide, ?_⟩
  rw [cutComment_normalise, hcut, normalise_append, normalise_append, normalise_spaces,
    normalise_clean t fun c h => by rw [ht c h]; decide,
    normalise_joinWith _ _ hs fun f hf c hcf => by
      obtain ⟨cell, _, rfl⟩ := List.mem_map.mp hf
      exact (cellText_char hc hcf).1]

theorem splitLine_foreign (l : FLine α) (hs : ∀ s ∈ l.seps, IsDelim s) :
    splitLine (normalise (l.content fmt ++ eolN l.eol)) = rowFields fmt l := by
  obtain ⟨t, ht, hcut⟩ := cut_line_normalised fmt conv hc l hs
  rw [splitLine, hcut, rowFields]
  cases l.cells with
  | nil =>
    have hall : ∀ c ∈ spaces l.indent ++ join ',' ([].map (cellText fmt)) ++ t, isStripChar c = true := by
      intro c h
      simp only [List.map_nil, join, List.append_nil, List.mem_append] at h
      exact h.elim (spaces_strip _ c) (ht c)
    have h0 : strip (spaces l.indent ++ join ',' ([].map (cellText fmt)) ++ t) = [] :=
      Lists.strip_append (x := []) hall nofun nofun
    rw [if_pos h0]
    rfl
  | cons c r =>
    have hstrip : strip (spaces l.indent ++ join ',' ((c :: r).map (cellText fmt)) ++ t)
        = join ',' ((trimLast (trimFirst (c :: r))).map (cellText fmt)) := by
      show Lists.rstrip isStripChar (List.dropWhile isStripChar _) = _
      rw [lstrip_row fmt conv hc, Lists.rstrip_append ht, rstrip_row fmt conv hc _ (by simp [trimFirst])]
    have hne2 : trimLast (trimFirst (c :: r)) ≠ [] := trimLast_ne_nil _ (by simp [trimFirst])
    have hfields : ∀ f ∈ (trimLast (trimFirst (c :: r))).map (cellText fmt), ',' ∉ f ∧ f ≠ [] := by
      intro f hf
      obtain ⟨cell, _, rfl⟩ := List.mem_map.mp hf
      constructor
      · exact fun hm => (cellText_char hc hm).1 (.inl rfl)
      · intro he
        have : fmt cell.2.1 = [] := by
          simp only [cellText, List.append_eq_nil_iff] at he
          exact he.1.2
        exact hc.nonempty _ this
    have hbody : join ',' ((trimLast (trimFirst (c :: r))).map (cellText fmt)) ≠ [] :=
      join_ne_nil _ _ (by simpa using hne2) (fun f hf => (hfields f hf).2)
    rw [hstrip, if_neg hbody]
    exact splitOn_join ',' _ (by simpa using hne2) (fun f hf => (hfields f hf).1)

theorem loaderRows_foreign (ls : List (FLine α)) (hok : LinesOk fmt ls) :
    loaderRows none (foreignFile fmt ls) = (ls.filter (fun l => !l.cells.isEmpty)).map (rowFields fmt) := by
  have h1 : (ls.map fun l => l.content fmt ++ eolN l.eol).map (splitLine ∘ normalise) = ls.map (rowFields fmt) := by
    rw [List.map_map]
    refine List.map_congr_left fun l hl => ?_
    -- with `∘` left in the goal, the `exact` unfolds `splitLine` to unify: some 20 M heartbeats
    rw [Function.comp_apply, Function.comp_apply]
    exact splitLine_foreign fmt conv hc l (hok.mem l hl).1
  rw [loaderRows, loaderLines, pyLines_foreign fmt conv hc ls hok, fieldRows, List.map_map, h1, List.filter_map]
  congr 1
  apply List.filter_congr
  intro l _
  cases h : l.cells <;> simp [rowFields_eq_nil, h]

/-- a file of the class whose separators are all `d` (the comma, where a line has too few and `joinWith` fills in), read with `d` named -/
theorem loaderRows_foreign_some (ls : List (FLine α)) (hok : LinesOk fmt ls) (d : Char) (hd : IsDelim d)
    (hsep : ∀ l ∈ ls, (∀ s ∈ l.seps, s = d) ∧ (l.seps.length + 1 < l.cells.length → d = ',')) :
    loaderRows (some d) (foreignFile fmt ls) = loaderRows none (foreignFile fmt ls) := by
  apply loaderRows_some_of_lines d hd
  rw [pyLines_foreign fmt conv hc ls hok]
  intro k hk c hcm hdc
  obtain ⟨l, hl, rfl⟩ := List.mem_map.mp hk
  obtain ⟨t, ht, hcut⟩ := cut_line fmt conv hc l (hok.mem l hl).1
  rw [hcut] at hcm
  rcases List.mem_append.mp hcm with h | h
  · rcases List.mem_append.mp h with h | h
    · exact absurd (mem_spaces _ _ h ▸ hdc) (by decide)
    · rcases mem_joinWith _ _ _ h with e | ⟨e, hlen⟩ | ⟨f, hf, hcf⟩
      · exact (hsep l hl).1 c e
      · exact e.trans ((hsep l hl).2 (by simpa using hlen)).symm
      · obtain ⟨cell, _, rfl⟩ := List.mem_map.mp hf
        exact absurd hdc (cellText_char hc hcf).1
  · exact absurd (ht c h ▸ hdc) not_delim_nl

end clean

/-- `hconv`, the fields of a line convert to its values, is asked for and not derived: a padded file has it from a `conv`
that ignores spaces (`rowFields_values`), a file written without padding from `Clean.roundtrip` alone (`rowFields_writtenRow`) -/
theorem foreign_loads (fmt : α → Str) (conv : Str → α) (hc : Clean fmt conv) (ls : List (FLine α)) (hok : LinesOk fmt ls)
    (delim : Option Char)
    (hd : ∀ d, delim = some d → IsDelim d ∧
      ∀ l ∈ ls, (∀ s ∈ l.seps, s = d) ∧ (l.seps.length + 1 < l.cells.length → d = ','))
    (hconv : ∀ l ∈ ls, (rowFields fmt l).map conv = l.cells.map (·.2.1))
    (c : Nat) (hr : foreignImage ls ≠ []) (hcols : ∀ row ∈ foreignImage ls, row.length = c) :
    loadTextD conv delim 2 (foreignFile fmt ls) = some ([(foreignImage ls).length, c], (foreignImage ls).flatten) := by
  obtain ⟨tbl, htbl, himg⟩ : ∃ tbl, loaderRows delim (foreignFile fmt ls) = tbl ∧ tbl.map (·.map conv) = foreignImage ls := by
    refine ⟨(ls.filter (fun l => !l.cells.isEmpty)).map (rowFields fmt), ?_, ?_⟩
    · cases delim with
      | none => exact loaderRows_foreign fmt conv hc ls hok
      | some d =>
        obtain ⟨hdd, hsep⟩ := hd d rfl
        rw [loaderRows_foreign_some fmt conv hc ls hok d hdd hsep, loaderRows_foreign fmt conv hc ls hok]
    · rw [foreignImage, List.map_map]
      exact List.map_congr_left fun l hl => hconv l (List.mem_filter.mp hl).1
  rw [loadTextD_of_rows conv delim _ tbl c ?_ ?_ htbl, ← himg, List.length_map]
  · exact fun e => hr (by rw [← himg, e]; rfl)
  · intro r hrm
    have := hcols (r.map conv) (himg ▸ List.mem_map_of_mem hrm)
    rwa [List.length_map] at this

/-! ### the files `save` and other tools write are of the class -/

def commentLine (p : Str) : FLine α := { indent := 0, cells := [], seps := [], comment := some p, eol := .lf }

def writtenRow (p : List Char × List α) : FLine α :=
  { indent := 0, cells := p.2.map (0, ·, 0), seps := p.1, comment := none, eol := .lf }

def writtenFile (fmt : α → Str) (header : Str) (rows : List (List Char × List α)) : Str :=
  headerText header ++ rows.flatMap fun p => joinWith p.1 (p.2.map fmt) ++ ['\n']

def writtenLines (header : Str) (rows : List (List Char × List α)) : List (FLine α) :=
  (if header = [] then [] else (splitOn '\n' header).map commentLine) ++ rows.map writtenRow

theorem joinWith_nil (fs : List Str) : joinWith [] fs = join ',' fs := by
  induction fs with
  | nil => rfl
  | cons x r ih => cases r with
    | nil => rfl
    | cons y r => rw [joinWith, join, ih]

theorem saveWith_eq (fmt : α → Str) (seps : List (List Char)) (img : List (List α)) :
    saveWith fmt seps img = writtenFile fmt [] (List.zip seps img) := rfl

theorem saveText_eq (fmt : α → Str) (header : Str) (img : List (List α)) :
    saveText fmt header img = writtenFile fmt header (img.map ([], ·)) := by
  simp [saveText, writtenFile, List.flatMap_map, joinWith_nil]

theorem headerText_lines (h : Str) (hne : h ≠ []) :
    headerText h = ((splitOn '\n' h).map ('#' :: ·)).flatMap (· ++ ['\n']) := by
  -- the replacement writes a `#` after every break, so the first piece goes without: `headerText` puts that one in front
  have key : ∀ t : Str, t.flatMap (fun c => if c = '\n' then ['\n', '#'] else [c]) ++ ['\n']
      = (match splitOn '\n' t with
          | [] => []
          | x :: xs => x ++ '\n' :: (xs.map ('#' :: ·)).flatMap (· ++ ['\n'])) := by
    intro t
    induction t with
    | nil => simp [splitOn]
    | cons c cs ih =>
      by_cases hc : c = '\n'
      · subst hc
        simp only [List.flatMap_cons, if_true, splitOn, List.nil_append, List.cons_append]
        rw [ih]
        obtain ⟨x, xs, hs⟩ := splitOn_eq_cons '\n' cs
        simp [hs]
      · simp only [List.flatMap_cons, if_neg hc, splitOn, List.cons_append, List.nil_append]
        rw [ih]
        obtain ⟨x, xs, hs⟩ := splitOn_eq_cons '\n' cs
        simp [hs]
  unfold headerText
  rw [if_neg hne, List.cons_append, key h]
  obtain ⟨x, xs, hs⟩ := splitOn_eq_cons '\n' h
  simp [hs]

theorem writtenRow_texts (fmt : α → Str) (p : List Char × List α) :
    (writtenRow p).cells.map (cellText fmt) = p.2.map fmt := by
  rw [writtenRow, List.map_map]
  exact List.map_congr_left fun x _ => by simp [cellText, spaces]

theorem writtenRow_content (fmt : α → Str) (p : List Char × List α) :
    (writtenRow p).content fmt = joinWith p.1 (p.2.map fmt) := by
  rw [FLine.content, writtenRow_texts]
  simp [writtenRow, spaces, commentText]

theorem foreignFile_writtenLines (fmt : α → Str) (header : Str) (rows : List (List Char × List α)) :
    foreignFile fmt (writtenLines header rows) = writtenFile fmt header rows := by
  rw [foreignFile, writtenLines, List.flatMap_append, writtenFile, List.flatMap_map]
  congr 1
  · by_cases hh : header = []
    · simp [hh, headerText]
    · rw [if_neg hh, headerText_lines header hh, List.flatMap_map, List.flatMap_map]
      rfl
  · simp only [writtenRow_content]; rfl

theorem mem_writtenLines {header : Str} {rows : List (List Char × List α)} {l : FLine α} (h : l ∈ writtenLines header rows) :
    (∃ p ∈ splitOn '\n' header, l = commentLine p) ∨ ∃ p ∈ rows, l = writtenRow p := by
  rcases List.mem_append.mp h with h | h
  · split at h
    · cases h
    · obtain ⟨p, hp, rfl⟩ := List.mem_map.mp h
      exact Or.inl ⟨p, hp, rfl⟩
  · obtain ⟨p, hp, rfl⟩ := List.mem_map.mp h
    exact Or.inr ⟨p, hp, rfl⟩

theorem linesOk_writtenLines (fmt : α → Str) (header : Str) (hh : '\r' ∉ header) (rows : List (List Char × List α))
    (hs : ∀ p ∈ rows, ∀ s ∈ p.1, IsDelim s) : LinesOk fmt (writtenLines header rows) := by
  refine LinesOk.of_lf fmt _ fun l hl => ?_
  obtain ⟨p, hp, rfl⟩ | ⟨p, hp, rfl⟩ := mem_writtenLines hl
  · refine ⟨rfl, nofun, fun c hc x hx => ?_⟩
    obtain rfl : p = c := Option.some.inj hc
    exact ⟨fun e => hh ((mem_splitOn '\n' header p hp).2 _ (e ▸ hx)), fun e => (mem_splitOn '\n' header p hp).1 (e ▸ hx)⟩
  · exact ⟨rfl, hs p hp, nofun⟩

theorem foreignImage_writtenLines (header : Str) (rows : List (List Char × List α)) (hne : ∀ p ∈ rows, p.2 ≠ []) :
    foreignImage (writtenLines header rows) = rows.map (·.2) := by
  have h1 : ∀ ps : List Str, (ps.map (commentLine (α := α))).filter (fun l => !l.cells.isEmpty) = [] := by
    intro ps; simp [commentLine]
  have h2 : (rows.map writtenRow).filter (fun l => !l.cells.isEmpty) = rows.map writtenRow := by
    simp only [List.filter_eq_self, List.mem_map]
    rintro l ⟨p, hp, rfl⟩
    simpa [writtenRow] using hne p hp
  rw [foreignImage, writtenLines, List.filter_append, h2]
  split
  · simp [writtenRow, Function.comp_def]
  · simp [h1, writtenRow, Function.comp_def]

theorem trimLast_unpadded (cells : List (Nat × α × Nat)) (h : ∀ c ∈ cells, c.2.2 = 0) : trimLast cells = cells := by
  induction cells with
  | nil => rfl
  | cons x r ih => cases r with
    | nil => have := h x (by simp); simp only [trimLast]; rw [← this]
    | cons y r => simp only [trimLast]; rw [ih fun c hc => h c (by simp [hc])]

theorem rowFields_writtenRow (fmt : α → Str) (p : List Char × List α) : rowFields fmt (writtenRow p) = p.2.map fmt := by
  have e1 : trimFirst (writtenRow p).cells = (writtenRow p).cells := by simp only [writtenRow]; cases p.2 <;> rfl
  rw [rowFields, e1, trimLast_unpadded _ (by simp [writtenRow]), writtenRow_texts]

theorem written_loads (fmt : α → Str) (conv : Str → α) (hc : Clean fmt conv) (header : Str) (hh : '\r' ∉ header)
    (rows : List (List Char × List α)) (c : Nat) (hs : ∀ p ∈ rows, ∀ s ∈ p.1, IsDelim s) (hr : rows ≠ []) (hcpos : 0 < c)
    (hcols : ∀ p ∈ rows, p.2.length = c) (delim : Option Char)
    (hd : ∀ d, delim = some d → IsDelim d ∧ ∀ p ∈ rows, (∀ s ∈ p.1, s = d) ∧ (p.1.length + 1 < c → d = ',')) :
    loadTextD conv delim 2 (writtenFile fmt header rows) = some ([rows.length, c], (rows.map (·.2)).flatten) := by
  have himg := foreignImage_writtenLines header rows fun p hp e => by
    have := hcols p hp; rw [e] at this; exact absurd this (by simpa using Nat.ne_of_lt hcpos)
  have := foreign_loads fmt conv hc (writtenLines header rows) (linesOk_writtenLines fmt header hh rows hs) delim
    (fun d hdd => ⟨(hd d hdd).1, fun l hl => ?_⟩) (fun l hl => ?_) c
    (himg.symm ▸ by simpa using hr)
    (himg.symm ▸ fun row hrow => by obtain ⟨p, hp, rfl⟩ := List.mem_map.mp hrow; exact hcols p hp)
  · rwa [foreignFile_writtenLines, himg, List.length_map] at this
  · obtain ⟨p, _, rfl⟩ | ⟨p, hp, rfl⟩ := mem_writtenLines hl
    · exact ⟨nofun, nofun⟩
    · exact ⟨((hd d hdd).2 p hp).1, fun h => ((hd d hdd).2 p hp).2 (by rwa [writtenRow, List.length_map, hcols p hp] at h)⟩
  · obtain ⟨p, _, rfl⟩ | ⟨p, hp, rfl⟩ := mem_writtenLines hl
    · rfl
    · rw [rowFields_writtenRow, List.map_map, writtenRow, List.map_map]
      exact List.map_congr_left fun x _ => hc.roundtrip x

theorem snd_map_pair (img : List (List α)) : (img.map (([] : List Char), ·)).map (·.2) = img := by
  rw [List.map_map]; exact List.map_id img

theorem saveText_loads (fmt : α → Str) (conv : Str → α) (hc : Clean fmt conv)
    (header : Str) (hh : '\r' ∉ header)
    (img : List (List α)) (c : Nat) (hr : img ≠ []) (hcpos : 0 < c) (hcols : ∀ row ∈ img, row.length = c)
    (delim : Option Char) (hd : ∀ d, delim = some d → d = ',') :
    loadTextD conv delim 2 (saveText fmt header img) = some ([img.length, c], img.flatten) := by
  have := written_loads fmt conv hc header hh (img.map ([], ·)) c
    (fun p hp => by obtain ⟨row, _, rfl⟩ := List.mem_map.mp hp; nofun) (fun e => hr (List.map_eq_nil_iff.mp e)) hcpos
    (fun p hp => by obtain ⟨row, hrow, rfl⟩ := List.mem_map.mp hp; exact hcols row hrow) delim fun d hdd => by
      obtain rfl := hd d hdd
      refine ⟨Or.inl rfl, fun p hp => ?_⟩
      obtain ⟨row, _, rfl⟩ := List.mem_map.mp hp
      exact ⟨nofun, fun _ => rfl⟩
  rwa [← saveText_eq, List.length_map, snd_map_pair] at this

theorem saveWith_loads (fmt : α → Str) (conv : Str → α) (hc : Clean fmt conv)
    (seps : List (List Char)) (img : List (List α)) (c : Nat) (hlen : seps.length = img.length)
    (hs : ∀ ss ∈ seps, ∀ s ∈ ss, IsDelim s) (hr : img ≠ []) (hcpos : 0 < c) (hcols : ∀ row ∈ img, row.length = c)
    (delim : Option Char)
    (hd : ∀ d, delim = some d → IsDelim d ∧ ∀ ss ∈ seps, (∀ s ∈ ss, s = d) ∧ (ss.length + 1 < c → d = ',')) :
    loadTextD conv delim 2 (saveWith fmt seps img) = some ([img.length, c], img.flatten) := by
  have h := written_loads fmt conv hc [] (by simp) (List.zip seps img) c (fun p hp => hs p.1 (List.of_mem_zip hp).1)
    (fun e => hr (List.length_eq_zero_iff.mp (by simpa [hlen] using congrArg List.length e))) hcpos
    (fun p hp => hcols p.2 (List.of_mem_zip hp).2) delim fun d hdd => ⟨(hd d hdd).1, fun p hp => (hd d hdd).2 p.1 (List.of_mem_zip hp).1⟩
  rwa [← saveWith_eq, List.length_zip, hlen, Nat.min_self, List.map_snd_zip (Nat.le_of_eq hlen.symm)] at h

end Pew.Export
