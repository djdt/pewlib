import PewModel.Cli
-- No `ring` is used.  The elaborated form of several statements depends on this import: the `Zero ℕ` instance under
-- `List.sum` (`prefixSum_length`, `stack_position_unique`), the `simp` set behind the bound in `enum_getElem`.
-- `if_congr` (Mathlib.Logic.Basic) comes with it.
import Mathlib.Tactic.Ring

/-! Stacking (`stack`, `stackT`) against `stackSpec`.  Both orientations are treated at once, in the coordinates of
the stacking axis: size along it (`Orient.len`), size across it (`oth`), value at position `p` along and `q` across
(`val`).  A `cat` of two grids takes a position from the first grid or from the second just as `locate` steps through
the sizes, which is why the induction over the inputs needs no arithmetic on positions. -/
namespace Pew.Cli

theorem le_maxOf (l : List Nat) (x : Nat) (hx : x ∈ l) : x ≤ maxOf l := by
  induction l with
  | nil => cases hx
  | cons a t ih =>
    rcases List.mem_cons.mp hx with h | h
    · subst h; exact Nat.le_max_left _ _
    · exact Nat.le_trans (ih h) (Nat.le_max_right _ _)

theorem maxOf_mem (l : List Nat) (hne : l ≠ []) : maxOf l ∈ l := by
  induction l with
  | nil => exact absurd rfl hne
  | cons a t ih =>
    simp only [maxOf]
    by_cases ht : t = []
    · subst ht; simp [maxOf]
    · have := ih ht
      rcases Nat.le_total a (maxOf t) with h | h
      · rw [Nat.max_eq_right h]; exact List.mem_cons_of_mem _ this
      · rw [Nat.max_eq_left h]; exact List.mem_cons_self

theorem prefixSum_zero (l : List Nat) : prefixSum l 0 = 0 := by simp [prefixSum]

theorem prefixSum_succ (a : Nat) (l : List Nat) (k : Nat) :
    prefixSum (a :: l) (k + 1) = a + prefixSum l k := by simp [prefixSum]

theorem prefixSum_length (l : List Nat) : prefixSum l l.length = l.sum := by simp [prefixSum]

theorem locate_some (l : List Nat) (r : Nat) (hr : r < l.sum) :
    ∃ k i, locate l r = some (k, i) ∧ ∃ hk : k < l.length, i < l[k] ∧ r = prefixSum l k + i := by
  induction l generalizing r with
  | nil => cases hr
  | cons s ss ih =>
    rw [locate]
    by_cases h : r < s
    · exact ⟨0, r, if_pos h, Nat.zero_lt_succ _, h, (Nat.zero_add r).symm⟩
    · rw [List.sum_cons] at hr
      obtain ⟨k, i, hl, hk, hi, hr'⟩ := ih (r - s) (by omega)
      exact ⟨k + 1, i, by rw [if_neg h, hl]; rfl, Nat.succ_lt_succ hk, hi, by rw [prefixSum_succ]; omega⟩

theorem locate_prefixSum_add (l : List Nat) (k i : Nat) (hk : k < l.length) (hi : i < l[k]) :
    locate l (prefixSum l k + i) = some (k, i) := by
  induction l generalizing k with
  | nil => simp at hk
  | cons s ss ih =>
    cases k with
    | zero =>
      have : i < s := by simpa using hi
      simp [locate, prefixSum, this]
    | succ k =>
      have hk' : k < ss.length := by simpa using hk
      have hi' : i < ss[k] := by simpa using hi
      rw [prefixSum_succ]
      have h1 : ¬ (s + prefixSum ss k + i < s) := by omega
      have h2 : s + prefixSum ss k + i - s = prefixSum ss k + i := by omega
      simp only [locate, h1, if_false, h2, ih k hk' hi', Option.map_some]

theorem locate_none (l : List Nat) (r : Nat) (hr : l.sum ≤ r) : locate l r = none := by
  induction l generalizing r with
  | nil => rfl
  | cons s ss ih =>
    simp only [List.sum_cons] at hr
    have h1 : ¬ r < s := by omega
    simp [locate, h1, ih (r - s) (by omega)]

theorem locate_lt (l : List Nat) (r k i : Nat) (h : locate l r = some (k, i)) :
    ∃ hk : k < l.length, i < l[k] := by
  induction l generalizing r k with
  | nil => cases h
  | cons s ss ih =>
    rw [locate] at h
    split at h
    · cases h; exact ⟨Nat.zero_lt_succ _, ‹_›⟩
    · obtain ⟨p, hp, hpe⟩ := Option.map_eq_some_iff.mp h
      cases hpe
      obtain ⟨hk, hi⟩ := ih _ _ hp
      exact ⟨Nat.succ_lt_succ hk, hi⟩

namespace Orient
variable {α : Type}

def len (o : Orient) (g : Grid α) : Nat :=
  match o with
  | .vertical => g.h
  | .horizontal => g.w

def oth (o : Orient) (g : Grid α) : Nat :=
  match o with
  | .vertical => g.w
  | .horizontal => g.h

def val (o : Orient) (g : Grid α) (p q : Nat) : α :=
  match o with
  | .vertical => g.get p q
  | .horizontal => g.get q p

def cat : Orient → Grid α → Grid α → Option (Grid α)
  | .vertical => vcat
  | .horizontal => hcat

def padTo (o : Orient) (M : Nat) (pad : α) (d : Grid α) : Grid α :=
  match o with
  | .vertical => d.pad 0 (M - d.w) pad
  | .horizontal => d.pad (M - d.h) 0 pad

theorem ext (o : Orient) {g g' : Grid α} (hl : o.len g = o.len g') (ho : o.oth g = o.oth g')
    (hv : ∀ p q, o.val g p q = o.val g' p q) : g = g' := by
  obtain ⟨h, w, get⟩ := g
  obtain ⟨h', w', get'⟩ := g'
  cases o
  · cases hl; cases ho; exact congrArg _ (funext fun i => funext fun j => hv i j)
  · cases hl; cases ho; exact congrArg _ (funext fun i => funext fun j => hv j i)

theorem cat_spec (o : Orient) (a b : Grid α) (h : o.oth a = o.oth b) :
    ∃ G, o.cat a b = some G ∧ o.len G = o.len a + o.len b ∧ o.oth G = o.oth a ∧
      ∀ p q, o.val G p q = if p < o.len a then o.val a p q else o.val b (p - o.len a) q := by
  cases o <;> exact ⟨_, if_pos h, rfl, rfl, fun _ _ => rfl⟩

theorem padTo_spec (o : Orient) {M : Nat} (pad : α) {d : Grid α} (h : o.oth d ≤ M) :
    o.len (o.padTo M pad d) = o.len d ∧ o.oth (o.padTo M pad d) = M ∧
      (∀ p q, p < o.len d → o.val (o.padTo M pad d) p q = if q < o.oth d then o.val d p q else pad) ∧
      ∀ p q, o.len d ≤ p → o.val (o.padTo M pad d) p q = pad := by
  cases o
  · exact ⟨rfl, Nat.add_sub_cancel' h, fun _ _ hp => if_congr (and_iff_right hp) rfl rfl,
      fun _ _ hp => if_neg fun h => Nat.not_lt.mpr hp h.1⟩
  · exact ⟨rfl, Nat.add_sub_cancel' h, fun _ _ hp => if_congr (and_iff_left hp) rfl rfl,
      fun _ _ hp => if_neg fun h => Nat.not_lt.mpr hp h.2⟩

/-- Equal as grids, not only inside the shape: beyond the shape of `d` the padded grid holds the pad value, whatever
`d.get` answers there. -/
theorem padTo_map_eq (o : Orient) (f : α → α) (M : Nat) {pad p' : α} (d : Grid α) (hpad : f p' = pad)
    (hval : ∀ i j, i < d.h → j < d.w → f (d.get i j) = d.get i j) :
    (o.padTo M p' d).map f = o.padTo M pad d := by
  cases o
  all_goals
    simp only [padTo, Grid.pad, Grid.map]
    congr 1
    funext i j
    split
    · exact hval i j ‹_ ∧ _›.1 ‹_ ∧ _›.2
    · exact hpad

end Orient

theorem Grid.map_eq_self {α} (f : α → α) (g : Grid α) (h : ∀ i j, f (g.get i j) = g.get i j) : g.map f = g := by
  cases g
  simp only [Grid.map]
  congr 1
  funext i j
  exact h i j

theorem stack_eq {α} (o : Orient) (pad : α) (ds : List (Grid α)) :
    stack o pad ds = concat o.cat (ds.map (o.padTo (maxOf (ds.map o.oth)) pad)) := by
  cases o <;> rfl

theorem stackSpec_coords {α} (o : Orient) (pad : α) (ds : List (Grid α)) :
    o.len (stackSpec o pad ds) = (ds.map o.len).sum ∧ o.oth (stackSpec o pad ds) = maxOf (ds.map o.oth) ∧
    ∀ p q, o.val (stackSpec o pad ds) p q =
      match locate (ds.map o.len) p with
      | some (k, i) =>
        match ds[k]? with
        | some d => if q < o.oth d then o.val d i q else pad
        | none => pad
      | none => pad := by
  cases o <;> exact ⟨rfl, rfl, fun _ _ => rfl⟩

/-- The last clause (a position beyond the total size reads some input beyond that input's own size) is what makes
`stack_eq_stackSpec` an equation of grids, outside the shape too; it holds because the `cat`s read
`b.get (i - a.h) j` without a bound. -/
theorem concat_locate {α} (o : Orient) (l : List (Grid α)) (W : Nat) (hne : l ≠ []) (hw : ∀ g ∈ l, o.oth g = W) :
    ∃ G, concat o.cat l = some G ∧ o.len G = (l.map o.len).sum ∧ o.oth G = W ∧
      (∀ p q k i, locate (l.map o.len) p = some (k, i) → ∃ g, l[k]? = some g ∧ o.val G p q = o.val g i q) ∧
      ∀ p q, locate (l.map o.len) p = none → ∃ g ∈ l, ∃ i, o.len g ≤ i ∧ o.val G p q = o.val g i q := by
  induction l with
  | nil => exact absurd rfl hne
  | cons g t ih =>
    cases t with
    | nil =>
      refine ⟨g, rfl, (Nat.add_zero _).symm, hw g List.mem_cons_self, fun p q k i h => ?_, fun p q h => ?_⟩
      all_goals
        rw [List.map_cons, locate] at h
        split at h
      · cases h; exact ⟨g, rfl, rfl⟩
      · cases h
      · cases h
      · exact ⟨g, List.mem_cons_self, p, Nat.not_lt.mp ‹_›, rfl⟩
    | cons g' gs =>
      obtain ⟨G', hG', hl', hw', hpix, hbey⟩ :=
        ih (List.cons_ne_nil _ _) fun x hx => hw x (List.mem_cons_of_mem _ hx)
      obtain ⟨G, hG, hl, ho, hval⟩ := o.cat_spec g G' ((hw g List.mem_cons_self).trans hw'.symm)
      refine ⟨G, by rw [concat, hG', Option.bind_some, hG], ?_, ho.trans (hw g List.mem_cons_self),
        fun p q k i h => ?_, fun p q h => ?_⟩
      · rw [hl, hl']; rfl
      all_goals
        rw [List.map_cons, locate] at h
        rw [hval]
        split at h
      · cases h; exact ⟨g, rfl, if_pos ‹_›⟩
      · obtain ⟨x, hx, hxe⟩ := Option.map_eq_some_iff.mp h
        cases hxe
        obtain ⟨d, hd, hget⟩ := hpix (p - o.len g) q x.1 x.2 hx
        exact ⟨d, hd, (if_neg ‹_›).trans hget⟩
      · cases h
      · obtain ⟨d, hd, i, hi, hget⟩ := hbey (p - o.len g) q (Option.map_eq_none_iff.mp h)
        exact ⟨d, List.mem_cons_of_mem _ hd, i, hi, (if_neg ‹_›).trans hget⟩

/-- Stacking IS the specification, as grids.  Inside the shape this says what `stack_eq_spec` says; outside it
(positions no caller can observe) it holds only because of how the model fills them: `Grid.pad` answers the pad value
beyond its shape, `locate` answers `none` beyond the total size, and `stackSpec` answers the pad value there.  It says
nothing about NumPy. -/
theorem stack_eq_stackSpec {α} (o : Orient) (pad : α) (ds : List (Grid α)) (hne : ds ≠ []) :
    stack o pad ds = some (stackSpec o pad ds) := by
  have hpad := fun d (hd : d ∈ ds) =>
    o.padTo_spec pad (le_maxOf (ds.map o.oth) (o.oth d) (List.mem_map_of_mem hd))
  obtain ⟨G, hG, hl, ho, hpix, hbey⟩ := concat_locate o (ds.map (o.padTo (maxOf (ds.map o.oth)) pad)) _
    (by simpa using hne)
    (by intro g hg; obtain ⟨d, hd, rfl⟩ := List.mem_map.mp hg; exact (hpad d hd).2.1)
  have hmap : (ds.map (o.padTo (maxOf (ds.map o.oth)) pad)).map o.len = ds.map o.len := by
    rw [List.map_map]; exact List.map_congr_left fun d hd => (hpad d hd).1
  rw [hmap] at hl hpix hbey
  obtain ⟨sl, so, sv⟩ := stackSpec_coords o pad ds
  rw [stack_eq, hG]
  refine congrArg some (o.ext (hl.trans sl.symm) (ho.trans so.symm) fun p q => ?_)
  rw [sv]
  cases h : locate (ds.map o.len) p with
  | none =>
    obtain ⟨g, hg, i, hi, hget⟩ := hbey p q h
    obtain ⟨d, hd, rfl⟩ := List.mem_map.mp hg
    rw [(hpad d hd).1] at hi
    exact hget.trans ((hpad d hd).2.2.2 i q hi)
  | some x =>
    obtain ⟨g, hg, hget⟩ := hpix p q x.1 x.2 h
    rw [List.getElem?_map] at hg
    obtain ⟨d, hd, rfl⟩ := Option.map_eq_some_iff.mp hg
    obtain ⟨hk, hi⟩ := locate_lt _ _ _ _ h
    obtain ⟨_, rfl⟩ := List.getElem?_eq_some_iff.mp hd
    rw [List.getElem_map] at hi
    simp only [hd]
    exact hget.trans ((hpad _ (List.getElem_mem _)).2.2.1 x.2 q hi)

theorem stack_ne_nil {α} (o : Orient) (pad : α) (ds : List (Grid α)) (g : Grid α)
    (hs : stack o pad ds = some g) : ds ≠ [] := by
  rintro rfl
  cases o <;> simp [stack, concat] at hs

theorem eq_stackSpec_of_stack {α} {o : Orient} {pad : α} {ds : List (Grid α)} {g : Grid α}
    (hs : stack o pad ds = some g) : g = stackSpec o pad ds :=
  Option.some.inj (hs.symm.trans (stack_eq_stackSpec o pad ds (stack_ne_nil _ _ _ _ hs)))

theorem stack_pixel {α} (o : Orient) (pad : α) (ds : List (Grid α)) (g : Grid α)
    (hs : stack o pad ds = some g) (k : Nat) (hk : k < ds.length) (i j : Nat) (hi : i < o.len ds[k]) :
    o.val g (prefixSum (ds.map o.len) k + i) j = if j < o.oth ds[k] then o.val ds[k] i j else pad := by
  cases eq_stackSpec_of_stack hs
  rw [(stackSpec_coords o pad ds).2.2, locate_prefixSum_add _ k i (by simpa using hk) (by simpa using hi)]
  simp only [List.getElem?_eq_getElem hk]

theorem stackT_eq (C : Casting) (o : Orient) (pad : Tok) (ds : List (Grid Px × (String → DType))) :
    stackT C o pad ds = concat o.cat (ds.map fun d =>
      (o.padTo (maxOf (ds.map (o.oth ·.1))) (castPx C d.2 fun _ => pad) d.1).map
        (castPx C fun n => C.promote (ds.map (·.2 n)))) := by
  cases o <;> rfl

theorem stackT_eq_stack (C : Casting) (o : Orient) (pad : Tok) (ds : List (Grid Px × (String → DType)))
    (hpad : ∀ d ∈ ds, ∀ n, C.cast (d.2 n) pad = pad)
    (hout : ∀ n, C.cast (C.promote (ds.map (·.2 n))) pad = pad)
    (hval : ∀ d ∈ ds, ∀ i j, i < d.1.h → j < d.1.w → ∀ n,
      C.cast (C.promote (ds.map (·.2 n))) (d.1.get i j n) = d.1.get i j n) :
    stackT C o pad ds = stack o (fun _ => pad) (ds.map (·.1)) := by
  rw [stackT_eq, stack_eq, List.map_map, List.map_map]
  refine congrArg _ (List.map_congr_left fun d hd => ?_)
  refine o.padTo_map_eq _ _ _ ?_ fun i j hi hj => funext (hval d hd i j hi hj)
  rw [show (castPx C d.2 fun _ => pad) = fun _ => pad from funext (hpad d hd)]
  exact funext hout

end Pew.Cli
