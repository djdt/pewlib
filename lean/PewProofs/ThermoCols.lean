import PewProofs.Thermo

/-! # C03 — the samples-in-columns reader on an export: `gather` over the `MainRuns` lines that mention the requested
channel (`readCols_renderCols`), hence `specImg` under `ColsOK` -/
namespace Pew.Thermo

/-- hypotheses for reading channel `ci` back from the samples-in-columns export -/
structure ColsOK {α : Type} (x : Ext α) (sh : Nat → String) (comma : Bool) (a : Acq) (ci : Nat) : Prop where
  nsamples : 0 < a.samples.length
  /-- sample names are not empty (the sample count is the number of non-empty fields of line 1) -/
  sampleNames : ∀ s ∈ a.samples, s ≠ ""
  nscans : 0 < a.nscans
  nelements : 0 < a.elements.length
  /-- at least two lines of the requested channel (two scans, as in the property's quantifier, or two
  elements): a single selected line makes `genfromtxt` return a 0-d record and the reader raises -/
  lines : 2 ≤ a.elements.length * a.nscans
  distinct : a.elements.Nodup
  /-- labels fit the 32-character name field and are not changed by the decimal-comma replacement -/
  labels : ∀ e ∈ a.elements, trunc 32 (fixDec comma e) = e
  chanIdx : ci < a.channels.length
  /-- lines are selected by `channel in line`: the requested channel name occurs in its own lines only -/
  chanSelf : ∀ c, c < a.channels.length → hasSub (a.chan ci) (a.chan c) = (c == ci)
  chanMain : hasSub (a.chan ci) "MainRuns" = false
  chanEol : hasSub (a.chan ci) "\n" = false
  chanScan : ∀ s, s < a.nscans → hasSub (a.chan ci) (sh s) = false
  chanLabel : ∀ e ∈ a.elements, hasSub (a.chan ci) e = false
  chanValue : ∀ i, i < a.samples.length → ∀ s, s < a.nscans → ∀ e, e < a.elements.length → ∀ c, c < a.channels.length →
    hasSub (a.chan ci) (a.value i s e c) = false
  /-- scan numbers survive `str` → `int` -/
  scans : ∀ s, s < a.nscans → x.readInt (fixDec comma (sh s)) = some (s : Int)

theorem ColsOK.of_eq {α : Type} {x : Ext α} {sh : Nat → String} {b : Bool} {a a' : Acq} {ci : Nat} (h : ColsOK x sh b a ci)
    (hs : a'.samples = a.samples) (hm : a'.nscans = a.nscans) (he : a'.elements = a.elements) (hc : a'.channels = a.channels)
    (hv : ∀ i, i < a.samples.length → ∀ s, s < a.nscans → ∀ e, e < a.elements.length → ∀ c, c < a.channels.length →
      hasSub (a.chan ci) (a'.value i s e c) = false) : ColsOK x sh b a' ci := by
  cases a; cases a'
  dsimp only at hs hm he hc
  subst hs hm he hc
  exact { h with chanValue := hv }

/-- `chan` occurs in a `MainRuns` line of the columns export at most in the line's channel field (lines are selected
by `chan in line`) -/
structure ChanOnly (sh : Nat → String) (a : Acq) (chan : String) : Prop where
  main : hasSub chan "MainRuns" = false
  eol : hasSub chan "\n" = false
  scan : ∀ s, s < a.nscans → hasSub chan (sh s) = false
  label : ∀ e ∈ a.elements, hasSub chan e = false
  value : ∀ i, i < a.samples.length → ∀ s, s < a.nscans → ∀ e, e < a.elements.length → ∀ c, c < a.channels.length →
    hasSub chan (a.value i s e c) = false

theorem ColsOK.chanOnly {α : Type} {x : Ext α} {sh : Nat → String} {b : Bool} {a : Acq} {ci : Nat} (h : ColsOK x sh b a ci) :
    ChanOnly sh a (a.chan ci) :=
  ⟨h.chanMain, h.chanEol, h.chanScan, h.chanLabel, h.chanValue⟩

def colsSel (m k ci : Nat) : List (Nat × Nat × Nat) :=
  (List.range k).flatMap fun e => (List.range m).map fun s => (s, e, ci)

theorem mem_colsSel {m k ci : Nat} {x : Nat × Nat × Nat} : x ∈ colsSel m k ci ↔ x.1 < m ∧ x.2.1 < k ∧ x.2.2 = ci := by
  unfold colsSel
  simp only [List.mem_flatMap, List.mem_range, List.mem_map]
  constructor
  · rintro ⟨e, he, s, hs, rfl⟩; exact ⟨hs, he, rfl⟩
  · rintro ⟨h1, h2, h3⟩; exact ⟨x.2.1, h2, x.1, h1, by rw [← h3]⟩

theorem mem_enumCols {m k C : Nat} {x : Nat × Nat × Nat} : x ∈ enumCols m k C ↔ x.1 < m ∧ x.2.1 < k ∧ x.2.2 < C := by
  unfold enumCols
  simp only [List.mem_flatMap, List.mem_range, List.mem_map]
  constructor
  · rintro ⟨e, he, c, hc, s, hs, rfl⟩; exact ⟨hs, he, hc⟩
  · rintro ⟨h1, h2, h3⟩; exact ⟨x.2.1, h2, x.2.2, h3, x.1, h1, rfl⟩

theorem enumCols_filter (m k C ci : Nat) (h : ci < C) (p : Nat × Nat × Nat → Bool)
    (hp : ∀ y ∈ enumCols m k C, p y = (y.2.2 == ci)) : (enumCols m k C).filter p = colsSel m k ci := by
  rw [List.filter_congr hp, enumCols, colsSel, List.filter_flatMap]
  congr 1
  funext e
  rw [filter_flatMap_outer _ _ (fun c => c == ci) _ (fun c _ y hy => by obtain ⟨s, _, rfl⟩ := List.mem_map.mp hy; rfl),
    filter_range_eq C ci h]
  simp

theorem colsSel_filter_elem (m k ci ei : Nat) (h : ei < k) :
    (colsSel m k ci).filter (fun y => y.2.1 == ei) = (List.range m).map (fun s => (s, ei, ci)) := by
  rw [colsSel, filter_flatMap_outer _ _ (fun e => e == ei) _ (fun e _ y hy => by obtain ⟨s, _, rfl⟩ := List.mem_map.mp hy; rfl),
    filter_range_eq k ei h]
  simp

theorem length_colsSel (m k ci : Nat) : (colsSel m k ci).length = k * m := by
  rw [colsSel, Lists.length_flatMap_const _ m _ (fun _ _ => by simp), List.length_range, Nat.mul_comm]

def gfColLine (sh : Nat → String) (comma : Bool) (a : Acq) (y : Nat × Nat × Nat) : Row :=
  "MainRuns" :: fixDec comma (sh y.1) :: fixDec comma (a.elem y.2.1) :: fixDec comma (a.chan y.2.2) ::
    ((List.range a.samples.length).map (fun i => fixDec comma (a.value i y.1 y.2.1 y.2.2)) ++ [""])

theorem lineStarts_blank (r : Row) : lineStarts ("" :: r) = false := by
  simp only [lineStarts]; decide +kernel

/-- the sample count: the non-empty fields of the first line -/
theorem countP_first (samples : List String) (hsn : ∀ s ∈ samples, s ≠ "") :
    (gfSplit ("" :: "" :: "" :: "" :: (samples ++ ["\n"]))).countP (fun f => f != "") = samples.length := by
  have hfirst : gfSplit ("" :: "" :: "" :: "" :: (samples ++ ["\n"])) = "" :: ((["", "", ""] ++ samples) ++ [""]) := by
    simpa [lstrip_empty] using gfSplit_line "" (["", "", ""] ++ samples)
  have : samples.countP (fun f => f != "") = samples.length :=
    List.countP_eq_length.mpr fun s hs => by simpa using hsn s hs
  rw [hfirst]
  simp [List.countP_append, this]

theorem lineStarts_colLine (sh : Nat → String) (a : Acq) (y : Nat × Nat × Nat) : lineStarts (colLine sh a y) = true := by
  simp only [colLine, List.cons_append, lineStarts]; decide +kernel

theorem lineHas_colLine {sh : Nat → String} {a : Acq} {chan : String} {y : Nat × Nat × Nat}
    (hy : y ∈ enumCols a.nscans a.elements.length a.channels.length) (h : ChanOnly sh a chan) :
    lineHas chan (colLine sh a y) = hasSub chan (a.chan y.2.2) := by
  obtain ⟨h1, h2, h3⟩ := mem_enumCols.mp hy
  have hv : (List.range a.samples.length).any (hasSub chan ∘ fun i => a.value i y.1 y.2.1 y.2.2) = false :=
    List.any_eq_false.mpr fun i hi => by simp [h.value i (List.mem_range.mp hi) y.1 h1 y.2.1 h2 y.2.2 h3]
  simp only [colLine, List.cons_append, List.nil_append, lineHas, List.any_cons, List.any_append, List.any_map, List.any_nil,
    Bool.or_false, h.main, h.scan y.1 h1, h.label _ (elem_mem a y.2.1 h2), h.eol, Bool.false_or, hv]

theorem filter_colLines {sh : Nat → String} {a : Acq} {chan : String} (h : ChanOnly sh a chan) :
    ((enumCols a.nscans a.elements.length a.channels.length).map (colLine sh a)).filter
      (fun r => lineStarts r && lineHas chan r) =
    ((enumCols a.nscans a.elements.length a.channels.length).filter fun y => hasSub chan (a.chan y.2.2)).map (colLine sh a) := by
  rw [List.filter_map]
  exact congrArg _ (List.filter_congr fun y hy => by
    rw [Function.comp_apply, lineStarts_colLine, Bool.true_and, lineHas_colLine hy h])

theorem gfLines_cols (sh : Nat → String) (comma : Bool) (a : Acq) (cells : List (Nat × Nat × Nat)) :
    gfLinesWith gfSplit comma (cells.map (colLine sh a)) = cells.map (gfColLine sh comma a) := by
  apply gfLines_map
  · intro y _
    unfold colLine gfColLine
    simp only [List.cons_append, List.nil_append, List.map_cons, List.map_append, List.map_map, List.map_nil, fixDec_main, fixDec_eol]
    simpa [lstrip_main, Function.comp_def] using gfSplit_line "MainRuns"
      (fixDec comma (sh y.1) :: fixDec comma (a.elem y.2.1) :: fixDec comma (a.chan y.2.2) ::
        (List.range a.samples.length).map (fun i => fixDec comma (a.value i y.1 y.2.1 y.2.2)))
  · intro y _; rfl

theorem sameLen_gfCols (sh : Nat → String) (comma : Bool) (a : Acq) (cells : List (Nat × Nat × Nat)) (hne : cells ≠ []) :
    sameLen (cells.map (gfColLine sh comma a)) = some (a.samples.length + 5) := by
  apply sameLen_of_all _ _ (by simpa using hne)
  intro r hr
  obtain ⟨y, _, rfl⟩ := List.mem_map.mp hr
  simp [gfColLine]

theorem firstApp_colsSel (a : Acq) (hnd : a.elements.Nodup) (m ci : Nat) (hm : 0 < m) :
    firstApp ((colsSel m a.elements.length ci).map fun y => a.elem y.2.1) = a.elements := by
  have : (colsSel m a.elements.length ci).map (fun y => a.elem y.2.1)
      = a.elements.flatMap (fun e => (List.range m).map (fun _ => e)) := by
    rw [List.flatMap_def, map_elems, ← List.flatMap_def]
    unfold colsSel
    rw [List.map_flatMap]
    congr 1
    funext e
    rw [List.map_map]
    rfl
  rw [this]
  exact firstAppAux_runs m hm a.elements [] hnd (by simp)

theorem transposeN_map {ι β : Type} (n : Nat) (l : List ι) (f : Nat → ι → β) :
    transposeN n (l.map fun y => (List.range n).map fun i => f i y) = (List.range n).map fun i => l.map (f i) := by
  apply List.map_congr_left
  intro i hi
  rw [List.filterMap_map]
  have : ((fun r : List β => r[i]?) ∘ fun y => (List.range n).map fun i => f i y) = fun y => some (f i y) := by
    funext s
    simp [List.mem_range.mp hi]
  rw [this, List.filterMap_eq_map']

/-- for ANY requested channel that occurs in no other field of a `MainRuns` line: a single selected line raises,
otherwise `gather` over the lines whose channel field contains the requested name (none, one channel's, several) -/
theorem readCols_renderCols {α : Type} (x : Ext α) (sh : Nat → String) (comma : Bool) (a : Acq) (chan : String)
    {sel : List (Nat × Nat × Nat)} (hn : 0 < a.samples.length) (hsn : ∀ s ∈ a.samples, s ≠ "") (h : ChanOnly sh a chan)
    (hsel : (enumCols a.nscans a.elements.length a.channels.length).filter (fun y => hasSub chan (a.chan y.2.2)) = sel)
    (hsc : ∀ y ∈ sel, x.readInt (fixDec comma (sh y.1)) = some (y.1 : Int)) :
    readCols x comma chan (renderCols sh a) =
      if sel.length = 1 then none else
      gather a.samples.length (fun y => trunc 32 (fixDec comma (a.elem y.2.1))) (fun y => (y.1 : Int))
        (fun i y => x.parse (fixDec comma (a.value i y.1 y.2.1 y.2.2))) sel := by
  unfold renderCols readCols readColsWith gather
  simp only [List.cons_append, List.nil_append, countP_first a.samples hsn, List.filter_cons, lineStarts_blank, Bool.false_and,
    Bool.false_eq_true, if_false, filter_colLines h, hsel, beq_false_of_ne (Nat.ne_of_gt hn), gfLines_cols, List.length_map]
  by_cases h1 : sel.length = 1
  · simp only [h1, BEq.rfl, if_true]
  · by_cases hne : sel = []
    · subst hne; rfl
    · have hp : (sel.map (gfColLine sh comma a)).map (parseColLine x a.samples.length)
          = sel.map fun y => ColRec.mk (y.1 : Int) (trunc 32 (fixDec comma (a.elem y.2.1)))
              ((List.range a.samples.length).map fun i => x.parse (fixDec comma (a.value i y.1 y.2.1 y.2.2))) := by
        rw [List.map_map]
        apply List.map_congr_left
        intro y hy
        simp only [Function.comp, gfColLine, parseColLine, List.getD_cons_succ, List.getD_cons_zero, List.drop_succ_cons,
          List.drop_zero, hsc y hy, Option.getD_some]
        rw [List.take_append_of_le_length (by simp), List.take_of_length_le (by simp), List.map_map]
        rfl
      simp only [beq_false_of_ne h1, Bool.false_eq_true, if_false, sameLen_gfCols sh comma a _ hne, hp, List.map_map,
        Function.comp_def, List.isEmpty_iff, hne, List.filter_map, List.length_map, transposeN_map]
      -- every line has `n + 5` fields (`sameLen_gfCols`), not fewer than the `4 + n` of the record
      rw [if_neg (by omega), if_neg h1]
      rfl

theorem ColsOK.readCols {α : Type} {x : Ext α} {sh : Nat → String} {comma : Bool} {a : Acq} {ci : Nat}
    (h : ColsOK x sh comma a ci) : Thermo.readCols x comma (a.chan ci) (renderCols sh a) = some (specImg x comma a ci) := by
  rw [readCols_renderCols x sh comma a _ h.nsamples h.sampleNames h.chanOnly
    (enumCols_filter _ _ _ ci h.chanIdx _ fun y hy => h.chanSelf _ (mem_enumCols.mp hy).2.2)
    fun y hy => h.scans _ (mem_colsSel.mp hy).1, length_colsSel, if_neg (Nat.ne_of_gt h.lines)]
  exact gather_cells x comma _ h.nscans h.nelements h.distinct ⟨mem_colsSel, firstApp_colsSel a h.distinct _ ci h.nscans, colsSel_filter_elem _ _ ci⟩
    fun y hy => h.labels _ (elem_mem a _ (mem_colsSel.mp hy).2.1)

/-- hypotheses under which no line of the samples-in-columns export mentions `chan` (lines are selected by
`chan in line`) -/
structure ColsAbsent (sh : Nat → String) (a : Acq) (chan : String) : Prop where
  nsamples : 0 < a.samples.length
  sampleNames : ∀ s ∈ a.samples, s ≠ ""
  chanMain : hasSub chan "MainRuns" = false
  chanEol : hasSub chan "\n" = false
  chanScan : ∀ s, s < a.nscans → hasSub chan (sh s) = false
  chanLabel : ∀ e ∈ a.elements, hasSub chan e = false
  chanChan : ∀ c, c < a.channels.length → hasSub chan (a.chan c) = false
  chanValue : ∀ i, i < a.samples.length → ∀ s, s < a.nscans → ∀ e, e < a.elements.length → ∀ c, c < a.channels.length →
    hasSub chan (a.value i s e c) = false

theorem ColsAbsent.chanOnly {sh : Nat → String} {a : Acq} {chan : String} (h : ColsAbsent sh a chan) : ChanOnly sh a chan :=
  ⟨h.chanMain, h.chanEol, h.chanScan, h.chanLabel, h.chanValue⟩

theorem readCols_absent {α : Type} (x : Ext α) (sh : Nat → String) (comma : Bool) (a : Acq) (chan : String)
    (h : ColsAbsent sh a chan) :
    readCols x comma chan (renderCols sh a) = none :=
  readCols_renderCols x sh comma a chan h.nsamples h.sampleNames
    h.chanOnly
    (List.filter_eq_nil_iff.mpr fun y hy => by rw [h.chanChan _ (mem_enumCols.mp hy).2.2]; exact Bool.false_ne_true)
    fun _ hy => nomatch hy

end Pew.Thermo
