import PewProofs.OtsuScale

/-! # C15 — the criterion in floating point: every computed entry is within the budget of the exact one

Each operation on pairs (`addB` … `rndB`) keeps `Near` against the operation on numbers it stands for, so the arrays are
`Near` entry by entry (`critProg_rel`: `near_critList`); the first components of the budget program are the exact criterion
(`critProg_map` with `Prod.fst`: `critListB_fst`). -/
namespace Pew.Otsu

/-- the computed value `x` is within the bound of the exact value -/
def Near (x : Rat) (p : EB) : Prop := |x - p.1| ≤ p.2

theorem le_upB (q : Rat) : q ≤ upB q := by
  unfold upB
  have hG : (0 : Rat) < ((2 ^ 1200 : Nat) : Rat) := Nat.cast_pos.mpr (Nat.two_pow_pos 1200)
  rw [le_div_iff₀ hG]
  exact Rat.le_ceil

theorem near_exact (x : Rat) : Near x (x, 0) := by simp [Near]

theorem near_nonneg {x : Rat} {p : EB} (h : Near x p) : 0 ≤ p.2 := le_trans (abs_nonneg _) h

theorem near_add {x y : Rat} {p q : EB} (hx : Near x p) (hy : Near y q) : Near (x + y) (addB p q) := by
  unfold Near addB at *
  have : x + y - (p.1 + q.1) = (x - p.1) + (y - q.1) := by ring
  rw [this]
  exact le_trans (abs_add_le _ _) (add_le_add hx hy)

theorem near_sub {x y : Rat} {p q : EB} (hx : Near x p) (hy : Near y q) : Near (x - y) (subB p q) := by
  unfold Near subB at *
  have : x - y - (p.1 - q.1) = (x - p.1) - (y - q.1) := by ring
  rw [this]
  exact le_trans (abs_sub _ _) (add_le_add hx hy)

theorem near_mul {x y : Rat} {p q : EB} (hx : Near x p) (hy : Near y q) : Near (x * y) (mulB p q) := by
  unfold Near mulB at *
  simp only [absQ_eq_abs]
  have e : x * y - p.1 * q.1 = p.1 * (y - q.1) + q.1 * (x - p.1) + (x - p.1) * (y - q.1) := by ring
  rw [e]
  have h1 : |p.1 * (y - q.1)| ≤ |p.1| * q.2 := by
    rw [abs_mul]; exact mul_le_mul_of_nonneg_left hy (abs_nonneg _)
  have h2 : |q.1 * (x - p.1)| ≤ |q.1| * p.2 := by
    rw [abs_mul]; exact mul_le_mul_of_nonneg_left hx (abs_nonneg _)
  have h3 : |(x - p.1) * (y - q.1)| ≤ p.2 * q.2 := by
    rw [abs_mul]; exact mul_le_mul hx hy (abs_nonneg _) (le_trans (abs_nonneg _) hx)
  exact (abs_add_three _ _ _).trans (add_le_add (add_le_add h1 h2) h3)

theorem near_div {x : Rat} {p : EB} (hx : Near x p) (w : Rat) : Near (x / w) (divB p w) := by
  unfold Near divB at *
  simp only [absQ_eq_abs]
  rw [← sub_div, abs_div]
  exact div_le_div_of_nonneg_right hx (abs_nonneg w)

theorem le_add_budgets {a b sa sb ba bb : Rat} (h1 : |a - sa| ≤ ba) (h2 : |b - sb| ≤ bb) (h : a ≤ b) :
    sa ≤ sb + bb + ba := by
  have := (abs_le.mp h1).1
  have := (abs_le.mp h2).2
  linarith

open List in
theorem near_getD {xs : List Rat} {ps : List EB} (h : Forall₂ Near xs ps) :
    ∀ (i : Nat), i < xs.length → |xs.getD i 0 - (ps.map Prod.fst).getD i 0| ≤ (ps.getD i (0, 0)).2 := by
  -- the exact value is read off `ps.map Prod.fst`, the list that `critListB_fst` rewrites into the exact criterion
  induction h with
  | nil => intro i hi; simp at hi
  | cons h _ ih =>
    intro i hi
    cases i with
    | zero => exact h
    | succ i => exact ih i (Nat.lt_of_succ_lt_succ hi)

theorem cumsumFromR_length (fl : Rat → Rat) : ∀ (l : List Rat) (acc : Rat), (cumsumFromR fl acc l).length = l.length
  | [], _ => rfl
  | a :: l, acc => by simp [cumsumFromR, cumsumFromR_length fl l]

@[simp] theorem cumsumR_length (fl : Rat → Rat) (l : List Rat) : (cumsumR fl l).length = l.length := by
  cases l with
  | nil => rfl
  | cons a l => simp [cumsumR, cumsumFromR_length]

theorem critListR_length (fl : Rat → Rat) (hist : List Nat) (cs : List Rat) (hc : cs.length = hist.length) :
    (critListR fl hist cs).length = hist.length - 1 := by
  rw [critListR_eq_critProg, critProg_length (cumsumR_length fl) _ _ (by simp [hc]), List.length_map]

theorem scaledCentresR_length_eq (fl : Rat → Rat) {edges : List Rat} {n : Nat} (he : edges.length = n + 1) :
    (scaledCentresR fl edges).length = n := by
  unfold scaledCentresR centresR
  rw [List.length_map, List.length_zipWith, List.length_tail, he, Nat.add_sub_cancel]
  exact Nat.min_eq_left (Nat.le_succ n)

section
variable {fl : Rat → Rat} {u η : Rat} (hu : 0 ≤ u) (hfl : ∀ x, |fl x - x| ≤ u * |x| + η)
include hu hfl

theorem near_rnd {x : Rat} {p : EB} (h : Near x p) : Near (fl x) (rndB u η p) := by
  unfold Near rndB at *
  simp only [absQ_eq_abs]
  exact ((abs_rounded_sub_le hu h (hfl x)).trans_eq (by ring)).trans (le_upB _)

open List in
theorem near_cumsumFrom : ∀ {as : List Rat} {bs : List EB} {acc : Rat} {accB : EB}, Near acc accB →
    Forall₂ Near as bs → Forall₂ Near (cumsumFromR fl acc as) (cumsumFromB u η accB bs)
  | _, _, _, _, _, .nil => .nil
  | _, _, _, _, hacc, .cons h t =>
    have := near_rnd hu hfl (near_add hacc h)
    .cons this (near_cumsumFrom this t)

open List in
theorem near_cumsum {as : List Rat} {bs : List EB} (h : Forall₂ Near as bs) :
    Forall₂ Near (cumsumR fl as) (cumsumB u η bs) := by
  cases h with
  | nil => exact .nil
  | cons h t => exact .cons h (near_cumsumFrom hu hfl h t)

open List in
theorem near_critList (hist : List Nat) {cs : List Rat} {csB : List EB} (hc : Forall₂ Near cs csB) :
    Forall₂ Near (critListR fl hist cs) (critListB u η hist csB) := by
  rw [critListR_eq_critProg, critListB_eq_critProg]
  exact critProg_rel (R := Near) (A := Near) (fun a _ _ h => near_rnd hu hfl (near_mul (near_exact a) h))
    (near_cumsum hu hfl) (fun w _ _ h => near_rnd hu hfl (near_div h w)) (fun ha hb => near_rnd hu hfl (near_sub ha hb))
    (fun a _ _ h => near_rnd hu hfl (near_mul (near_rnd hu hfl (near_exact a)) (near_rnd hu hfl (near_mul h h))))
    _ hc

open List in
theorem near_scaledCentres (edges : List Rat) :
    Forall₂ Near (scaledCentresR fl edges) (scaledCentresB u η edges) := by
  unfold scaledCentresR scaledCentresB centresR centresB
  refine rel_map (R := Near) (fun a b hab => near_mul (near_exact _) hab) ?_
  exact forall₂_zipWith (R := (· = ·)) (S := (· = ·)) (fun a b c d hab hcd => by
      subst hab; subst hcd
      exact near_rnd hu hfl (near_div (near_rnd hu hfl (near_exact (a + c))) 2)) (forall₂_refl _) (forall₂_refl _)

end

theorem cumsumFromB_fst (u η : Rat) : ∀ (l : List EB) (acc : EB),
    (cumsumFromB u η acc l).map Prod.fst = (cumsum (l.map Prod.fst)).map (acc.1 + ·)
  | [], _ => rfl
  | a :: l, acc => by
    simp only [cumsumFromB, List.map_cons, cumsum, cumsumFromB_fst u η l, List.map_map]
    congr 1
    apply List.map_congr_left
    intro x _
    simp only [Function.comp, rndB, addB]
    ring

theorem cumsumB_fst (u η : Rat) (l : List EB) : (cumsumB u η l).map Prod.fst = cumsum (l.map Prod.fst) := by
  cases l with
  | nil => rfl
  | cons a l => simp only [cumsumB, List.map_cons, cumsum, cumsumFromB_fst]

theorem critListB_fst (u η : Rat) (hist : List Nat) (csB : List EB) :
    (critListB u η hist csB).map Prod.fst = critList hist (csB.map Prod.fst) := by
  rw [critListB_eq_critProg, critList_eq_critProg]
  exact critProg_map (f := Prod.fst) (g := Prod.fst) (fun _ _ => rfl) (cumsumB_fst u η) (fun _ _ => rfl)
    (fun _ _ => rfl) (fun a d => congrArg (a * ·) (pow_two d.1).symm) _ csB

theorem centresB_fst (u η : Rat) (edges : List Rat) : (centresB u η edges).map Prod.fst = centres edges := by
  unfold centresB centres
  rw [List.map_zipWith]
  rfl

theorem scaledCentresB_fst (u η : Rat) (edges : List Rat) :
    (scaledCentresB u η edges).map Prod.fst = scaledCentres edges := by
  unfold scaledCentresB scaledCentres
  rw [← centresB_fst u η edges, List.map_map, List.map_map]
  rfl

end Pew.Otsu
