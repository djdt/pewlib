import PewModel.Srr
import PewProofs.RelErr

/-! rounding to integers (`roundHalfEven`, `roundHalfUp`): error bound, when a perturbation cannot matter.
No float format is mentioned here (`PewProofs/Float64.lean` is about `fl`); both functions are defined in `PewModel/Srr.lean`. -/
namespace Pew

theorem floor_eq_of_bounds (x : Rat) (n : Int) (h1 : (n : Rat) ≤ x) (h2 : x < (n : Rat) + 1) :
    x.floor = n := by
  have a : n ≤ x.floor := Rat.le_floor_iff.mpr h1
  have b : x.floor < n + 1 := Rat.floor_lt_iff.mpr (by push_cast; exact h2)
  omega

theorem roundHalfEven_cases (x : Rat) :
    (roundHalfEven x = x.floor ∧ x - x.floor ≤ 1 / 2) ∨ (roundHalfEven x = x.floor + 1 ∧ 1 / 2 ≤ x - x.floor) := by
  unfold roundHalfEven
  simp only
  split_ifs with h1 h2
  · exact Or.inl ⟨rfl, h1.le⟩
  · exact Or.inr ⟨rfl, h2.le⟩
  · exact Or.inl ⟨rfl, not_lt.mp h2⟩
  · exact Or.inr ⟨rfl, not_lt.mp h1⟩

theorem roundHalfEven_nonneg (x : Rat) (hx : 0 ≤ x) : 0 ≤ roundHalfEven x := by
  have hf : 0 ≤ x.floor := Rat.le_floor_iff.mpr (by simpa using hx)
  rcases roundHalfEven_cases x with ⟨e, _⟩ | ⟨e, _⟩ <;> omega

theorem roundHalfEven_err (x : Rat) : |(roundHalfEven x : Rat) - x| ≤ 1 / 2 := by
  have hfl := Rat.floor_le x
  have hlt := Rat.lt_floor_add_one x
  push_cast at hlt
  rw [abs_le]
  rcases roundHalfEven_cases x with ⟨e, h⟩ | ⟨e, h⟩ <;> rw [e] <;> push_cast <;> constructor <;> linarith

theorem roundHalfEven_near_abs (x : Rat) (n : Int) (h : |x - n| < 1 / 2) : roundHalfEven x = n := by
  -- two integers less than 1 apart
  have h1 : |(roundHalfEven x : Rat) - n| < 1 :=
    (abs_sub_le _ x _).trans_lt (by linarith [roundHalfEven_err x])
  rwa [← Int.cast_sub, ← Int.cast_abs, ← Int.cast_one, Int.cast_lt, Int.abs_lt_one_iff, sub_eq_zero] at h1

theorem roundHalfEven_near (x : Rat) (n : Int) (h1 : (n : Rat) - 1 / 2 < x) (h2 : x < (n : Rat) + 1 / 2) :
    roundHalfEven x = n :=
  roundHalfEven_near_abs x n (abs_sub_lt_iff.mpr ⟨sub_lt_iff_lt_add'.mpr h2, sub_lt_comm.mpr h1⟩)

theorem roundHalfEven_intCast (n : Int) : roundHalfEven (n : Rat) = n :=
  roundHalfEven_near _ n (by linarith) (by linarith)

theorem roundHalfEven_pair (x y : Rat) (n : Int) (h : |y - x| + |x - n| < 1 / 2) : roundHalfEven y = roundHalfEven x :=
  (roundHalfEven_near_abs y n ((abs_sub_le y x n).trans_lt h)).trans
    (roundHalfEven_near_abs x n (lt_of_le_of_lt (le_add_of_nonneg_left (abs_nonneg _)) h)).symm

/-- a perturbation smaller than the distance to the nearest tie does not change the rounding -/
theorem roundHalfEven_stable (q q' δ : Rat) (hd : δ ≤ |q - q.floor - 1 / 2|) (h : |q' - q| < δ) :
    roundHalfEven q' = roundHalfEven q := by
  have key : ∀ n : Int, |q - n| ≤ 1 / 2 - δ → roundHalfEven q' = roundHalfEven q := fun n hn =>
    roundHalfEven_pair q q' n ((add_lt_add_of_lt_of_le h hn).trans_eq (add_sub_cancel δ _))
  rcases le_abs.mp hd with hd | hd
  · refine key (q.floor + 1) ?_
    rw [abs_of_nonpos (sub_nonpos.mpr (Rat.lt_floor_add_one q).le)]
    push_cast
    linarith only [hd]
  · refine key q.floor ?_
    rw [abs_of_nonneg (sub_nonneg.mpr (Rat.floor_le q))]
    linarith only [hd]

/-- within `5·10⁻⁷` of an integer the sixth decimal rounds to it (`np.round(q, 6)`) -/
theorem sixth_decimal_near (q : Rat) (j : Int) (h : |q - j| < 5 / 10000000) :
    |q * 1000000 - ((j * 1000000 : Int) : Rat)| < 1 / 2 := by
  rw [Int.cast_mul, Int.cast_ofNat, ← sub_mul, abs_mul, abs_of_pos (by norm_num : (0 : Rat) < 1000000)]
  calc |q - j| * 1000000 < 5 / 10000000 * 1000000 := mul_lt_mul_of_pos_right h (by norm_num)
    _ = 1 / 2 := by norm_num

theorem round6_near (q : Rat) (j : Int) (h : |q - j| < 5 / 10000000) :
    (roundHalfEven (q * 1000000) : Rat) / 1000000 = j := by
  rw [roundHalfEven_near_abs _ _ (sixth_decimal_near q j h), Int.cast_mul, Int.cast_ofNat,
    mul_div_cancel_right₀ _ (by norm_num)]

/-- no tie: such a value is not half-way between two integers, so every tie rule gives `n` -/
theorem no_tie_near_abs (x : Rat) (n : Int) (hn : |x - n| < 1 / 2) : x - (x.floor : Rat) ≠ 1 / 2 := by
  obtain ⟨h2, h1⟩ := abs_sub_lt_iff.mp hn
  intro h
  have a : (n : Rat) - 1 < x.floor := by linarith
  have b : (x.floor : Rat) < n := by linarith
  have a' : n - 1 < x.floor := by exact_mod_cast a
  have b' : x.floor < n := by exact_mod_cast b
  omega

theorem roundHalfEven_eq_halfUp (x : Rat) (h : x - (x.floor : Rat) ≠ 1 / 2) :
    roundHalfEven x = roundHalfUp x := by
  have hfl := Rat.floor_le x
  have hlt := Rat.lt_floor_add_one x
  push_cast at hlt
  unfold roundHalfUp
  rcases roundHalfEven_cases x with ⟨e, h'⟩ | ⟨e, h'⟩ <;> rw [e]
  · have := lt_of_le_of_ne h' h
    exact (floor_eq_of_bounds _ _ (by linarith) (by linarith)).symm
  · have := lt_of_le_of_ne h' (Ne.symm h)
    exact (floor_eq_of_bounds _ _ (by push_cast; linarith) (by push_cast; linarith)).symm

theorem roundHalfUp_near (x : Rat) (n : Int) (h1 : (n : Rat) - 1 / 2 < x) (h2 : x < (n : Rat) + 1 / 2) :
    roundHalfUp x = n := by
  have h : |x - n| < 1 / 2 := abs_sub_lt_iff.mpr ⟨sub_lt_iff_lt_add'.mpr h2, sub_lt_comm.mpr h1⟩
  rw [← roundHalfEven_eq_halfUp x (no_tie_near_abs x n h)]
  exact roundHalfEven_near_abs x n h

/-- `round(f(f(n·s) / s)) = n` for every rounding `f` of relative error `2⁻⁵³` (float64 among them: `fl_relerr`), every
non-zero `s` and `|n| ≤ 2⁵⁰`: how an `SRRConfig` recomputes its warm-up in samples from the warm-up in seconds -/
theorem round_mul_div_robust (f : Rat → Rat) (hf : ∀ x, |f x - x| ≤ |x| / 2 ^ 53) (s : Rat) (hs : s ≠ 0) (N : Int)
    (hN : N.natAbs ≤ 2 ^ 50) : roundHalfEven (f (f ((N : Rat) * s) / s)) = N := by
  have hA : |(N : Rat)| ≤ 2 ^ 50 := by
    rw [← Int.cast_abs, Int.abs_eq_natAbs]
    exact_mod_cast hN
  -- two roundings cost `2⁻⁵² + 2⁻¹⁰⁶ ≤ 1 / (3·2⁵⁰)` relative; with `|N| ≤ 2⁵⁰` that is `1/3 < 1/2` absolute
  have h := relerr_trans (a := 2 ^ 53) (b := 2 ^ 53) (c := 3 * 2 ^ 50) (by norm_num) le_rfl (relerr_div hs (hf _))
    (hf (f ((N : Rat) * s) / s)) (by norm_num)
  exact roundHalfEven_near_abs _ N
    (lt_of_le_of_lt (h.trans (div_le_div_of_nonneg_right hA (by norm_num))) (by norm_num))

end Pew
