import PewModel.RegisterFast
import PewProofs.Register
import PewProofs.Lists
import Mathlib.Tactic.FieldSimp
import Mathlib.Data.Nat.Cast.Field

/-! # C12 — the array twin (`PewModel.RegisterFast`)

Each axis of `linGo` / `circGo` is one axis of `lin` / `circ` in the explicit form `lin_cons` / `circ_cons`, read through
`getOff`; the scale factors come out by homogeneity (`lin_smul`, `circ_smul`). -/
namespace Pew.Register
open Finset

theorem sumLoop_go (f : Nat → Int) (k i : Nat) (acc : Int) :
    sumLoop.go f k i acc = acc + ∑ j ∈ range k, f (i + j) := by
  induction k generalizing i acc with
  | zero => simp [sumLoop.go]
  | succ k ih =>
    rw [sumLoop.go, ih, Finset.sum_range_succ']
    have : ∀ j, f (i + 1 + j) = f (i + (j + 1)) := fun j => by rw [Nat.add_assoc, Nat.add_comm 1 j]
    simp only [this, Nat.add_zero]
    ring

theorem sumLoop_eq (lo n : Nat) (f : Nat → Int) : sumLoop lo n f = ∑ j ∈ range n, f (lo + j) := by
  rw [sumLoop, sumLoop_go, zero_add]

theorem sumLoop_cast (lo n : Nat) (f : Nat → Int) :
    ((sumLoop lo n f : Int) : Rat) = ∑ j ∈ range n, ((f (lo + j) : Int) : Rat) := by
  rw [sumLoop_eq, Int.cast_sum]

theorem sumLoop_window (b lo hi : Nat) (hhi : hi ≤ b) (P : Nat → Prop) [DecidablePred P]
    (hP : ∀ n, n < b → (P n ↔ lo ≤ n ∧ n < hi)) (f : Nat → Int) (T : Nat → Rat)
    (hT : ∀ n, n < b → P n → ((f n : Int) : Rat) = T n) :
    ((sumLoop lo (hi - lo) f : Int) : Rat) = sumRange b (fun n => if P n then T n else 0) := by
  rw [sumLoop_cast, sumRange_eq, ← Finset.sum_filter]
  have hset : (range b).filter P = Ico lo hi := by
    ext n
    simp only [Finset.mem_filter, Finset.mem_range, Finset.mem_Ico]
    exact ⟨fun h => (hP n h.1).mp h.2, fun h => have hn := Nat.lt_of_lt_of_le h.2 hhi; ⟨hn, (hP n hn).mpr h⟩⟩
  rw [hset, Finset.sum_Ico_eq_sum_range]
  refine Finset.sum_congr rfl fun j hj => ?_
  have hj : lo + j < hi := by have := Finset.mem_range.mp hj; omega
  have hn := Nat.lt_of_lt_of_le hj hhi
  exact hT _ hn ((hP _ hn).mpr ⟨Nat.le_add_right _ _, hj⟩)

def getOff (shape : List Nat) (A : Array Int) (off : Nat) : List Nat → Int := fun idx =>
  match flatIndex shape idx with
  | some k => A.getD (off + k) 0
  | none => 0

theorem getOff_nil (A : Array Int) (off : Nat) : getOff [] A off [] = A.getD off 0 := by
  simp [getOff, flatIndex]

theorem getOff_cons (s : Nat) (ss : List Nat) (A : Array Int) (off i : Nat) (hi : i < s) (r : List Nat) :
    getOff (s :: ss) A off (i :: r) = getOff ss A (off + i * ss.foldl (· * ·) 1) r := by
  simp only [getOff, flatIndex, hi, if_true]
  cases flatIndex ss r with
  | none => rfl
  | some k => simp [Nat.add_assoc]

def axes : List Nat → List Nat → List (Nat × Nat × Nat × Nat)
  | a :: as, b :: bs => (a, b, as.foldl (· * ·) 1, bs.foldl (· * ·) 1) :: axes as bs
  | _, _ => []

theorem axesOf_eq (sa sb : List Nat) (da db : Array Int) (ca cb : Rat) :
    axesOf ⟨sa, stridesOf sa, da, ca⟩ ⟨sb, stridesOf sb, db, cb⟩ = axes sa sb := by
  induction sa generalizing sb with
  | nil => rfl
  | cons a as ih =>
    cases sb with
    | nil => rfl
    | cons b bs => exact congrArg (List.cons _) (ih bs)

theorem linGo_cons (A B : Array Int) (a b sa sb : Nat) (rest : List (Nat × Nat × Nat × Nat)) (l : Int)
    (ls : List Int) (ia ib : Nat) :
    linGo A B ((a, b, sa, sb) :: rest) (l :: ls) ia ib
      = sumLoop (-l).toNat (min b ((a : Int) - l).toNat - (-l).toNat)
          (fun n => linGo A B rest ls (ia + ((n : Int) + l).toNat * sa) (ib + n * sb)) := by
  cases rest with
  | nil => cases ls <;> rfl
  | cons _ _ => rfl

theorem linGo_eq (sa sb : List Nat) (h : sa.length = sb.length) (A B : Array Int) (l : List Int) (ia ib : Nat) :
    ((linGo A B (axes sa sb) l ia ib : Int) : Rat)
      = lin sb (zext sa (fun r => ((getOff sa A ia r : Int) : Rat))) (fun r => ((getOff sb B ib r : Int) : Rat)) l := by
  induction sa generalizing sb l ia ib with
  | nil =>
    cases sb with
    | nil => simp [axes, linGo, lin, zext, inBoxI, getOff_nil]
    | cons _ _ => simp at h
  | cons a as ih =>
    cases sb with
    | nil => simp at h
    | cons b bs =>
      cases l with
      | nil => simp only [axes, linGo, lin, Int.cast_zero]
      | cons l0 ls =>
        rw [lin_cons, axes, linGo_cons]
        -- the loop bounds `(-l0).toNat ≤ n < min b (a - l0).toNat` are the condition `0 ≤ n + l0 < a` of `lin_cons` on `n < b`
        refine sumLoop_window b _ _ (Nat.min_le_left _ _) _ (fun n hn => by rw [Int.toNat_le, Nat.lt_min, Int.lt_toNat]; omega) _ _ fun n hn hp => ?_
        rw [ih bs (by simpa using h)]
        congr 2 <;> funext r
        · rw [getOff_cons _ _ _ _ _ ((Int.toNat_lt hp.1).mpr hp.2)]
        · rw [getOff_cons _ _ _ _ _ hn]

theorem circGo_cons (A B : Array Int) (a b sa sb : Nat) (rest : List (Nat × Nat × Nat × Nat)) (k : Nat)
    (ks : List Nat) (ia ib : Nat) :
    circGo A B ((a, b, sa, sb) :: rest) (k :: ks) ia ib
      = sumLoop 0 b (fun n => if (n + k) % (a + b - 1) < a then
          circGo A B rest ks (ia + (n + k) % (a + b - 1) * sa) (ib + n * sb) else 0) := by
  cases rest with
  | nil => cases ks <;> rfl
  | cons _ _ => rfl

theorem circGo_eq (sa sb : List Nat) (h : sa.length = sb.length) (A B : Array Int) (k : List Nat) (ia ib : Nat) :
    ((circGo A B (axes sa sb) k ia ib : Int) : Rat)
      = circ (padShape sa sb) (padN sa (fun r => ((getOff sa A ia r : Int) : Rat)))
          (padN sb (fun r => ((getOff sb B ib r : Int) : Rat))) k := by
  induction sa generalizing sb k ia ib with
  | nil =>
    cases sb with
    | nil => simp [axes, circGo, circ, padShape, padN, inBox, getOff_nil]
    | cons _ _ => simp at h
  | cons a as ih =>
    cases sb with
    | nil => simp at h
    | cons b bs =>
      cases k with
      | nil => simp only [axes, circGo, padShape, circ, Int.cast_zero]
      | cons k0 ks =>
        rw [axes, circGo_cons, padShape, circ_cons, sumLoop_cast, sumRange_eq]
        refine Finset.sum_congr rfl fun n hn => ?_
        have hn : n < b := Finset.mem_range.mp hn
        rw [Nat.zero_add]
        split
        · rename_i hm
          rw [ih bs (by simpa using h)]
          congr 2 <;> funext r
          · rw [getOff_cons _ _ _ _ _ hm]
          · rw [getOff_cons _ _ _ _ _ hn]
        · exact Int.cast_zero

theorem lin_smul (bs : List Nat) (A : List Int → Rat) (B : List Nat → Rat) (c d : Rat) (l : List Int) :
    lin bs (fun r => A r * c) (fun r => B r * d) l = lin bs A B l * (c * d) := by
  induction bs generalizing A B l with
  | nil => simp only [lin]; ring
  | cons b bs ih =>
    cases l with
    | nil => simp [lin]
    | cons l0 ls =>
      simp only [lin, sumRange_eq, Finset.sum_mul]
      exact Finset.sum_congr rfl (fun n _ => ih _ _ _)

theorem zext_smul (sa : List Nat) (f : List Nat → Rat) (c : Rat) :
    zext sa (fun r => f r * c) = fun r => zext sa f r * c := by
  funext r
  simp only [zext]
  split <;> simp

theorem circ_smul (ss : List Nat) (A B : List Nat → Rat) (c d : Rat) (k : List Nat) :
    circ ss (fun r => A r * c) (fun r => B r * d) k = circ ss A B k * (c * d) := by
  induction ss generalizing A B k with
  | nil => simp only [circ]; ring
  | cons s ss ih =>
    cases k with
    | nil => simp [circ]
    | cons k0 ks =>
      simp only [circ, sumRange_eq, Finset.sum_mul]
      exact Finset.sum_congr rfl (fun n _ => ih _ _ _)

theorem padN_smul (sa : List Nat) (f : List Nat → Rat) (c : Rat) :
    padN sa (fun r => f r * c) = fun r => padN sa f r * c := by
  funext r
  simp only [padN]
  split <;> simp

theorem scale_arith (q : Rat) (D G : Nat) (hD : D ≠ 0) (hG : G ≠ 0) (hd : q.den ∣ D)
    (hg : (G : Int) ∣ q.num * ((D / q.den : Nat) : Int)) :
    (((q.num * ((D / q.den : Nat) : Int) / (G : Int) : Int)) : Rat) * mkRat G D = q := by
  have hG' : ((G : Int) : Rat) ≠ 0 := by exact_mod_cast hG
  have hD' : (D : Rat) ≠ 0 := by exact_mod_cast hD
  have hq : (q.den : Rat) ≠ 0 := by exact_mod_cast q.den_nz
  rw [Int.cast_div hg hG', Int.cast_mul, Int.cast_natCast, Nat.cast_div hd hq, Rat.mkRat_eq_div]
  field_simp
  rw [mul_comm]
  exact (Rat.mul_den_eq_num q).symm

theorem foldl_gcd_dvd (ints : List Int) (init : Nat) :
    ints.foldl (fun g v => Nat.gcd g v.natAbs) init ∣ init ∧
      ∀ v ∈ ints, ints.foldl (fun g v => Nat.gcd g v.natAbs) init ∣ v.natAbs := by
  induction ints generalizing init with
  | nil => simp
  | cons v vs ih =>
    obtain ⟨h1, h2⟩ := ih (Nat.gcd init v.natAbs)
    simp only [List.foldl_cons, List.mem_cons, forall_eq_or_imp]
    exact ⟨Nat.dvd_trans h1 (Nat.gcd_dvd_left _ _), Nat.dvd_trans h1 (Nat.gcd_dvd_right _ _), h2⟩

theorem toFImg_getD (sh : List Nat) (data : List Rat) (k : Nat) :
    (((toFImg sh data).data.getD k 0 : Int) : Rat) * (toFImg sh data).scale = data.toArray.getD k 0 := by
  simp only [toFImg]
  generalize hD : data.foldl (fun d q => Nat.lcm d q.den) 1 = D
  generalize hG0 : (data.map fun q => q.num * ((D / q.den : Nat) : Int)).foldl (fun g v => Nat.gcd g v.natAbs) 0 = G0
  have hDnz : D ≠ 0 := hD ▸ (Lists.foldl_lcm_pos Rat.den data 1 Nat.one_pos fun q _ => q.den_pos).ne'
  have hden : ∀ q ∈ data, q.den ∣ D := fun q hq => hD ▸ Lists.dvd_foldl_lcm_of_mem Rat.den data 1 hq
  have hgcd : ∀ v ∈ data.map (fun q => q.num * ((D / q.den : Nat) : Int)), G0 ∣ v.natAbs :=
    hG0 ▸ (foldl_gcd_dvd _ 0).2
  simp only [Array.getD_eq_getD_getElem?, List.getElem?_toArray, List.getElem?_map]
  cases hq : data[k]? with
  | none => simp
  | some q =>
    have hq : q ∈ data := List.mem_of_getElem? hq
    have hG : (if G0 = 0 then 1 else G0) ≠ 0 := by split <;> omega
    have hdv : (((if G0 = 0 then 1 else G0 : Nat) : Int)) ∣ q.num * ((D / q.den : Nat) : Int) := by
      split
      · simp
      · exact Int.natCast_dvd.mpr (hgcd _ (List.mem_map.mpr ⟨_, hq, rfl⟩))
    exact scale_arith q D _ hDnz hG (hden _ hq) hdv

theorem mkGet_eq (sh : List Nat) (data : List Rat) :
    mkGet sh data.toArray
      = fun r => ((getOff sh (toFImg sh data).data 0 r : Int) : Rat) * (toFImg sh data).scale := by
  funext r
  simp only [mkGet, getOff]
  cases flatIndex sh r with
  | none => simp
  | some k => simp only [Nat.zero_add, toFImg_getD]

theorem axesOf_toFImg (sa sb : List Nat) (da db : List Rat) :
    axesOf (toFImg sa da) (toFImg sb db) = axes sa sb := axesOf_eq sa sb _ _ _ _

end Pew.Register
