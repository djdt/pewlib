import PewProofs.CalibFit

/-! The mechanism's weights are the entry-by-entry ones (`weights_are_pointwise`) and the points are a `map` over the
usable rows (`specPts_eq_map`), so the fit depends on the table through its usable rows up to order
(`fit_of_usable_perm`). `NanInsert clean rows` gives `usableRows rows = clean` (`NanInsert.usable_eq`), which is how the
statements on the NaN-free table reach it. The `calibrate` theorems share one fact of ℚ (`div_eq_iff_line`); sessions
need only the append laws of their two folds (`run_append`, `finalState_append`). -/
namespace Pew.Calib

theorem minRat_eq_min? (l : List Rat) : minRat l = l.min? := by
  induction l with
  | nil => rfl
  | cons a l ih => rw [minRat, ih, List.min?_cons]; cases l.min? <;> rfl

theorem minRat_eq_none {l : List Rat} : minRat l = none ↔ l = [] := by rw [minRat_eq_min?, List.min?_eq_none_iff]

theorem minRat_perm {l₁ l₂ : List Rat} (h : l₁.Perm l₂) : minRat l₁ = minRat l₂ := by
  cases h₁ : minRat l₁ with
  | none => rw [minRat_eq_none.mp h₁] at h; rw [← h.nil_eq]; rfl
  | some m =>
    -- a least element is unique
    rw [minRat_eq_min?] at h₁ ⊢
    obtain ⟨hm, hle⟩ := List.min?_eq_some_iff.mp h₁
    exact (List.min?_eq_some_iff.mpr ⟨h.mem_iff.mp hm, fun a ha => hle a (h.mem_iff.mpr ha)⟩).symm

theorem nanmin_perm {l₁ l₂ : List V} (h : l₁.Perm l₂) : nanmin l₁ = nanmin l₂ :=
  minRat_perm (h.filterMap _)

theorem isZero_some (q : Rat) : isZero (some q) = decide (q = 0) := by
  rw [isZero, Option.some_beq_some, beq_eq_decide]

/-- the finite non-zero entries, as `np.nanmin(x[x != 0])` sees them -/
theorem mem_nonzeros {xs : List V} {q : Rat} :
    q ∈ (xs.filter (fun v => !isZero v)).filterMap id ↔ some q ∈ xs ∧ q ≠ 0 := by
  simp only [List.mem_filterMap, List.mem_filter, id]
  constructor
  · rintro ⟨_, ⟨h, hz⟩, rfl⟩
    exact ⟨h, by simpa [isZero_some] using hz⟩
  · exact fun ⟨h, hq⟩ => ⟨some q, ⟨h, by simpa [isZero_some] using hq⟩, rfl⟩

theorem nanmin_filter_eq_leastNonzero (xs : List V) :
    nanmin (xs.filter (fun v => !isZero v)) = leastNonzero xs := by
  induction xs with
  | nil => rfl
  | cons v l ih =>
    unfold nanmin at ih ⊢
    cases v with
    | none => exact ih
    | some q =>
      by_cases hq : q = 0
      · subst hq; exact ih
      · simp only [List.filter_cons, isZero_some, hq, decide_false, Bool.not_false, if_true, leastNonzero, if_false,
          List.filterMap_cons, id, minRat]
        rw [show minRat (List.filterMap (fun x => x) _) = _ from ih]
        cases leastNonzero l with
        | none => rfl
        | some b => simp only [min_def]

theorem leastNonzero_some (xs : List V) (m : Rat) (h : leastNonzero xs = some m) :
    some m ∈ xs ∧ m ≠ 0 ∧ ∀ q : Rat, some q ∈ xs → q ≠ 0 → m ≤ q := by
  rw [← nanmin_filter_eq_leastNonzero, nanmin, minRat_eq_min?] at h
  obtain ⟨hm, hle⟩ := List.min?_eq_some_iff.mp h
  rw [mem_nonzeros] at hm
  exact ⟨hm.1, hm.2, fun q hq hq0 => hle q (mem_nonzeros.mpr ⟨hq, hq0⟩)⟩

theorem leastNonzero_none_iff (xs : List V) : leastNonzero xs = none ↔ ¬ ∃ q : Rat, some q ∈ xs ∧ q ≠ 0 := by
  rw [← nanmin_filter_eq_leastNonzero, nanmin, minRat_eq_none, List.eq_nil_iff_forall_not_mem]
  simp only [mem_nonzeros, not_exists]

theorem leastNonzero_isSome {xs : List V} (h : ∃ q : Rat, some q ∈ xs ∧ q ≠ 0) : ∃ m, leastNonzero xs = some m :=
  Option.ne_none_iff_exists'.mp (mt (leastNonzero_none_iff xs).mp (not_not.mpr h))

theorem hasNonzero_iff {xs : List V} : hasNonzero xs = true ↔ ∃ q : Rat, some q ∈ xs ∧ q ≠ 0 := by
  rw [hasNonzero, List.any_eq_true]
  constructor
  · rintro ⟨v, hv, hp⟩
    cases v with
    | none => exact nomatch hp
    | some q => exact ⟨q, hv, of_decide_eq_true hp⟩
  · exact fun ⟨q, hq, h⟩ => ⟨some q, hq, decide_eq_true h⟩

theorem leastNonzero_perm {xs ys : List V} (h : xs.Perm ys) : leastNonzero xs = leastNonzero ys := by
  -- the one-pass fold is not visibly order-free; a minimum is, and that is proved on the mechanism's side
  rw [← nanmin_filter_eq_leastNonzero, nanmin_perm (h.filter _), nanmin_filter_eq_leastNonzero]

theorem applyKind_some (k : Kind) {q : Rat} (hq : q ≠ 0) : applyKind k (some q) = some (wFun k q) := by
  cases k
  exacts [rfl, rfl, if_neg hq, if_neg (mul_self_ne_zero.mpr hq)]

theorem applyKind_none {k : Kind} (hk : k ≠ .equal) : applyKind k none = none := by
  cases k
  exacts [absurd rfl hk, rfl, rfl, rfl]

theorem wFun_pos (k : Kind) {q : Rat} (hq : 0 < q) : 0 < wFun k q := by
  cases k
  exacts [one_pos, hq, one_div_pos.mpr hq, one_div_pos.mpr (mul_pos hq hq)]

/-- the last branch of `weights_from_weighting` on one entry is the last branch of `specWeight`, spelled as it stands
there (from `if k = .equal` on), which leaves `weights_are_pointwise` the two outer `if`s to match -/
theorem applyKind_replaced (xs : List V) (k : Kind) (v : V) :
    applyKind k (if isZero v then nanmin (xs.filter (fun v => !isZero v)) else v) =
      if k = .equal then some 1 else
        match v with
        | none => none
        | some q => if q ≠ 0 then some (wFun k q) else (leastNonzero xs).map (wFun k) := by
  by_cases hk : k = .equal
  · subst hk; rfl
  rw [if_neg hk, nanmin_filter_eq_leastNonzero]
  cases v with
  | none => exact applyKind_none hk
  | some q =>
    rw [isZero_some]
    by_cases hq : q = 0
    · simp only [hq, decide_true, if_true, ne_eq, not_true_eq_false, if_false]
      cases hl : leastNonzero xs with
      | none => exact applyKind_none hk
      | some m => exact applyKind_some k (leastNonzero_some xs m hl).2.1
    · simp only [hq, decide_false, Bool.false_eq_true, if_false, ne_eq, not_false_eq_true, if_true]
      exact applyKind_some k hq

/-- `weights_from_weighting` (masks, `nanmin`, replacement, then the formula on the whole array) is the
entry-by-entry specification: NaN everywhere for an all-NaN array, 1 everywhere for an all-zero array and
for `Equal`; otherwise NaN stays NaN, a non-zero value `q` gets `w(q)`, and a zero gets `w(m)` for the
smallest non-zero finite entry `m` — NaN if there is no such entry. -/
theorem weights_are_pointwise (xs : List V) (k : Kind) : weightsFromWeighting xs k = specWeights xs k := by
  unfold weightsFromWeighting specWeights
  cases xs with
  | nil => rfl
  | cons a l =>
    rw [List.isEmpty_cons, if_neg Bool.false_ne_true]
    split
    · next h => exact List.map_congr_left fun v _ => (if_pos h).symm
    · next h =>
      split
      · next h2 => exact List.map_congr_left fun v _ => ((if_neg h).trans (if_pos h2)).symm
      · next h2 =>
        rw [replaceZeros, List.map_map]
        exact List.map_congr_left fun v _ =>
          (applyKind_replaced _ k v).trans ((if_neg h).trans (if_neg h2)).symm

theorem specWeight_perm {xs ys : List V} (h : xs.Perm ys) (k : Kind) : specWeight xs k = specWeight ys k := by
  funext v
  unfold specWeight
  rw [h.all_eq, h.all_eq, leastNonzero_perm h]

theorem specWeight_some {xs : List V} {m : Rat} (hm : leastNonzero xs = some m) (k : Kind) (q : Rat) :
    specWeight xs k (some q) = some (wFun k (if q = 0 then m else q)) := by
  obtain ⟨hmem, hm0, -⟩ := leastNonzero_some xs m hm
  have h1 : xs.all (·.isNone) = false := List.all_eq_false.mpr ⟨some m, hmem, Bool.false_ne_true⟩
  have h2 : xs.all (fun u => u == some 0) = false :=
    List.all_eq_false.mpr ⟨some m, hmem, by simpa using hm0⟩
  unfold specWeight
  rw [h1, h2, hm]
  by_cases hk : k = .equal
  · subst hk; rfl
  · by_cases hq : q = 0 <;> simp [hk, hq]

theorem replaced_pos {xs : List V} {m : Rat} (hm : leastNonzero xs = some m) (hnn : ∀ a : Rat, some a ∈ xs → 0 ≤ a)
    {q : Rat} (hq : some q ∈ xs) : 0 < (if q = 0 then m else q) := by
  obtain ⟨hmem, hm0, -⟩ := leastNonzero_some xs m hm
  split
  · exact lt_of_le_of_ne (hnn m hmem) hm0.symm
  · exact lt_of_le_of_ne (hnn q hq) (Ne.symm ‹_›)

theorem length_ge_two_of_ne {α} {l : List α} {p q : α} (hp : p ∈ l) (hq : q ∈ l) (hne : p ≠ q) : 2 ≤ l.length := by
  match l, hp, hq with
  | [a], hp, hq => exact absurd ((List.mem_singleton.mp hp).trans (List.mem_singleton.mp hq).symm) hne
  | _ :: _ :: _, _, _ => exact Nat.le_add_left _ _

theorem fitPts_eq_specPts (wt : Weighting) (rows : List Row) : fitPts wt rows = specPts wt (usableRows rows) := by
  unfold fitPts specPts fitWeights weights
  cases wt with
  | builtin b => simp only [weights_are_pointwise]
  | custom => rfl

/-- the point of row `r` of the table `us`: `us` enters only through `specWeight` of its weighting column, which does
not depend on the order of the column (`specWeight_perm`) -/
def ptOf (wt : Weighting) (us : List Row) (r : Row) : Pt :=
  { x := r.x.getD 0, y := r.y.getD 0,
    w := match wt with
      | .builtin b =>
        (specWeight (us.map (fun r => if b.onY then r.y else r.x)) b.kind (if b.onY then r.y else r.x)).getD 0
      | .custom => r.cw.getD 0 }

theorem specPts_eq_map (wt : Weighting) (us : List Row) : specPts wt us = us.map (ptOf wt us) := by
  unfold specPts mkPts
  cases wt with
  | builtin b => simp only [specWeights, List.map_map, List.zipWith_map_right, List.zipWith_self]; rfl
  | custom => simp only [List.zipWith_map_right, List.zipWith_self]; rfl

theorem specPts_length (wt : Weighting) (us : List Row) : (specPts wt us).length = us.length := by
  rw [specPts_eq_map, List.length_map]

theorem specPts_perm (wt : Weighting) {us vs : List Row} (h : us.Perm vs) : (specPts wt us).Perm (specPts wt vs) := by
  have : ptOf wt us = ptOf wt vs := by
    funext r
    cases wt with
    | builtin b => simp only [ptOf, specWeight_perm (h.map _)]
    | custom => rfl
  rw [specPts_eq_map, specPts_eq_map, this]
  exact h.map _

theorem weightedLinreg_perm {l₁ l₂ : List Pt} (h : l₁.Perm l₂) :
    weightedLinreg l₁ = weightedLinreg l₂ := by
  have hS : ∀ f, S f l₁ = S f l₂ := fun f => S_perm f h
  -- every attribute is a function of the sums `S f l` and of `l.length`
  unfold weightedLinreg rsqMech err2 intercept gradient N D Sw Sww Swx Swy Swxx Swxy
  simp only [hS, h.length_eq]

theorem updateLinreg_eq (wt : Weighting) (rows : List Row) :
    updateLinreg wt rows =
      if (usableRows rows).length < 2 then identityFit else weightedLinreg (specPts wt (usableRows rows)) := by
  rw [← fitPts_eq_specPts]
  cases rows with
  | nil => rfl
  | cons a r => rfl

/-- the invariance theorems of C06 are instances -/
theorem fit_of_usable_perm (wt : Weighting) {r₁ r₂ : List Row} (h : (usableRows r₁).Perm (usableRows r₂)) :
    updateLinreg wt r₁ = updateLinreg wt r₂ := by
  rw [updateLinreg_eq, updateLinreg_eq, h.length_eq, weightedLinreg_perm (specPts_perm wt h)]

theorem Row.not_usable {n : Row} (hn : n.x = none ∨ n.y = none) : ¬ n.usable = true := by
  rw [Row.usable, Bool.and_eq_true]
  rintro ⟨hx, hy⟩
  rcases hn with h | h
  · rw [h] at hx; exact nomatch hx
  · rw [h] at hy; exact nomatch hy

theorem NanInsert.usable_eq {clean rows : List Row} (h : NanInsert clean rows) : usableRows rows = clean := by
  induction h with
  | nil => rfl
  | keep r hx hy _ ih =>
    rw [usableRows, List.filter_cons_of_pos (by rw [Row.usable, hx, hy]; rfl)]
    exact congrArg _ ih
  | nan n hn _ ih =>
    rw [usableRows, List.filter_cons_of_neg (Row.not_usable hn)]
    exact ih

theorem usableRows_idem (rows : List Row) : usableRows (usableRows rows) = usableRows rows := by
  simp only [usableRows, List.filter_filter, Bool.and_self]

theorem NanInsert.clean_usable {clean rows : List Row} (h : NanInsert clean rows) : usableRows clean = clean := by
  rw [← h.usable_eq, usableRows_idem]

theorem NanInsert.refl_of_usable : ∀ (clean : List Row), (∀ r ∈ clean, r.x.isSome = true ∧ r.y.isSome = true) →
    NanInsert clean clean
  | [], _ => .nil
  | r :: l, h => .keep r (h r List.mem_cons_self).1 (h r List.mem_cons_self).2
      (NanInsert.refl_of_usable l (fun q hq => h q (List.mem_cons_of_mem _ hq)))

theorem div_eq_iff_line {g : Rat} (hg : g ≠ 0) (c r x : Rat) : (r - c) / g = x ↔ g * x + c = r := by
  rw [div_eq_iff hg, sub_eq_iff_eq_add, mul_comm, eq_comm]

theorem finalState_append (o : Fit) (a b : List Step) :
    finalState o (a ++ b) = finalState (finalState o a) b := by
  induction a generalizing o with
  | nil => rfl
  | cons s l ih => exact ih _

theorem run_append (o : Fit) (a b : List Step) :
    run o (a ++ b) = run o a ++ run (finalState o a) b := by
  induction a generalizing o with
  | nil => rfl
  | cons s l ih =>
    simp only [List.cons_append, run, finalState]
    cases (step o s).2 <;> simp only [ih, List.cons_append]

end Pew.Calib
