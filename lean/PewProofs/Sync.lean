import PewModel.Sync
import PewProofs.SyncList
import PewProofs.Rounding
import Mathlib.Tactic.FieldSimp

/-! # C08 — what `sync` does, step by step, as membership statements about what each step writes; the bridge from the
`do` block to those steps; the sample times enter through `shiftTimes` only, the log's times through differences -/
namespace Pew.Sync

theorem roundHalfEven_eq : roundHalfEven = _root_.Pew.roundHalfEven := rfl

theorem truncR_int (z : Int) : truncR (z : Rat) = z := by
  unfold truncR
  by_cases h : 0 ≤ (z : Rat)
  · rw [if_pos h]; exact floor_eq_of_bounds _ _ le_rfl (by linarith)
  · rw [if_neg h]
    have : (-(z : Rat)).floor = -z := floor_eq_of_bounds _ _ (by push_cast; exact le_rfl) (by push_cast; linarith)
    rw [this]; omega

/-- The repaired conversion `np.round(q, 6).astype(int)` returns the pixel `j` for every value
within 5e-7 of `j` — in particular for the float quotient of four-decimal coordinates, which is
within 1e-9 of the exact integer quotient. -/
theorem pixel_index_robust (j : Nat) (δ : Rat) (h1 : -(5 / 10000000) < δ) (h2 : δ < 5 / 10000000) :
    pixIdx ((j : Rat) + δ) = (j : Int) := by
  unfold pixIdx round6
  rw [roundHalfEven_eq, round6_near _ (j : Int) (by rw [Int.cast_natCast, add_sub_cancel_left]; exact abs_lt.mpr ⟨h1, h2⟩),
    truncR_int]

/-- A coordinate that lies `j` spot sizes above the origin (both with four decimals, spot size
`u`·1e-4 µm > 0) is pixel `j`, also when the quotient is perturbed by less than 5e-7. -/
theorem pixel_of_aligned (o : Int) (u j : Nat) (hu : 0 < u) (δ : Rat)
    (h1 : -(5 / 10000000) < δ) (h2 : δ < 5 / 10000000) :
    pixIdx (quot o ((u : Rat) / 10000) (o + (j * u : Nat)) + δ) = (j : Int) := by
  have hq : quot o ((u : Rat) / 10000) (o + (j * u : Nat)) = (j : Rat) := by
    unfold quot
    have : ((o + ((j * u : Nat) : Int) - o : Int) : Rat) = (j : Rat) * (u : Rat) := by push_cast; ring
    rw [this]; field_simp
  rw [hq]; exact pixel_index_robust j δ h1 h2

theorem cells_getElem? (lo : Int) (L j : Nat) (c : Int) :
    ((List.range L).map (fun (i : Nat) => lo + (i : Int)))[j]? = some c ↔ j < L ∧ c = lo + (j : Int) := by
  rw [List.getElem?_map]
  by_cases h : j < L
  · rw [List.getElem?_range h, Option.map_some, Option.some.injEq]
    exact ⟨fun e => ⟨h, e.symm⟩, fun e => e.2.symm⟩
  · rw [List.getElem?_eq_none (by rw [List.length_range]; omega)]
    exact ⟨fun e => (nomatch e), fun e => absurd e.1 h⟩

theorem cells_nodup (lo : Int) (L : Nat) : ((List.range L).map (fun (i : Nat) => lo + (i : Int))).Nodup := by
  unfold List.Nodup
  rw [List.pairwise_map]
  exact (List.nodup_range (n := L)).imp (fun h => by intro h'; omega)

theorem mem_place1 {α} (lo hi : Int) (hle : lo ≤ hi) (flip : Bool) (xs : List α) (c : Int) (v : α) :
    (c, v) ∈ place1 lo hi flip xs ↔
      ∃ k : Nat, k < min xs.length (hi - lo).toNat ∧
        c = travelCell lo hi flip ((hi - lo).toNat - 1 - k) ∧ xs[xs.length - 1 - k]? = some v := by
  simp only [place1, travelCell]
  generalize hL : (hi - lo).toNat = L
  obtain rfl : hi = lo + (L : Int) := by omega
  clear hL hle
  generalize hn : min xs.length L = n
  have hn1 : n ≤ xs.length := by omega
  have hn2 : n ≤ L := by omega
  clear hn
  cases flip with
  | true =>
    -- pixel `lo + i` gets the `i`-th sample from the end
    simp only [if_true, mem_zip_iff_getElem?, List.getElem?_take]
    refine exists_congr fun i => ?_
    by_cases hi : i < n
    · rw [if_pos hi, if_pos hi, cells_getElem?, List.getElem?_reverse (by omega)]
      exact ⟨fun ⟨⟨_, hc⟩, hv⟩ => ⟨hi, by omega, hv⟩, fun ⟨_, hc, hv⟩ => ⟨⟨by omega, by omega⟩, hv⟩⟩
    · rw [if_neg hi]
      exact ⟨fun h => (nomatch h.1), fun h => absurd h.1 hi⟩
  | false =>
    simp only [Bool.false_eq_true, if_false]
    by_cases h0 : n = 0
    · rw [if_pos h0]; exact ⟨fun h => (nomatch h), fun ⟨k, hk, _⟩ => by omega⟩
    · -- the last `n` pixels get the last `n` samples, in order
      rw [if_neg h0, mem_zip_iff_getElem?]
      unfold lastN
      simp only [List.length_map, List.length_range, List.getElem?_drop, cells_getElem?]
      constructor
      · rintro ⟨i, ⟨hiL, hc⟩, hv⟩
        refine ⟨n - 1 - i, by omega, by omega, ?_⟩
        rw [← hv]; congr 1
        have : xs.length - n + i < xs.length := (List.getElem?_eq_some_iff.mp hv).1
        omega
      · rintro ⟨k, hk, hc, hv⟩
        refine ⟨n - 1 - k, ⟨by omega, by omega⟩, ?_⟩
        rw [← hv]; congr 1; omega

/-- pixel under the laser at step `j` of a line from pixel `a` to pixel `b` along one axis; `Seg.cellAt` writes this
expression out once per axis -/
def travel (a b : Int) (j : Nat) : Int := if a ≤ b then a + (j : Int) else a - 1 - (j : Int)

theorem cellAt_eq (g : Seg) (j : Nat) :
    g.cellAt j = if g.y0 = g.y1 then (g.y0, travel g.x0 g.x1 j) else (travel g.y0 g.y1 j, g.x0) := rfl

theorem travel_inj {a b : Int} {i j : Nat} (h : travel a b i = travel a b j) : i = j := by
  unfold travel at h; split at h <;> omega

theorem travel_mem {a b : Int} {j : Nat} (hj : j < (b - a).natAbs) :
    min a b ≤ travel a b j ∧ travel a b j < max a b := by
  unfold travel; split <;> omega

theorem travelCell_ends (a b : Int) (j : Nat) :
    travelCell (min a b) (max a b) (decide (b < a)) j = travel a b j := by
  unfold travelCell travel
  by_cases h : a ≤ b
  · rw [if_pos h, decide_eq_false (by omega), if_neg (by simp), min_eq_left h]
  · rw [if_neg h, decide_eq_true (by omega), if_pos rfl, max_eq_left (by omega)]

theorem cellAt_inj (g : Seg) (a b : Nat) (h : g.cellAt a = g.cellAt b) : a = b := by
  rw [cellAt_eq, cellAt_eq] at h
  split at h
  · exact travel_inj (Prod.mk.inj h).2
  · exact travel_inj (Prod.mk.inj h).1

/-- one statement for both axes: the other coordinate is supplied by `f` -/
theorem mem_map_place1 {α} (f : Int → Int × Int) (a b : Int) (xs : List α) (p : Int × Int) (v : α) :
    (p, v) ∈ (place1 (min a b) (max a b) (decide (b < a)) xs).map (fun e => (f e.1, e.2)) ↔
      ∃ k : Nat, k < min xs.length (b - a).natAbs ∧ p = f (travel a b ((b - a).natAbs - 1 - k)) ∧
        xs[xs.length - 1 - k]? = some v := by
  have hL : (max a b - min a b).toNat = (b - a).natAbs := by omega
  simp only [List.mem_map, Prod.mk.injEq, Prod.exists]
  constructor
  · rintro ⟨c, v', hm, rfl, rfl⟩
    obtain ⟨k, hk, rfl, hv⟩ := (mem_place1 _ _ (by omega) _ xs c v').mp hm
    rw [hL] at hk; rw [hL, travelCell_ends]; exact ⟨k, hk, rfl, hv⟩
  · rintro ⟨k, hk, rfl, hv⟩
    refine ⟨_, v, (mem_place1 _ _ (by omega) _ xs _ v).mpr ⟨k, by rw [hL]; exact hk, rfl, hv⟩, ?_, rfl⟩
    rw [hL, travelCell_ends]

/-- For each of the four directions of travel (left-to-right, right-to-left, top-to-bottom,
bottom-to-top; a zero-length segment writes nothing): with `L = g.len` pixels and `n` samples the
last `min n L` samples land on the last `min n L` pixels of travel, in travel order, and nothing
else is written. -/
theorem line_placement {α} (xs : List α) (g : Seg) (hax : g.y0 = g.y1 ∨ g.x0 = g.x1) :
    ∃ w, segWrites xs g = some w ∧
      ∀ (p : Int × Int) (v : α), (p, v) ∈ w ↔
        ∃ k : Nat, k < min xs.length g.len ∧ p = g.cellAt (g.len - 1 - k) ∧ xs[xs.length - 1 - k]? = some v := by
  unfold segWrites Seg.len Seg.cellAt
  by_cases hy : g.y0 = g.y1
  · simp only [if_pos hy]
    exact ⟨_, rfl, mem_map_place1 (fun c => (g.y0, c)) g.x0 g.x1 xs⟩
  · simp only [if_neg hy, if_pos (hax.resolve_left hy)]
    exact ⟨_, rfl, mem_map_place1 (fun r => (r, g.x0)) g.y0 g.y1 xs⟩

/-- `line_placement` with step and sample counted from the start, so that end alignment is the subtraction-free
`j + xs.length = m + g.len`; the form the later proofs take it in -/
theorem mem_segWrites {α} (xs : List α) (g : Seg) (hax : g.y0 = g.y1 ∨ g.x0 = g.x1) :
    ∃ w, segWrites xs g = some w ∧
      ∀ (p : Int × Int) (v : α), (p, v) ∈ w ↔
        ∃ j m : Nat, j < g.len ∧ j + xs.length = m + g.len ∧ xs[m]? = some v ∧ p = g.cellAt j := by
  obtain ⟨w, hw, hmem⟩ := line_placement xs g hax
  refine ⟨w, hw, fun p v => ?_⟩
  rw [hmem]
  constructor
  · rintro ⟨k, hk, hp, hv⟩
    exact ⟨g.len - 1 - k, xs.length - 1 - k, by omega, by omega, hv, hp⟩
  · rintro ⟨j, m, hj, hjm, hv, hp⟩
    refine ⟨g.len - 1 - j, by omega, by rw [hp]; congr 1; omega, ?_⟩
    rw [← hv]; congr 1; omega

theorem segWrites_axis {α} (xs : List α) (g : Seg) (w : List ((Int × Int) × α)) (h : segWrites xs g = some w) :
    g.y0 = g.y1 ∨ g.x0 = g.x1 := by
  by_contra hax
  rw [not_or] at hax
  rw [segWrites, if_neg hax.1, if_neg hax.2] at h
  cases h

theorem pySlice_range (n i j : Nat) : pySlice (List.range n) i j = List.range' i (min j n - i) := by
  unfold pySlice
  rw [List.range_eq_range', List.drop_range']
  rcases Nat.le_total (n - i) (j - i) with h | h
  · rw [List.take_range'_of_length_le h]; congr 1 <;> omega
  · rw [List.take_range'_of_length_ge h]; congr 1 <;> omega

theorem mem_pySlice_range (n i j k : Nat) : k ∈ pySlice (List.range n) i j ↔ i ≤ k ∧ k < j ∧ k < n := by
  rw [pySlice_range, List.mem_range'_1]; omega

/-- sample `v` of the range `[t0, t1)` lands on travel step `j`: the range is aligned with the end of the line -/
def Seg.puts (g : Seg) (j v : Nat) : Prop := j < g.len ∧ g.t0 ≤ v ∧ v < g.t1 ∧ j + g.t1 = v + g.len

theorem segWrites_range (n : Nat) (g : Seg) (hax : g.y0 = g.y1 ∨ g.x0 = g.x1) (h1n : g.t1 ≤ n) :
    ∃ w, segWrites (pySlice (List.range n) g.t0 g.t1) g = some w ∧
      ∀ (p : Int × Int) (v : Nat), (p, v) ∈ w ↔ ∃ j : Nat, g.puts j v ∧ p = g.cellAt j := by
  obtain ⟨w, hw, hmem⟩ := mem_segWrites (pySlice (List.range n) g.t0 g.t1) g hax
  refine ⟨w, hw, fun p v => ?_⟩
  rw [hmem, pySlice_range, Nat.min_eq_left h1n, List.length_range']
  constructor
  · rintro ⟨j, m, hj, hjm, hv, hp⟩
    have hm := (List.getElem?_eq_some_iff.mp hv).1
    rw [List.length_range'] at hm
    rw [List.getElem?_range' hm, Option.some.injEq] at hv
    exact ⟨j, ⟨hj, by omega, by omega, by omega⟩, hp⟩
  · rintro ⟨j, ⟨hj, h0, h1, hjv⟩, hp⟩
    exact ⟨j, v - g.t0, hj, by omega, by rw [List.getElem?_range' (by omega)]; congr 1; omega, hp⟩

theorem allWrites_cons_eq_some (n : Nat) (g : Seg) (gs : List Seg) (w : List ((Int × Int) × Nat)) :
    allWrites n (g :: gs) = some w ↔ ∃ w1 w2, segWrites (pySlice (List.range n) g.t0 g.t1) g = some w1 ∧
      allWrites n gs = some w2 ∧ w = w1 ++ w2 := by
  simp only [allWrites, Option.bind_eq_bind, Option.bind_eq_some_iff, Option.pure_def, Option.some.injEq]
  exact ⟨fun ⟨w1, h1, w2, h2, e⟩ => ⟨w1, w2, h1, h2, e.symm⟩, fun ⟨w1, w2, h1, h2, e⟩ => ⟨w1, h1, w2, h2, e.symm⟩⟩

theorem allWrites_spec (n : Nat) (segs : List Seg)
    (hax : ∀ g ∈ segs, (g.y0 = g.y1 ∨ g.x0 = g.x1) ∧ g.t1 ≤ n) :
    ∃ w, allWrites n segs = some w ∧
      ∀ (p : Int × Int) (v : Nat), (p, v) ∈ w ↔ ∃ g ∈ segs, ∃ j : Nat, g.puts j v ∧ p = g.cellAt j := by
  induction segs with
  | nil => exact ⟨[], rfl, by simp⟩
  | cons g gs ih =>
    obtain ⟨ws, hws, hmem⟩ := ih (fun g' hg' => hax g' (by simp [hg']))
    obtain ⟨h1, h2⟩ := hax g (by simp)
    obtain ⟨wg, hwg, hg⟩ := segWrites_range n g h1 h2
    refine ⟨wg ++ ws, (allWrites_cons_eq_some n g gs _).mpr ⟨wg, ws, hwg, hws, rfl⟩, ?_⟩
    intro p v
    rw [List.mem_append, hg, hmem]
    simp only [List.mem_cons, exists_eq_or_imp]

theorem segWrites_values {α} (xs : List α) (g : Seg) (w : List ((Int × Int) × α))
    (h : segWrites xs g = some w) (e : (Int × Int) × α) (he : e ∈ w) : e.2 ∈ xs := by
  obtain ⟨w', hw', hmem⟩ := mem_segWrites xs g (segWrites_axis xs g w h)
  rw [h, Option.some.injEq] at hw'
  subst hw'
  obtain ⟨_, _, _, _, hv, _⟩ := (hmem e.1 e.2).mp he
  exact List.mem_of_getElem? hv

theorem allWrites_values (n : Nat) (segs : List Seg) (w : List ((Int × Int) × Nat))
    (h : allWrites n segs = some w) (e : (Int × Int) × Nat) (he : e ∈ w) :
    ∃ g ∈ segs, e.2 ∈ pySlice (List.range n) g.t0 g.t1 := by
  induction segs generalizing w with
  | nil => cases h; cases he
  | cons g gs ih =>
    obtain ⟨w1, w2, h1, h2, rfl⟩ := (allWrites_cons_eq_some n g gs w).mp h
    rcases List.mem_append.mp he with h' | h'
    · exact ⟨g, List.mem_cons_self, segWrites_values _ _ _ h1 e h'⟩
    · obtain ⟨g', hg', hv⟩ := ih w2 h2 h'
      exact ⟨g', List.mem_cons_of_mem _ hg', hv⟩

theorem lookupLast_mem {α} (w : List ((Int × Int) × α)) (p : Int × Int) (v : α)
    (h : lookupLast w p = some v) : (p, v) ∈ w := by
  unfold lookupLast at h
  cases hf : w.reverse.find? (fun e => e.1 == p) with
  | none => simp [hf] at h
  | some e =>
    simp [hf] at h
    have hm := List.mem_of_find?_eq_some hf
    have hp := List.find?_some hf
    simp at hp
    rw [← h, ← hp]
    exact List.mem_reverse.mp hm

theorem lookupLast_none_iff {α} (w : List ((Int × Int) × α)) (p : Int × Int) :
    lookupLast w p = none ↔ ∀ e ∈ w, e.1 ≠ p := by
  unfold lookupLast
  simp only [Option.map_eq_none_iff, List.find?_eq_none, List.mem_reverse]
  constructor
  · intro h e he; have := h e he; simpa using this
  · intro h e he; have := h e he; simpa using this

theorem lookupLast_of_mem {α} (w : List ((Int × Int) × α)) (p : Int × Int) (v : α) (h : (p, v) ∈ w)
    (huniq : ∀ v', (p, v') ∈ w → v' = v) : lookupLast w p = some v := by
  cases hl : lookupLast w p with
  | none => exact absurd rfl ((lookupLast_none_iff w p).mp hl (p, v) h)
  | some v' => rw [huniq v' (lookupLast_mem w p v' hl)]

theorem lookupLast_allWrites (n : Nat) (segs : List Seg)
    (hax : ∀ g ∈ segs, (g.y0 = g.y1 ∨ g.x0 = g.x1) ∧ g.t1 ≤ n)
    (hdisj : segs.Pairwise (fun g h => ∀ a b, a < g.len → b < h.len → g.cellAt a ≠ h.cellAt b)) :
    ∃ w, allWrites n segs = some w ∧
      (∀ g ∈ segs, ∀ j v, g.puts j v → lookupLast w (g.cellAt j) = some v) ∧
      (∀ p, (∀ g ∈ segs, ∀ j v, g.puts j v → p ≠ g.cellAt j) → lookupLast w p = none) := by
  obtain ⟨w, hw, hmem⟩ := allWrites_spec n segs hax
  refine ⟨w, hw, fun g hg j v hput => ?_, fun p hp => ?_⟩
  · refine lookupLast_of_mem w _ _ ((hmem _ _).mpr ⟨g, hg, j, hput, rfl⟩) ?_
    -- another write to the pixel comes from the same line (the lines are disjoint), hence from the same step
    rintro v' hv'
    obtain ⟨g', hg', j', hput', hc⟩ := (hmem _ _).mp hv'
    by_cases hgg : g = g'
    · subst hgg
      have := cellAt_inj g _ _ hc
      have := hput.2.2.2; have := hput'.2.2.2
      omega
    · exact absurd hc
        (pairwise_forall_ne (fun _ _ h a b ha hb e => h b a hb ha e.symm) hdisj g hg g' hg' hgg j j' hput.1 hput'.1)
  · rw [lookupLast_none_iff]
    rintro ⟨p', v⟩ he rfl
    obtain ⟨g, hg, j, hput, hc⟩ := (hmem _ _).mp he
    exact hp g hg j v hput hc

theorem minList_eq_iff (l : List Int) (hl : l ≠ []) (m : Int) : minList l = m ↔ m ∈ l ∧ ∀ y ∈ l, m ≤ y := by
  cases l with
  | nil => exact absurd rfl hl
  | cons x xs => rw [← List.min?_eq_some_iff, List.min?_cons', Option.some.injEq]; rfl

theorem minList_le (l : List Int) (x : Int) (hx : x ∈ l) : minList l ≤ x :=
  ((minList_eq_iff l (List.ne_nil_of_mem hx) _).mp rfl).2 x hx

theorem minList_mem (l : List Int) (hne : l ≠ []) : minList l ∈ l := ((minList_eq_iff l hne _).mp rfl).1

theorem minList_eq_of (l : List Int) (m : Int) (hm : m ∈ l) (hle : ∀ x ∈ l, m ≤ x) : minList l = m :=
  (minList_eq_iff l (List.ne_nil_of_mem hm) m).mpr ⟨hm, hle⟩

theorem le_maxList (l : List Int) (x : Int) (hx : x ∈ l) : x ≤ maxList l := by
  cases l with
  | nil => simp at hx
  | cons a as => exact (List.max?_eq_some_iff.mp (List.max?_cons' (x := a) (xs := as))).2 x hx

theorem searchsorted_cons (x : Rat) (xs : List Rat) (v : Rat) :
    searchsorted (x :: xs) v = (if x < v then 1 else 0) + searchsorted xs v := by
  unfold searchsorted
  by_cases h : x < v
  · simp [h]; omega
  · simp [h]

theorem searchsorted_zero_of_le (xs : List Rat) (v : Rat) (h : ∀ t ∈ xs, v ≤ t) : searchsorted xs v = 0 := by
  unfold searchsorted
  rw [List.length_eq_zero_iff, List.filter_eq_nil_iff]
  intro t ht
  have := h t ht
  simp only [decide_eq_true_eq]
  exact not_lt.mpr this

theorem lt_searchsorted_iff (l : List Rat) (hs : l.Pairwise (· ≤ ·)) (v : Rat) (k : Nat) (t : Rat)
    (hk : l[k]? = some t) : k < searchsorted l v ↔ t < v := by
  induction l generalizing k with
  | nil => simp at hk
  | cons x xs ih =>
    rw [searchsorted_cons]
    rw [List.pairwise_cons] at hs
    by_cases hx : x < v
    · rw [if_pos hx]
      cases k with
      | zero => simp at hk; subst hk; simp [hx]
      | succ k =>
        rw [← ih hs.2 k hk]; omega
    · rw [if_neg hx]
      have hz : searchsorted xs v = 0 :=
        searchsorted_zero_of_le xs v (fun t ht => le_trans (not_lt.mp hx) (hs.1 t ht))
      rw [hz]
      cases k with
      | zero => simp at hk; subst hk; simp [hx]
      | succ k =>
        have : t ∈ xs := List.mem_of_getElem? hk
        have := hs.1 t this
        simp; linarith [not_lt.mp hx]

theorem searchsorted_le_length (l : List Rat) (v : Rat) : searchsorted l v ≤ l.length := by
  unfold searchsorted; exact List.length_filter_le _ _

theorem shiftTimes_sorted (ts : List Rat) (d : Rat) (hs : ts.Pairwise (· ≤ ·)) :
    (shiftTimes ts d).Pairwise (· ≤ ·) := by
  simp only [shiftTimes, List.pairwise_map]
  exact hs.imp (fun h => by linarith)

theorem shiftTimes_getElem? (ts : List Rat) (d : Rat) (k : Nat) :
    (shiftTimes ts d)[k]? = (ts[k]?).map (fun t => t - minRat ts + d) := by
  unfold shiftTimes
  simp [List.getElem?_map]

theorem lt_searchsorted_shift (ts : List Rat) (hs : ts.Pairwise (· ≤ ·)) (d v : Rat) (k : Nat) (t : Rat)
    (hk : ts[k]? = some t) : k < searchsorted (shiftTimes ts d) v ↔ t - minRat ts < v - d := by
  rw [lt_searchsorted_iff _ (shiftTimes_sorted ts d hs) v k (t - minRat ts + d) (by rw [shiftTimes_getElem?, hk]; rfl)]
  exact lt_sub_iff_add_lt.symm

theorem foldl_min_eq_head (x : Rat) (l : List Rat) (h : ∀ y ∈ l, x ≤ y) : l.foldl min x = x := by
  induction l with
  | nil => rfl
  | cons y ys ih =>
    have hy := h y (by simp)
    simp only [List.foldl_cons, min_eq_left hy]
    exact ih (fun z hz => h z (by simp [hz]))

theorem shiftTimes_of_head_min (x : Rat) (xs : List Rat) (d : Rat) (h : ∀ y ∈ xs, x ≤ y) :
    shiftTimes (x :: xs) d = (x :: xs).map (fun t => t - x + d) := by
  unfold shiftTimes
  have : minRat (x :: xs) = x := by simp only [minRat]; exact foldl_min_eq_head x xs h
  simp only [this]

theorem shiftTimes_arith (n : Nat) (t0 dt d : Rat) (hdt : 0 ≤ dt) :
    shiftTimes ((List.range n).map (fun (k : Nat) => t0 + (k : Rat) * dt)) d
      = (List.range n).map (fun (k : Nat) => (k : Rat) * dt + d) := by
  cases n with
  | zero => simp [shiftTimes]
  | succ n =>
    rw [List.range_succ_eq_map, List.map_cons, shiftTimes_of_head_min]
    · simp only [List.map_cons, List.map_map, Nat.cast_zero, zero_mul, add_zero, sub_self, zero_add]
      congr 1
      apply List.map_congr_left
      intro k _
      simp only [Function.comp]
      ring
    · intro y hy
      simp only [List.map_map, List.mem_map, Function.comp] at hy
      obtain ⟨k, _, rfl⟩ := hy
      have : 0 ≤ ((k + 1 : Nat) : Rat) * dt := mul_nonneg (by exact_mod_cast Nat.zero_le _) hdt
      simp only [Nat.cast_zero, zero_mul, add_zero]
      linarith

theorem shiftTimes_interval (ts : List Rat) (dt d : Rat) (h : isUniform ts dt = true) :
    shiftTimes ((Clock.interval dt).times ts.length) d = shiftTimes ts d := by
  simp only [isUniform, Bool.and_eq_true, decide_eq_true_eq] at h
  obtain ⟨hdt, hts⟩ := h
  have h1 := shiftTimes_arith ts.length (ts.headD 0) dt d hdt
  have h2 := shiftTimes_arith ts.length 0 dt d hdt
  simp only [zero_add] at h2
  rw [← hts] at h1
  rw [h1]
  exact h2

/-! ## the whole function

`sync` is written in the model as one `do` block.  The definitions below name its intermediate values; `sync_ok_of_steps`
and `steps_of_sync_ok` are the bridge to `sync`. -/

def syncSegs (ts : List Rat) (delay : Rat) (prs : List (Row × Row)) (first : Row) (spot : List Rat) : List Seg :=
  prs.map (mkSeg (shiftTimes ts delay) first (minList (prs.flatMap (fun p => [p.1.x, p.2.x])))
    (minList (prs.flatMap (fun p => [p.1.y, p.2.y]))) (spot.getD 0 0) (spot.getD 1 0))

def canvasH (segs : List Seg) : Nat := (maxList (segs.flatMap (fun g => [g.y0, g.y1])) + 1).toNat

def canvasW (segs : List Seg) : Nat := (maxList (segs.flatMap (fun g => [g.x0, g.x1])) + 1).toNat

def canvasImage (h w : Nat) (writes : List ((Int × Int) × Nat)) : List (List (Option Nat)) :=
  (List.range h).map (fun (r : Nat) => (List.range w).map (fun (c : Nat) => lookupLast writes ((r : Int), (c : Int))))

theorem seg_cell_bounds (g : Seg) (j : Nat) (hj : j < g.len) :
    min g.y0 g.y1 ≤ (g.cellAt j).1 ∧ (g.cellAt j).1 ≤ max g.y0 g.y1 ∧
    min g.x0 g.x1 ≤ (g.cellAt j).2 ∧ (g.cellAt j).2 ≤ max g.x0 g.x1 := by
  unfold Seg.len at hj
  rw [cellAt_eq]
  split at hj
  · rename_i hy
    have := travel_mem hj
    rw [if_pos hy]; exact ⟨min_le_left _ _, le_max_left _ _, this.1, this.2.le⟩
  · rename_i hy
    have := travel_mem hj
    rw [if_neg hy]; exact ⟨this.1, this.2.le, min_le_left _ _, le_max_left _ _⟩

theorem lt_canvas (segs : List Seg) (g : Seg) (hg : g ∈ segs) (r c : Int) (hr : r ≤ max g.y0 g.y1)
    (hc : c ≤ max g.x0 g.x1) : r < (canvasH segs : Int) ∧ c < (canvasW segs : Int) := by
  have hy := fun y hy => le_maxList (segs.flatMap (fun g => [g.y0, g.y1])) y (List.mem_flatMap.mpr ⟨g, hg, hy⟩)
  have hx := fun x hx => le_maxList (segs.flatMap (fun g => [g.x0, g.x1])) x (List.mem_flatMap.mpr ⟨g, hg, hx⟩)
  have := hy g.y0 (by simp); have := hy g.y1 (by simp); have := hx g.x0 (by simp); have := hx g.x1 (by simp)
  unfold canvasH canvasW
  omega

theorem mem_canvasImage (h w : Nat) (writes : List ((Int × Int) × Nat)) (row : List (Option Nat))
    (hrow : row ∈ canvasImage h w writes) (k : Nat) (hk : some k ∈ row) : ∃ p, lookupLast writes p = some k := by
  obtain ⟨r, _, rfl⟩ := List.mem_map.mp hrow
  obtain ⟨c, _, hc⟩ := List.mem_map.mp hk
  exact ⟨_, hc⟩

def syncResult (isnan : Nat → Bool) (squeeze : Bool) (h w : Nat) (img : List (List (Option Nat))) (origin : Int × Int)
    (spot : List Rat) : Result :=
  if squeeze then
    { height := (squeezeImg isnan w img).1.length, width := (squeezeImg isnan w img).2,
      pixels := (squeezeImg isnan w img).1, origin := origin, spot := spot }
  else { height := h, width := w, pixels := img, origin := origin, spot := spot }

theorem sync_ok_of_steps (rows : List Row) (sel : Option (List Int)) (ts : List Rat) (delay : Rat) (isnan : Nat → Bool)
    (squeeze : Bool) (prs : List (Row × Row)) (first : Row × Row) (spot : List Rat) (writes : List ((Int × Int) × Nat))
    (h1 : pairs (selectRows sel rows) = some prs) (h2 : prs.head? = some first)
    (h3 : spotSize first.1.spot = some spot)
    (h4 : allWrites ts.length (syncSegs ts delay prs first.1 spot) = some writes) :
    sync rows sel ts delay isnan squeeze = .ok
      (syncResult isnan squeeze (canvasH (syncSegs ts delay prs first.1 spot)) (canvasW (syncSegs ts delay prs first.1 spot))
        (canvasImage (canvasH (syncSegs ts delay prs first.1 spot)) (canvasW (syncSegs ts delay prs first.1 spot)) writes)
        (minList (prs.flatMap (fun p => [p.1.x, p.2.x])), minList (prs.flatMap (fun p => [p.1.y, p.2.y]))) spot) := by
  unfold syncSegs at h4
  unfold sync
  simp only [h1, h2, h3, h4, pure, Except.pure]
  cases squeeze <;> rfl

theorem steps_of_sync_ok (rows : List Row) (sel : Option (List Int)) (ts : List Rat) (delay : Rat) (isnan : Nat → Bool)
    (squeeze : Bool) (r : Result) (h : sync rows sel ts delay isnan squeeze = .ok r) :
    ∃ prs first spot writes, pairs (selectRows sel rows) = some prs ∧ prs.head? = some first ∧
      spotSize first.1.spot = some spot ∧ allWrites ts.length (syncSegs ts delay prs first.1 spot) = some writes ∧
      r = syncResult isnan squeeze (canvasH (syncSegs ts delay prs first.1 spot)) (canvasW (syncSegs ts delay prs first.1 spot))
        (canvasImage (canvasH (syncSegs ts delay prs first.1 spot)) (canvasW (syncSegs ts delay prs first.1 spot)) writes)
        (minList (prs.flatMap (fun p => [p.1.x, p.2.x])), minList (prs.flatMap (fun p => [p.1.y, p.2.y]))) spot := by
  cases h1 : pairs (selectRows sel rows) with
  | none => unfold sync at h; simp only [h1] at h; cases h
  | some prs =>
    cases h2 : prs.head? with
    | none => unfold sync at h; simp only [h1, h2] at h; cases h
    | some first =>
      cases h3 : spotSize first.1.spot with
      | none => unfold sync at h; simp only [h1, h2, h3] at h; cases h
      | some spot =>
        cases h4 : allWrites ts.length (syncSegs ts delay prs first.1 spot) with
        | none => unfold syncSegs at h4; unfold sync at h; simp only [h1, h2, h3, h4] at h; cases h
        | some writes =>
          rw [sync_ok_of_steps rows sel ts delay isnan squeeze prs first spot writes h1 h2 h3 h4] at h
          exact ⟨prs, first, spot, writes, rfl, h2, h3, h4, (Except.ok.inj h).symm⟩

theorem syncResult_params (isnan : Nat → Bool) (squeeze : Bool) (h w : Nat) (img : List (List (Option Nat)))
    (origin : Int × Int) (spot : List Rat) :
    (syncResult isnan squeeze h w img origin spot).origin = origin ∧
      (syncResult isnan squeeze h w img origin spot).spot = spot := by
  cases squeeze <;> exact ⟨rfl, rfl⟩

theorem sync_congr_times (rows : List Row) (sel : Option (List Int)) (ts ts' : List Rat) (d d' : Rat)
    (isnan : Nat → Bool) (squeeze : Bool) (ht : shiftTimes ts d = shiftTimes ts' d') (hn : ts.length = ts'.length) :
    sync rows sel ts d isnan squeeze = sync rows sel ts' d' isnan squeeze := by
  unfold sync; rw [ht, hn]

/-! ## only time differences enter the synchronisation -/

theorem selectRows_shift (b : Int) (sel : Option (List Int)) (rows : List Row) :
    selectRows sel (rows.map (shiftRow b)) = (selectRows sel rows).map (shiftRow b) := by
  unfold selectRows
  have hseq : (rows.map (shiftRow b)).map (·.seq) = rows.map (·.seq) := by
    simp [List.map_map, Function.comp_def, shiftRow]
  have hz : ∀ (l : List Int), List.zipWith setSeq (rows.map (shiftRow b)) l = (List.zipWith setSeq rows l).map (shiftRow b) := by
    intro l
    induction rows generalizing l with
    | nil => simp
    | cons r rs ih => cases l with
      | nil => simp
      | cons s l => simp [ih, setSeq, shiftRow]
  simp only [hseq, hz]
  cases sel with
  | none => rfl
  | some s =>
    simp only [List.filter_map]
    congr 1

theorem pairs_shift (b : Int) (l : List Row) :
    pairs (l.map (shiftRow b)) = (pairs l).map (fun prs => prs.map (fun p => (shiftRow b p.1, shiftRow b p.2))) := by
  induction l with
  | nil => simp [pairs]
  | cons r l ih =>
    have hon : (shiftRow b r).on = r.on := rfl
    cases l with
    | nil =>
      simp only [List.map_cons, List.map_nil, pairs, hon]
      split <;> simp
    | cons r' rest =>
      simp only [List.map_cons] at ih ⊢
      rw [pairs, hon, ih, pairs]
      split
      · cases pairs (r' :: rest) <;> simp
      · rfl

theorem laserTime_shift (b : Int) (f r : Row) : laserTime (shiftRow b f) (shiftRow b r) = laserTime f r := by
  unfold laserTime shiftRow
  simp only
  congr 2
  omega

/-- **The date does not matter.**  Moving every row of the log by the same amount of time changes nothing: only
differences to the first firing enter (`laserTime`). -/
theorem sync_date_invariant (b : Int) (rows : List Row) (sel : Option (List Int)) (ts : List Rat) (delay : Rat)
    (isnan : Nat → Bool) (squeeze : Bool) :
    sync (rows.map (shiftRow b)) sel ts delay isnan squeeze = sync rows sel ts delay isnan squeeze := by
  unfold sync
  simp only [selectRows_shift, pairs_shift]
  cases hp : pairs (selectRows sel rows) with
  | none => rfl
  | some prs =>
    simp only [Option.map_some, List.head?_map]
    cases hh : prs.head? with
    | none => rfl
    | some fp =>
      have hx : (prs.map (fun p => (shiftRow b p.1, shiftRow b p.2))).flatMap (fun p => [p.1.x, p.2.x])
          = prs.flatMap (fun p => [p.1.x, p.2.x]) := by
        simp [List.flatMap_map, shiftRow]
      have hy : (prs.map (fun p => (shiftRow b p.1, shiftRow b p.2))).flatMap (fun p => [p.1.y, p.2.y])
          = prs.flatMap (fun p => [p.1.y, p.2.y]) := by
        simp [List.flatMap_map, shiftRow]
      have hseg : ∀ times ox oy sx sy,
          (prs.map (fun p => (shiftRow b p.1, shiftRow b p.2))).map (mkSeg times (shiftRow b fp.1) ox oy sx sy)
            = prs.map (mkSeg times fp.1 ox oy sx sy) := by
        intro times ox oy sx sy
        simp only [List.map_map]
        apply List.map_congr_left
        intro p _
        simp only [Function.comp, mkSeg, laserTime_shift]
        rfl
      simp only [Option.map_some, hx, hy, hseg]
      rfl

end Pew.Sync
