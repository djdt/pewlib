import PewProofs.NpzDict
import PewProofs.NpzVersion
import PewProofs.NpzCodec

/-! The info of a loaded laser, `finishInfo p ver (infoSpec i)`, on `Info` alone: what `finishInfo` adds, that the values still do not end
in NUL, and that applied to its own result it only moves `File Path` to the end, so that its third iterate equals its second. -/
namespace Pew.Npz

/-- **What `load` adds to the info.**  `File Version` is the file's version, `File Path` the path
loaded from, `Name` the stored name or else the file stem; every other key reads as in the stored
info; and the keys are those of the stored info plus exactly these three. -/
theorem finishInfo_spec (p : PathInfo) (ver : Str) (i : Info) (k : Str) :
    dictGet (finishInfo p ver i) k =
        (if k = kFileVersion then some ver
         else if k = kFilePath then some p.resolved
         else if k = kName then some ((dictGet i kName).getD p.stem)
         else dictGet i k)
    ∧ (k ∈ keys (finishInfo p ver i) ↔ k ∈ keys i ∨ k = kName ∨ k = kFilePath ∨ k = kFileVersion) :=
  ⟨by rw [finishInfo, dictGet_dictInsert, dictGet_dictInsert, dictGet_dictInsert], by
    rw [finishInfo, mem_keys_dictInsert, mem_keys_dictInsert, mem_keys_dictInsert, or_assoc, or_assoc]⟩

theorem mem_infoSpec (i : Info) (kv : Str × Str) (h : kv ∈ infoSpec i) :
    ∃ kv0 ∈ i, kv0.1 ≠ kFilePath ∧ kv = (tabToSpace kv0.1, tabToSpace kv0.2) := by
  rcases mem_dictUpdate _ _ _ h with h | h
  · cases h
  · obtain ⟨kv0, hf, rfl⟩ := List.mem_map.mp h
    obtain ⟨hm, hne⟩ := List.mem_filter.mp hf
    exact ⟨kv0, hm, of_decide_eq_true hne, rfl⟩

theorem mem_finishInfo (p : PathInfo) (ver : Str) (i : Info) (kv : Str × Str) (h : kv ∈ finishInfo p ver i) :
    kv ∈ i ∨ kv = (kName, p.stem) ∨ kv = (kFilePath, p.resolved) ∨ kv = (kFileVersion, ver) := by
  rcases mem_dictInsert _ _ _ _ h with h | h
  · rcases mem_dictInsert _ _ _ _ h with h | h
    · rcases mem_dictInsert _ _ _ _ h with h | h
      · exact Or.inl h
      · cases hg : dictGet i kName with
        | none => exact Or.inr (Or.inl (by rw [h, hg]; rfl))
        | some n => exact Or.inl (by rw [h, hg]; exact dictGet_mem i kName n hg)
    · exact Or.inr (Or.inr (Or.inl h))
  · exact Or.inr (Or.inr (Or.inr h))

theorem noNulEnd_infoSpec_values (i : Info) (hi : infoNoNul i = true) : ∀ kv ∈ infoSpec i, noNulEnd kv.2 = true := by
  intro kv hkv
  obtain ⟨kv0, hm, hne, rfl⟩ := mem_infoSpec i kv hkv
  exact (noNulEnd_tabToSpace _).trans (noNulEnd_of_infoNoNul i hi kv0 hm hne)

theorem infoNoNul_finishInfo (p : PathInfo) (ver : Str) (i : Info) (hi : ∀ kv ∈ i, noNulEnd kv.2 = true)
    (hs : noNulEnd p.stem = true) (hv : noNulEnd ver = true) : infoNoNul (finishInfo p ver i) = true := by
  refine List.all_eq_true.mpr fun kv hkv => Bool.or_eq_true_iff.mpr ?_
  rcases mem_finishInfo p ver i kv hkv with h | h | h | h
  · exact Or.inr (hi kv h)
  · exact Or.inr (h ▸ hs)
  · exact Or.inl (h ▸ rfl)
  · exact Or.inr (h ▸ hv)

theorem noNulEnd_of_versionOk (ver : Str) (hv : versionOk ver = true) : noNulEnd ver = true :=
  noNulEnd_of_not_mem ver (not_mem_of_digits_dots ver ((versionOk_iff ver).mp hv).1 NUL rfl)

/-! ## one more save → load

`LoadedInfo p ver X` is what is used of an info `X` that `load` returned.  On such an `X` another save → load gives `nextInfo p X`:
`File Path` is not stored, so it is inserted anew and goes last; every other key is there and keeps its place. -/

structure LoadedInfo (p : PathInfo) (ver : Str) (X : Info) : Prop where
  nodup : (keys X).Nodup
  tabfree : ∀ kv ∈ X, kv.1 ≠ kFilePath → '\t' ∉ kv.1 ∧ '\t' ∉ kv.2
  name : ∃ n, dictGet X kName = some n
  fver : dictGet X kFileVersion = some ver
  fpath : dictGet X kFilePath = some p.resolved

def nextInfo (p : PathInfo) (X : Info) : Info :=
  dictErase X kFilePath ++ [(kFilePath, p.resolved)]

theorem loadedInfo_finishInfo (p : PathInfo) (ver : Str) (i : Info) (hst : tabFree p.stem = true)
    (hv : versionOk ver = true) : LoadedInfo p ver (finishInfo p ver (infoSpec i)) := by
  have hvt := not_mem_of_digits_dots ver ((versionOk_iff ver).mp hv).1 '\t' rfl
  have hst : '\t' ∉ p.stem := by simpa [tabFree] using hst
  have htab : ∀ kv ∈ infoSpec i, '\t' ∉ kv.1 ∧ '\t' ∉ kv.2 := fun kv hkv => by
    obtain ⟨kv0, _, _, rfl⟩ := mem_infoSpec i kv hkv
    exact ⟨tab_not_mem_tabToSpace _, tab_not_mem_tabToSpace _⟩
  refine ⟨nodup_keys_dictInsert _ _ _ (nodup_keys_dictInsert _ _ _ (nodup_keys_dictInsert _ _ _
      (nodup_keys_dictUpdate [] _ List.nodup_nil))),
    fun kv hkv hne => ?_, ⟨_, by rw [(finishInfo_spec p ver _ _).1]; rfl⟩, by rw [(finishInfo_spec p ver _ _).1]; rfl,
    by rw [(finishInfo_spec p ver _ _).1]; rfl⟩
  rcases mem_finishInfo p ver _ kv hkv with h | h | h | h
  · exact htab kv h
  · exact h ▸ ⟨(by decide : '\t' ∉ kName), hst⟩
  · exact absurd (congrArg Prod.fst h) hne
  · exact h ▸ ⟨(by decide : '\t' ∉ kFileVersion), hvt⟩

theorem infoSpec_of_tabFree (X : Info) (hn : (keys X).Nodup)
    (ht : ∀ kv ∈ X, kv.1 ≠ kFilePath → '\t' ∉ kv.1 ∧ '\t' ∉ kv.2) : infoSpec X = dictErase X kFilePath := by
  rw [infoSpec, Lists.map_eq_self _ _ fun kv hkv => ?_]
  · exact dictOfList_of_nodup _ ((List.filter_sublist.map _).nodup hn)
  · obtain ⟨hm, hne⟩ := List.mem_filter.mp hkv
    obtain ⟨h1, h2⟩ := ht kv hm (of_decide_eq_true hne)
    rw [tabToSpace_of_tabFree _ h1, tabToSpace_of_tabFree _ h2]

theorem finishInfo_infoSpec_of_loaded (p : PathInfo) (ver : Str) (X : Info) (g : LoadedInfo p ver X) :
    finishInfo p ver (infoSpec X) = nextInfo p X := by
  have hne : kName ≠ kFilePath := by decide
  have hne' : kFileVersion ≠ kFilePath := by decide
  obtain ⟨n, hn⟩ := g.name
  rw [← dictGet_dictErase_ne X kName kFilePath hne] at hn
  rw [infoSpec_of_tabFree X g.nodup g.tabfree, finishInfo, hn, Option.getD_some, dictInsert_same _ _ _ hn,
    dictInsert_of_not_mem _ _ _ (not_mem_keys_dictErase X kFilePath)]
  refine dictInsert_same _ _ _ ?_
  rw [dictGet_append, dictGet_dictErase_ne X kFileVersion kFilePath hne', g.fver]
  rfl

/-- with `T i = finishInfo p ver (infoSpec i)`: `T (T i)` is `T i` with `File Path` moved to the end, and `T (T i)` is
again of the form `T _`, so the same holds one step later, where nothing is left to move -/
theorem info_fixpoint (p : PathInfo) (ver : Str) (i : Info) (hst : tabFree p.stem = true) (hv : versionOk ver = true) :
    finishInfo p ver (infoSpec (finishInfo p ver (infoSpec (finishInfo p ver (infoSpec i)))))
      = finishInfo p ver (infoSpec (finishInfo p ver (infoSpec i))) := by
  rw [finishInfo_infoSpec_of_loaded p ver _ (loadedInfo_finishInfo p ver _ hst hv),
    finishInfo_infoSpec_of_loaded p ver _ (loadedInfo_finishInfo p ver i hst hv)]
  exact moveEnd_idem _ kFilePath p.resolved

end Pew.Npz
