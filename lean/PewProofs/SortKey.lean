import PewProofs.MergeSort
import Mathlib.Order.Basic

/-! Sorting by a key in a linear order: `List.mergeSort (fun a b => decide (key a ≤ key b))` is ascending in the
key, independent of the input order when the keys are distinct, and equal to any strictly ascending permutation. -/
namespace Pew.SortKey

variable {α κ : Type} [LinearOrder κ] (key : α → κ)

theorem keyLe_trans (a b c : α) :
    decide (key a ≤ key b) = true → decide (key b ≤ key c) = true → decide (key a ≤ key c) = true := by
  simp only [decide_eq_true_eq]; exact le_trans

theorem keyLe_total (a b : α) : (decide (key a ≤ key b) || decide (key b ≤ key a)) = true := by
  simp only [Bool.or_eq_true, decide_eq_true_eq]; exact le_total _ _

theorem sortKey_sorted (l : List α) :
    (l.mergeSort (fun a b => decide (key a ≤ key b))).Pairwise (fun a b => key a ≤ key b) := by
  have := List.pairwise_mergeSort (le := fun a b => decide (key a ≤ key b)) (keyLe_trans key) (keyLe_total key) l
  simpa using this

theorem sortKey_perm_invariant (l₁ l₂ : List α) (hp : l₁.Perm l₂)
    (hinj : ∀ a ∈ l₁, ∀ b ∈ l₁, key a = key b → a = b) :
    l₁.mergeSort (fun a b => decide (key a ≤ key b)) = l₂.mergeSort (fun a b => decide (key a ≤ key b)) := by
  apply MergeSort.perm_invariant (keyLe_trans key) (keyLe_total key) hp
  intro a ha b hb h1 h2
  simp only [decide_eq_true_eq] at h1 h2
  exact hinj a ha b hb (le_antisymm h1 h2)

theorem sortKey_of_perm_strict (l s : List α) (hp : l.Perm s)
    (hs : s.Pairwise (fun a b => key a < key b)) :
    l.mergeSort (fun a b => decide (key a ≤ key b)) = s :=
  MergeSort.eq_of_perm_strict (keyLe_trans key) (keyLe_total key) hp
    (hs.imp fun h => ⟨decide_eq_true (le_of_lt h), decide_eq_false (not_le_of_gt h)⟩)

end Pew.SortKey
