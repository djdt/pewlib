import PewModel.Imzml
import Mathlib.Algebra.Order.Ring.Nat

/-! C05: `Spectrum.get_binary_data` in closed form (`getBinaryData_eq`): the number of bytes `read` returns decides
everything. And the decoding of one element loses nothing: a little-endian byte string of given length is determined
by its value (`leNat_injective`), which fits the width (`leNat_lt`). -/
namespace Pew.Imzml

theorem DType.width_pos (dt : DType) : 0 < dt.width := by
  cases dt <;> decide

theorem readBytes_length (ibd : List UInt8) (off len : Nat) :
    (readBytes ibd off len).length = min len (ibd.length - off) := by
  rw [readBytes, List.length_take, List.length_drop]

theorem readBytes_chunk (ibd : List UInt8) (off len i w : Nat) (h : (i + 1) * w ≤ len) :
    ((readBytes ibd off len).drop (i * w)).take w = (ibd.drop (off + i * w)).take w := by
  rw [readBytes, List.drop_take, List.drop_drop, List.take_take, Nat.min_eq_left]
  rw [Nat.succ_mul] at h
  omega

/-- `min len (ibd.length - off)`: the number of bytes `read` returns -/
theorem getBinaryData_eq (bo : ByteOrder) (ibd : List UInt8) (off len : Nat) (dt : DType) :
    getBinaryData bo ibd off len dt =
      if min len (ibd.length - off) % dt.width ≠ 0 then none
      else some ((List.range (min len (ibd.length - off) / dt.width)).map fun i =>
        bitsOf bo ((ibd.drop (off + i * dt.width)).take dt.width)) := by
  rw [getBinaryData, frombuffer, readBytes_length]
  simp only [dt.width_pos.ne', false_or]
  refine if_congr Iff.rfl rfl (congrArg some (List.map_congr_left fun i hi => ?_))
  rw [readBytes_chunk _ _ _ _ _ (le_trans (Nat.mul_le_of_le_div _ _ _ (List.mem_range.mp hi)) (Nat.min_le_left _ _))]

theorem leNat_lt (bs : List UInt8) : leNat bs < 256 ^ bs.length := by
  induction bs with
  | nil => simp [leNat]
  | cons b r ih =>
    have hb : b.toNat < 256 := b.toNat_lt
    simp only [leNat, List.length_cons, pow_succ]
    omega

theorem leNat_injective (a b : List UInt8) (hl : a.length = b.length) (h : leNat a = leNat b) : a = b := by
  induction a generalizing b with
  | nil => cases b with
    | nil => rfl
    | cons _ _ => simp at hl
  | cons x xs ih =>
    cases b with
    | nil => simp at hl
    | cons y ys =>
      have hx : x.toNat < 256 := x.toNat_lt
      have hy : y.toNat < 256 := y.toNat_lt
      simp only [leNat] at h
      have h12 : x.toNat = y.toNat ∧ leNat xs = leNat ys := by omega
      rw [UInt8.toNat_inj.mp h12.1, ih ys (Nat.succ.inj hl) h12.2]

end Pew.Imzml
