import PewProofs.OtsuScale

/-! # C15 — binning and the data level of `otsu`

`binByEdges` counts the interior edges `≤ x`; for increasing edges those are a prefix, which gives `binByEdges_le_and_iff`,
and existence and uniqueness of the bin both follow from it.  The exact uniform histogram (`binOf`, `uniformEdges`) is the
histogram against the uniform edges, so for `n ≥ 2` bins `otsuData` is `otsuEdges` at those edges
(`otsuData_eq_otsuEdges`).  Multiplying data and edges by `c > 0` leaves either histogram as it is (`histogramE_scale`,
`histogram_scale`). -/
namespace Pew.Otsu

theorem uniformEdges_length (lo hi : Rat) (n : Nat) : (uniformEdges lo hi n).length = n + 1 := by
  simp [uniformEdges]

theorem uniformEdges_getD (lo hi : Rat) (n k : Nat) (hk : k ≤ n) :
    (uniformEdges lo hi n).getD k 0 = lo + (hi - lo) * (k : Rat) / (n : Rat) := by
  unfold uniformEdges
  rw [List.getD_eq_getElem?_getD, List.getElem?_map, List.getElem?_range (Nat.lt_succ_of_le hk)]
  rfl

theorem uniformEdges_first (lo hi : Rat) (n : Nat) : (uniformEdges lo hi n).getD 0 0 = lo := by
  rw [uniformEdges_getD lo hi n 0 (Nat.zero_le _), Nat.cast_zero, mul_zero, zero_div, add_zero]

theorem uniformEdges_last (lo hi : Rat) (n : Nat) (hn : 0 < n) : (uniformEdges lo hi n).getD n 0 = hi := by
  rw [uniformEdges_getD lo hi n n (le_refl _), mul_div_cancel_right₀ _ (Nat.cast_ne_zero.mpr hn.ne'), add_sub_cancel]

theorem uniformEdges_pairwise (lo hi : Rat) (n : Nat) (hn : 0 < n) (h : lo < hi) :
    (uniformEdges lo hi n).Pairwise (· < ·) :=
  List.pairwise_lt_range.map _ fun _ _ hij => add_lt_add_right
    (div_lt_div_of_pos_right (mul_lt_mul_of_pos_left (Nat.cast_lt.mpr hij) (sub_pos.mpr h)) (Nat.cast_pos.mpr hn)) lo

theorem min?_cons_eq_minL (a : Rat) (l : List Rat) : (a :: l).min? = some (minL (a :: l)) := rfl

theorem max?_cons_eq_maxL (a : Rat) (l : List Rat) : (a :: l).max? = some (maxL (a :: l)) := rfl

theorem minL_spec (xs : List Rat) (hne : xs ≠ []) : minL xs ∈ xs ∧ ∀ x ∈ xs, minL xs ≤ x := by
  cases xs with
  | nil => exact absurd rfl hne
  | cons a l => exact List.min?_eq_some_iff.mp (min?_cons_eq_minL a l)

theorem maxL_spec (xs : List Rat) (hne : xs ≠ []) : maxL xs ∈ xs ∧ ∀ x ∈ xs, x ≤ maxL xs := by
  cases xs with
  | nil => exact absurd rfl hne
  | cons a l => exact List.max?_eq_some_iff.mp (max?_cons_eq_maxL a l)

theorem minL_eq_of {xs : List Rat} {a : Rat} (ha : a ∈ xs) (h : ∀ x ∈ xs, a ≤ x) : minL xs = a :=
  have s := minL_spec xs (List.ne_nil_of_mem ha)
  le_antisymm (s.2 a ha) (h _ s.1)

theorem maxL_eq_of {xs : List Rat} {b : Rat} (hb : b ∈ xs) (h : ∀ x ∈ xs, x ≤ b) : maxL xs = b :=
  have s := maxL_spec xs (List.ne_nil_of_mem hb)
  le_antisymm (h _ s.1) (s.2 b hb)

theorem ne_nil_of_min_lt_max (ys : List Rat) (h : minL ys < maxL ys) : ys ≠ [] := by
  intro h0; subst h0; simp [minL, maxL] at h

theorem histRange_of_lt (xs : List Rat) (h : minL xs < maxL xs) : histRange xs = (minL xs, maxL xs) := by
  unfold histRange
  simp [ne_of_lt h]

@[simp] theorem countBins_length (bins : List Nat) (n : Nat) : (countBins bins n).length = n := by
  simp [countBins]

theorem countBins_getD (bins : List Nat) (n k : Nat) (hk : k < n) :
    (countBins bins n).getD k 0 = bins.count k := by
  simp [countBins, List.getElem?_range hk]

theorem histogram_of_lt (xs : List Rat) (n : Nat) (h : minL xs < maxL xs) :
    histogram xs n =
      (countBins (xs.map (binOf (minL xs) (maxL xs) n)) n, uniformEdges (minL xs) (maxL xs) n) := by
  unfold histogram
  rw [histRange_of_lt xs h]
  rfl

theorem binOf_hi (lo hi : Rat) (n : Nat) : binOf lo hi n hi = n - 1 := by
  unfold binOf
  simp

/-- in an increasing list the elements `≤ x` are a prefix -/
theorem lt_length_filter_le_iff (l : List Rat) (hp : l.Pairwise (· < ·)) (x : Rat) (j : Nat) (hj : j < l.length) :
    j < (l.filter (fun e => decide (e ≤ x))).length ↔ l.getD j 0 ≤ x := by
  induction l generalizing j with
  | nil => exact absurd hj (Nat.not_lt_zero _)
  | cons e t ih =>
    obtain ⟨hhd, htl⟩ := List.pairwise_cons.mp hp
    by_cases hex : e ≤ x
    · rw [List.filter_cons_of_pos (p := fun e => decide (e ≤ x)) (decide_eq_true hex)]
      cases j with
      | zero => exact iff_of_true (Nat.succ_pos _) hex
      | succ j => exact Nat.succ_lt_succ_iff.trans (ih htl j (Nat.lt_of_succ_lt_succ hj))
    · -- `e` is above `x`, and so is everything after it
      have hgt : ∀ a ∈ e :: t, ¬ a ≤ x := fun a ha h => by
        rcases List.mem_cons.mp ha with rfl | ha
        · exact hex h
        · exact hex ((hhd a ha).le.trans h)
      rw [List.filter_eq_nil_iff.mpr (fun a ha => by simpa using hgt a ha)]
      refine iff_of_false (Nat.not_lt_zero _) (hgt _ ?_)
      rw [List.getD_eq_getElem?_getD, List.getElem?_eq_getElem hj]
      exact List.getElem_mem hj

theorem binByEdges_le_and_iff (edges : List Rat) (n : Nat) (he : edges.length = n + 1) (hp : edges.Pairwise (· < ·))
    (x : Rat) : binByEdges edges x ≤ n - 1 ∧
      ∀ j, j < n - 1 → (j < binByEdges edges x ↔ edges.getD (j + 1) 0 ≤ x) := by
  have hint : edges.tail.dropLast.length = n - 1 := by
    rw [List.length_dropLast, List.length_tail, he]; rfl
  refine ⟨hint ▸ List.length_filter_le _ _, fun j hj => ?_⟩
  have hlen : j < edges.tail.dropLast.length := hint ▸ hj
  have hg : edges.tail.dropLast.getD j 0 = edges.getD (j + 1) 0 := by
    rw [List.getD_eq_getElem?_getD, List.getD_eq_getElem?_getD, List.getElem?_dropLast,
      if_pos (List.length_dropLast ▸ hlen), List.getElem?_tail]
  rw [← hg]
  exact lt_length_filter_le_iff _ ((hp.sublist (List.tail_sublist edges)).sublist (List.dropLast_sublist _)) x j hlen

theorem binByEdges_spec (edges : List Rat) (n : Nat) (he : edges.length = n + 1)
    (hp : edges.Pairwise (· < ·)) (x : Rat) (h0 : edges.getD 0 0 ≤ x) :
    binByEdges edges x ≤ n - 1 ∧ edges.getD (binByEdges edges x) 0 ≤ x ∧
      (binByEdges edges x < n - 1 → x < edges.getD (binByEdges edges x + 1) 0) := by
  obtain ⟨hle, key⟩ := binByEdges_le_and_iff edges n he hp x
  generalize binByEdges edges x = k at key hle
  refine ⟨hle, ?_, fun hlt => not_le.mp (mt (key k hlt).mpr (lt_irrefl k))⟩
  cases k with
  | zero => exact h0
  | succ k => exact (key k hle).mp (Nat.lt_succ_self k)

theorem eq_binByEdges (edges : List Rat) (n : Nat) (he : edges.length = n + 1)
    (hp : edges.Pairwise (· < ·)) (x : Rat) (k : Nat) (hk : k ≤ n - 1)
    (a1 : edges.getD k 0 ≤ x) (a2 : k < n - 1 → x < edges.getD (k + 1) 0) : k = binByEdges edges x := by
  obtain ⟨hle, key⟩ := binByEdges_le_and_iff edges n he hp x
  refine le_antisymm ?_ (not_lt.mp fun hlt => ?_)
  · cases k with
    | zero => exact Nat.zero_le _
    | succ k => exact (key k hk).mpr a1
  · have hkn := hlt.trans_le hle
    exact absurd ((key k hkn).mp hlt) (not_le.mpr (a2 hkn))

theorem binByEdges_first (edges : List Rat) (n : Nat) (hn : 1 ≤ n) (he : edges.length = n + 1)
    (hp : edges.Pairwise (· < ·)) : binByEdges edges (edges.getD 0 0) = 0 :=
  (eq_binByEdges edges n he hp _ 0 (Nat.zero_le _) (le_refl _)
    (fun _ => pairwise_getD_lt edges hp 0 1 Nat.one_pos (he ▸ Nat.succ_lt_succ hn))).symm

theorem binByEdges_last (edges : List Rat) (n : Nat) (he : edges.length = n + 1)
    (hp : edges.Pairwise (· < ·)) : binByEdges edges (edges.getD n 0) = n - 1 :=
  (eq_binByEdges edges n he hp _ (n - 1) (le_refl _)
    (pairwise_getD_le edges hp (n - 1) n (Nat.sub_le _ _) (he ▸ Nat.lt_succ_self n)) (fun h => absurd h (lt_irrefl _))).symm

theorem histogramE_length_eq {edges : List Rat} {n : Nat} (he : edges.length = n + 1) (xs : List Rat) :
    (histogramE edges xs).length = n := by
  unfold histogramE
  rw [countBins_length, he, Nat.add_sub_cancel]

theorem histogramE_end_bins (edges xs : List Rat) (n : Nat) (hn : 1 ≤ n) (he : edges.length = n + 1)
    (hp : edges.Pairwise (· < ·)) (hmin : edges.getD 0 0 ∈ xs) (hmax : edges.getD n 0 ∈ xs) :
    1 ≤ (histogramE edges xs).getD 0 0 ∧ 1 ≤ (histogramE edges xs).getD (n - 1) 0 := by
  unfold histogramE
  rw [he, Nat.add_sub_cancel, countBins_getD _ _ _ hn, countBins_getD _ _ _ (Nat.sub_lt hn Nat.one_pos)]
  exact ⟨List.count_pos_iff.mpr (List.mem_map.mpr ⟨_, hmin, binByEdges_first edges n hn he hp⟩),
    List.count_pos_iff.mpr (List.mem_map.mpr ⟨_, hmax, binByEdges_last edges n he hp⟩)⟩

theorem uniformEdges_getD_le_iff (lo hi : Rat) (hlh : lo < hi) (n : Nat) (hn : 0 < n) (x : Rat) (k : Nat) (hk : k ≤ n) :
    (uniformEdges lo hi n).getD k 0 ≤ x ↔ (k : Rat) ≤ (x - lo) / (hi - lo) * (n : Rat) := by
  have hnq : (0 : Rat) < (n : Rat) := Nat.cast_pos.mpr hn
  rw [uniformEdges_getD lo hi n k hk, div_mul_eq_mul_div, le_div_iff₀ (sub_pos.mpr hlh), ← le_sub_iff_add_le',
    div_le_iff₀ hnq, mul_comm]

theorem floor_toNat_bracket (y : Rat) (hy : 0 ≤ y) :
    ((y.floor.toNat : Nat) : Rat) ≤ y ∧ y < ((y.floor.toNat : Nat) : Rat) + 1 := by
  have e : ((y.floor.toNat : Nat) : Rat) = ((y.floor : Int) : Rat) := by
    rw [← Int.cast_natCast, Int.toNat_of_nonneg (Rat.le_floor_iff.mpr (by exact_mod_cast hy))]
  rw [e]
  exact ⟨Rat.floor_le y, by have := Rat.lt_floor_add_one y; rwa [Int.cast_add, Int.cast_one] at this⟩

theorem binOf_eq_binByEdges (lo hi : Rat) (hlh : lo < hi) (n : Nat) (hn : 1 ≤ n) (x : Rat)
    (hx0 : lo ≤ x) (hx1 : x ≤ hi) :
    binOf lo hi n x = binByEdges (uniformEdges lo hi n) x := by
  have he := uniformEdges_length lo hi n
  have hp := uniformEdges_pairwise lo hi n hn hlh
  have iff := uniformEdges_getD_le_iff lo hi hlh n hn x
  have e0 := uniformEdges_first lo hi n
  have en := uniformEdges_last lo hi n hn
  rcases eq_or_ne x hi with rfl | hne
  · rw [binOf_hi]
    exact ((congrArg _ en).symm.trans (binByEdges_last _ n he hp)).symm
  · unfold binOf
    rw [if_neg hne]
    -- the estimate `y` lies in `[0, n)`; its floor `k` has `k ≤ y < k + 1`, which reads `e_k ≤ x < e_(k+1)`
    have h0 : (uniformEdges lo hi n).getD 0 0 ≤ x := e0.le.trans hx0
    have y0 := (iff 0 (Nat.zero_le _)).mp h0
    have yn := mt (iff n (le_refl _)).mpr (fun h => hne (le_antisymm hx1 (en.ge.trans h)))
    generalize (x - lo) / (hi - lo) * (n : Rat) = y at iff y0 yn ⊢
    obtain ⟨k1, k2⟩ := floor_toNat_bracket y (by exact_mod_cast y0)
    have hkn : y.floor.toNat < n := by exact_mod_cast lt_of_le_of_lt k1 (not_le.mp yn)
    exact eq_binByEdges _ n he hp x _ (Nat.le_sub_one_of_lt hkn) ((iff _ hkn.le).mpr k1)
      (fun _ => not_le.mp (mt (iff _ hkn).mp (not_le.mpr (by exact_mod_cast k2))))

theorem histogram_eq_histogramE (xs : List Rat) (n : Nat) (hn : 1 ≤ n) (h : minL xs < maxL xs) :
    histogram xs n = (histogramE (uniformEdges (minL xs) (maxL xs) n) xs, uniformEdges (minL xs) (maxL xs) n) := by
  have hne := ne_nil_of_min_lt_max xs h
  rw [histogram_of_lt xs n h]
  unfold histogramE
  rw [uniformEdges_length, Nat.add_sub_cancel, List.map_congr_left fun x hx =>
    binOf_eq_binByEdges _ _ h n hn x ((minL_spec xs hne).2 x hx) ((maxL_spec xs hne).2 x hx)]

theorem uniform_end_bins (xs : List Rat) (n : Nat) (hn : 1 ≤ n) (h : minL xs < maxL xs) :
    1 ≤ (histogramE (uniformEdges (minL xs) (maxL xs) n) xs).getD 0 0 ∧
    1 ≤ (histogramE (uniformEdges (minL xs) (maxL xs) n) xs).getD (n - 1) 0 := by
  have hne := ne_nil_of_min_lt_max xs h
  exact histogramE_end_bins _ xs n hn (uniformEdges_length _ _ n) (uniformEdges_pairwise _ _ n hn h)
    (by rw [uniformEdges_first]; exact (minL_spec xs hne).1)
    (by rw [uniformEdges_last _ _ n hn]; exact (maxL_spec xs hne).1)

theorem otsuData_eq_otsuEdges (xs : List Rat) (n : Nat) (hn : 2 ≤ n) (h : minL xs < maxL xs) :
    otsuData xs n = otsuEdges (uniformEdges (minL xs) (maxL xs) n) xs := by
  have hn1 : 1 ≤ n := Nat.le_of_succ_le hn
  have hE := uniformEdges_length (minL xs) (maxL xs) n
  obtain ⟨g0, g1⟩ := uniform_end_bins xs n hn1 h
  -- `otsuData` ends in the NaN-free `otsuHist`, `otsuEdges` in the code's `otsuHistS`: the same value because minimum and
  -- maximum occupy the end bins, so that no class is empty
  unfold otsuData otsuEdges
  rw [histogram_eq_histogramE xs n hn1 h, otsuHistS_eq, otsuHistN_eq _ _ (histogramE_length_eq hE xs) hE g0 g1]

theorem foldl_map_mul (f : Rat → Rat → Rat) (c : Rat) (hf : ∀ a b, f (c * a) (c * b) = c * f a b) (l : List Rat)
    (a : Rat) : (l.map (c * ·)).foldl f (c * a) = c * l.foldl f a := by
  induction l generalizing a with
  | nil => rfl
  | cons b l ih => exact (congrArg (List.foldl f · _) (hf a b)).trans (ih (f a b))

theorem minL_scale (c : Rat) (hc : 0 < c) (xs : List Rat) : minL (xs.map (c * ·)) = c * minL xs := by
  cases xs with
  | nil => exact (mul_zero c).symm
  | cons a l => exact foldl_map_mul min c (fun a b => (mul_min_of_nonneg a b hc.le).symm) l a

theorem maxL_scale (c : Rat) (hc : 0 < c) (xs : List Rat) : maxL (xs.map (c * ·)) = c * maxL xs := by
  cases xs with
  | nil => exact (mul_zero c).symm
  | cons a l => exact foldl_map_mul max c (fun a b => (mul_max_of_nonneg a b hc.le).symm) l a

theorem binOf_scale (c : Rat) (hc : 0 < c) (lo hi : Rat) (n : Nat) (x : Rat) :
    binOf (c * lo) (c * hi) n (c * x) = binOf lo hi n x := by
  unfold binOf
  simp only [mul_right_inj' hc.ne', ← mul_sub, mul_div_mul_left _ _ hc.ne']

theorem uniformEdges_scale (c lo hi : Rat) (n : Nat) :
    uniformEdges (c * lo) (c * hi) n = (uniformEdges lo hi n).map (c * ·) := by
  simp only [uniformEdges, List.map_map]
  apply List.map_congr_left
  intro k _
  simp only [Function.comp]
  ring

theorem binByEdges_scale (c : Rat) (hc : 0 < c) (edges : List Rat) (x : Rat) :
    binByEdges (edges.map (c * ·)) (c * x) = binByEdges edges x := by
  unfold binByEdges
  rw [← List.map_tail, ← List.map_dropLast, List.filter_map, List.length_map]
  congr 2
  funext e
  simp only [Function.comp, decide_eq_decide]
  exact mul_le_mul_iff_right₀ hc

theorem histogramE_scale (c : Rat) (hc : 0 < c) (edges xs : List Rat) :
    histogramE (edges.map (c * ·)) (xs.map (c * ·)) = histogramE edges xs := by
  unfold histogramE
  rw [List.map_map, List.length_map]
  congr 2
  funext x
  exact binByEdges_scale c hc edges x

theorem histogram_scale (c : Rat) (hc : 0 < c) (xs : List Rat) (n : Nat) (h : minL xs < maxL xs) :
    histogram (xs.map (c * ·)) n = ((histogram xs n).1, (histogram xs n).2.map (c * ·)) := by
  have h' : minL (xs.map (c * ·)) < maxL (xs.map (c * ·)) := by
    rw [minL_scale c hc, maxL_scale c hc]; exact mul_lt_mul_of_pos_left h hc
  rw [histogram_of_lt _ n h', histogram_of_lt _ n h, minL_scale c hc, maxL_scale c hc, uniformEdges_scale, List.map_map,
    List.map_congr_left (f := binOf (c * minL xs) (c * maxL xs) n ∘ (c * ·)) fun x _ => binOf_scale c hc _ _ n x]

end Pew.Otsu
