import PewProofs.SortCsv

/-! # C04 — file names: the arithmetic of the digit key `int("".join(digits of the stem))`, what the matchers
accept, and the sort keys read from accepted names -/
namespace Pew.CsvDir

theorem digitVal_le (c : Char) (h : isDigit c = true) : digitVal c ≤ 9 := by
  have : 48 ≤ c.toNat ∧ c.toNat ≤ 57 := Char.isDigit_iff_toNat.mp h
  have e : '0'.toNat = 48 := rfl
  unfold digitVal
  omega

theorem digitsNat_eq (d : List Char) : digitsNat d = Nat.ofDigitChars 10 d 0 :=
  congrArg (List.foldl · 0 d) (funext fun a => funext fun c => congrArg (· + _) (Nat.mul_comm a 10))

theorem digitsNat_append (p d : List Char) : digitsNat (p ++ d) = digitsNat p * 10 ^ d.length + digitsNat d := by
  rw [digitsNat_eq, digitsNat_eq, digitsNat_eq, Nat.ofDigitChars_append, Nat.ofDigitChars_eq_ofDigitChars_zero, Nat.mul_comm]

theorem digitsNat_cons (c : Char) (t : List Char) : digitsNat (c :: t) = digitVal c * 10 ^ t.length + digitsNat t := by
  simpa [digitsNat] using digitsNat_append [c] t

theorem digitsNat_lt : ∀ (d : List Char), (∀ c ∈ d, isDigit c = true) → digitsNat d < 10 ^ d.length
  | [], _ => by simp [digitsNat]
  | c :: t, h => by
    rw [digitsNat_cons, List.length_cons, Nat.pow_succ]
    have hc := digitVal_le c (h c List.mem_cons_self)
    have ht := digitsNat_lt t (fun x hx => h x (List.mem_cons_of_mem _ hx))
    have := Nat.mul_le_mul_right (10 ^ t.length) hc
    omega

theorem numKey_same_width (p d₁ d₂ : List Char) (h : d₁.length = d₂.length) :
    (digitsNat (p ++ d₁) ≤ digitsNat (p ++ d₂)) ↔ (digitsNat d₁ ≤ digitsNat d₂) := by
  rw [digitsNat_append, digitsNat_append, h]
  omega

/-- `toLower` leaves a character alone or maps an upper-case letter into `a..z` -/
theorem toLower_cases (c : Char) :
    c.toLower = c ∨ (97 ≤ c.toLower.toNat ∧ c.toLower.toNat ≤ 122 ∧ 65 ≤ c.toNat ∧ c.toNat ≤ 90) := by
  unfold Char.toLower
  split
  · rename_i h
    right
    have h1 := UInt32.le_iff_toNat_le.mp h.1
    have h2 := UInt32.le_iff_toNat_le.mp h.2
    have e1 : 'A'.val.toNat = 65 := rfl
    have e2 : 'Z'.val.toNat = 90 := rfl
    have e3 : ('a'.val - 'A'.val).toNat = 32 := rfl
    simp only [Char.toNat, UInt32.toNat_add]
    omega
  · left; rfl

theorem toLower_of_digit (c : Char) (h : isDigit c = true) : c.toLower = c := by
  have : 48 ≤ c.toNat ∧ c.toNat ≤ 57 := Char.isDigit_iff_toNat.mp h
  rcases toLower_cases c with h1 | h1
  · exact h1
  · omega

theorem eq_of_toLower_eq (c k : Char) (hk : k.toNat < 97 ∨ 122 < k.toNat) (h : c.toLower = k) : c = k := by
  rcases toLower_cases c with h1 | h1
  · rw [← h, h1]
  · rw [h] at h1; omega

theorem not_digit_of_toLower_mem (c : Char) (p : List Char) (hp : ∀ x ∈ p, isDigit x = false)
    (h : c.toLower ∈ p) : isDigit c = false := by
  cases hd : isDigit c with
  | false => rfl
  | true =>
    rw [toLower_of_digit c hd] at h
    rw [hp c h] at hd
    exact hd.symm

theorem lit_some : ∀ (p s r : List Char), lit p s = some r → ∃ u, s = u ++ r ∧ u.map Char.toLower = p
  | [], s, r, h => by
    simp only [lit, Option.some.injEq] at h
    exact ⟨[], by simp [h], rfl⟩
  | _ :: _, [], r, h => by simp [lit] at h
  | a :: ps, c :: cs, r, h => by
    simp only [lit] at h
    split at h
    · rename_i hac
      obtain ⟨u, hu1, hu2⟩ := lit_some ps cs r h
      refine ⟨c :: u, by simp [hu1], ?_⟩
      simp only [List.map_cons, hu2]
      rw [eq_of_beq hac]
    · cases h

theorem digits1_some (s d r : List Char) (h : digits1 s = some (d, r)) :
    s = d ++ r ∧ d ≠ [] ∧ ∀ x ∈ d, isDigit x = true := by
  unfold digits1 at h
  simp only at h
  split at h
  · cases h
  · rename_i hne
    simp only [Option.some.injEq, Prod.mk.injEq] at h
    obtain ⟨h1, h2⟩ := h
    subst h1 h2
    refine ⟨(List.takeWhile_append_dropWhile).symm, ?_, ?_⟩
    · intro e; rw [e] at hne; simp at hne
    · intro x hx
      exact (List.all_eq_true.mp List.all_takeWhile) x hx

theorem nuFull_shape (s : List Char) (h : nuFull s = true) :
    ∃ u d e, s = u ++ d ++ e ∧ u.map Char.toLower = "line_".toList ∧ d ≠ [] ∧ (∀ x ∈ d, isDigit x = true) ∧
      e.map Char.toLower = ".csv".toList ∧ nuGroup s = some d := by
  unfold nuFull at h
  split at h
  · cases h
  · rename_i r h1
    split at h
    · rename_i d h2
      obtain ⟨u, hu1, hu2⟩ := lit_some _ _ _ h1
      have hg : numCsv r = some d := by unfold numCsv; rw [h2]; rfl
      unfold numCsvR at h2
      split at h2
      · cases h2
      · rename_i d' r' h3
        cases h4 : lit ".csv".toList r' with
        | none => rw [h4] at h2; cases h2
        | some rest' =>
          rw [h4] at h2
          simp only [Option.map_some, Option.some.injEq, Prod.mk.injEq] at h2
          obtain ⟨hd, hrest⟩ := h2
          subst hd hrest
          obtain ⟨hr1, hr2, hr3⟩ := digits1_some _ _ _ h3
          obtain ⟨e, he1, he2⟩ := lit_some _ _ _ h4
          refine ⟨u, d', e, ?_, hu2, hr2, hr3, he2, ?_⟩
          · rw [hu1, hr1, he1]; simp
          · unfold nuGroup
            rw [h1]
            exact hg
    · cases h

theorem stem_append_ext (a t : List Char) (ha : a ≠ []) (ht : t ≠ []) (hdot : ∀ x ∈ t, x ≠ '.') :
    stem (a ++ '.' :: t) = a := by
  have htw : (a ++ '.' :: t).reverse.takeWhile (· != '.') = t.reverse := by
    rw [List.reverse_append, List.reverse_cons, List.append_assoc,
      List.takeWhile_append_of_pos (fun x hx => by simpa using hdot x (List.mem_reverse.mp hx))]
    simp
  have hpos := List.length_pos_iff.mpr ha
  have htpos := List.length_pos_iff.mpr ht
  unfold stem
  simp only [htw, List.length_reverse, List.length_append, List.length_cons]
  rw [if_neg (by simp; omega), if_pos (by simp; omega), List.take_left' (by omega)]

/-- **Nu.** For a name that is `line_<digits>.csv` in full (any letter case, any zero padding, mixed or
not) the digits of the stem are exactly the digits of the line index: the code's key is the numeric
line index. -/
theorem nu_key_is_index (tkey : List Nat → Int) (name : String) (h : nuFull name.toList = true) :
    sortKey .nu tkey name = acqKey .nu name := by
  simp only [sortKey, acqKey]
  generalize name.toList = s at h ⊢
  obtain ⟨u, d, e, hs, hu, hd0, hd, he, hg⟩ := nuFull_shape s h
  -- the extension `e` is a dot and three letters, none of them a dot: `stem`, which cuts at the last dot, leaves
  -- `u ++ d`, and the only digits of that are those of `d`
  rw [String.toList_ofList] at he hu
  obtain ⟨e0, t, rfl, q0, ht⟩ := List.map_eq_cons_iff.mp he
  obtain rfl : e0 = '.' := eq_of_toLower_eq e0 '.' (by decide) q0
  have htne : t ≠ [] := fun h => by rw [h] at ht; cases ht
  have hdot : ∀ x ∈ t, x ≠ '.' := fun x hx hxd => by
    have : x.toLower ∈ ['c', 's', 'v'] := ht ▸ List.mem_map.mpr ⟨x, hx, rfl⟩
    rw [hxd] at this
    revert this
    decide
  have hstem : stem s = u ++ d := by
    rw [hs]
    exact stem_append_ext (u ++ d) t (fun h => hd0 (List.append_eq_nil_iff.mp h).2) htne hdot
  have hu' : u.filter isDigit = [] := by
    apply List.filter_eq_nil_iff.mpr
    intro x hx
    have : x.toLower ∈ ['l', 'i', 'n', 'e', '_'] := hu ▸ List.mem_map.mpr ⟨x, hx, rfl⟩
    simp [not_digit_of_toLower_mem x _ (by decide) this]
  rw [hg]
  unfold stemDigitsKey
  simp only [hstem, List.filter_append, hu', List.filter_eq_self.mpr hd, List.nil_append, List.isEmpty_iff, hd0,
    if_false, Option.map_some, Option.getD_some]

/-- Python's `str <=`: by code point, a proper prefix first -/
def strLe : List Char → List Char → Bool
  | [], _ => true
  | _ :: _, [] => false
  | a :: as, b :: bs => if a.toNat < b.toNat then true else if a.toNat = b.toNat then strLe as bs else false

/-- **the list encoding of a `(str, int)` key is compared like the Python tuple**: by the string,
and for equal strings by the integer -/
theorem tupleKey_order : ∀ (p q : List Char) (i j : Int),
    keyLe (tupleKey p i) (tupleKey q j) = if p = q then decide (i ≤ j) else strLe p q
  | [], [], i, j => by
    show keyLe [-1, i] [-1, j] = _
    rw [keyLe_cons_cons, if_neg (by omega), if_pos rfl, keyLe_singleton, if_pos rfl]
  | [], b :: bs, i, j => by
    show keyLe (-1 :: [i]) ((b.toNat : Int) :: _) = _
    rw [keyLe_cons_cons, if_pos (by omega), if_neg (by simp)]
    rfl
  | a :: as, [], i, j => by
    show keyLe ((a.toNat : Int) :: _) (-1 :: [j]) = _
    rw [keyLe_cons_cons, if_neg (by omega), if_neg (by omega), if_neg (by simp)]
    rfl
  | a :: as, b :: bs, i, j => by
    show keyLe ((a.toNat : Int) :: tupleKey as i) ((b.toNat : Int) :: tupleKey bs j) = _
    rw [keyLe_cons_cons, tupleKey_order as bs i j, strLe]
    simp only [Int.ofNat_lt, Int.natCast_inj, List.cons.injEq, Char.toNat_inj]
    by_cases h : a = b
    · subst h; simp
    · simp only [h, false_and, if_false]

/-- **LDR (after 0a523e4).** For every name the LDR pattern accepts the code's key is the pair
(lower-cased sample name, integer after `_ldr_`): the fall-back branch is never taken, digits in the
sample name and zero padding do not enter the index. -/
theorem ldr_key_is_sample_index (tkey : List Nat → Int) (name : String) (h : matchesV .ldr name = true) :
    sortKey .ldr tkey name = acqKey .ldr name := by
  simp only [matchesV, ldrGroup, Option.isSome_map] at h
  simp only [sortKey, ldrKey, acqKey]
  cases hp : ldrParts name.toList with
  | none => rw [hp] at h; cases h
  | some pd => rfl

/-- `ldr_key_is_sample_index` at one conversion (the LDR key never calls it) -/
theorem ldr_key_eq_acq (s : String) (h : matchesV .ldr s = true) :
    sortKey .ldr (fun _ => 0) s = acqKey .ldr s :=
  ldr_key_is_sample_index _ s h

/-- the name form under which the code's key order is the acquisition order: Nu names are
`line_<digits>.csv` in full, TOFWERK stamps are valid dates and times of day; every name the LDR or
generic pattern accepts qualifies -/
def nameForm (v : Vendor) (name : String) : Bool :=
  match v with
  | .nu => nuFull name.toList
  | .ldr => true
  | .tofwerk => validStampB (stampFields name.toList)
  | .generic => true

end Pew.CsvDir
