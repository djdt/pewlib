import PewModel.FastParse
/-! # C17 — what the callback returns, and histories of imports

Neither part needs the parser: `outcomeOk` and `firstFalsy` are read through their cons equations; the results of a
history are its imports mapped, whatever the heap holds (`results_foldl`). -/
namespace Pew.FastParse

theorem isFalse_falsy (v : PyVal) (h : v.isFalse = true) : v.truthy = false := by
  cases v <;> simp_all [PyVal.isFalse, PyVal.truthy]

theorem isTrue_truthy (v : PyVal) (h : v.isTrue = true) : v.truthy = true := by
  cases v with
  | int n => simp only [PyVal.isTrue, beq_iff_eq] at h; subst h; simp [PyVal.truthy]
  | _ => simp_all [PyVal.isTrue, PyVal.truthy]

theorem firstFalsy_cons (v : PyVal) (vs : List PyVal) :
    firstFalsy (v :: vs) = if v.truthy then (firstFalsy vs).map (· + 1) else some 0 := by
  cases h : v.truthy <;> simp [firstFalsy, List.findIdx?_cons, h]

theorem outcomeOk_cons_none (v : PyVal) (vs : List PyVal) :
    outcomeOk (v :: vs) none = (!v.isFalse && outcomeOk vs none) := rfl

theorem outcomeOk_cons_zero (v : PyVal) (vs : List PyVal) : outcomeOk (v :: vs) (some 0) = !v.isTrue := by
  simp [outcomeOk]

theorem outcomeOk_cons_succ (v : PyVal) (vs : List PyVal) (j : Nat) :
    outcomeOk (v :: vs) (some (j + 1)) = (!v.isFalse && outcomeOk vs (some j)) := by
  simp [outcomeOk, Bool.and_assoc]

theorem firstFalsy_map (f : Nat → PyVal) (l : List Nat) : firstFalsy (l.map f) = l.findIdx? (fun p => !cbOf f p) := by
  simp [firstFalsy, List.findIdx?_map, cbOf, Function.comp_def]

theorem firstFalsy_map_eq_none (f : Nat → PyVal) (l : List Nat) (h : ∀ q ∈ l, cbOf f q = true) :
    firstFalsy (l.map f) = none := by
  rw [firstFalsy_map, List.findIdx?_eq_none_iff]
  exact fun q hq => by simp [h q hq]

theorem firstFalsy_map_append (f : Nat → PyVal) (pre : List Nat) (p : Nat) (hpre : ∀ q ∈ pre, cbOf f q = true)
    (hp : cbOf f p = false) : firstFalsy ((pre ++ [p]).map f) = some pre.length := by
  rw [firstFalsy_map, List.findIdx?_append, List.findIdx?_eq_none_iff.2 (fun q hq => by simp [hpre q hq])]
  simp [hp]

theorem outcomeOk_firstFalsy (vals : List PyVal) : outcomeOk vals (firstFalsy vals) = true := by
  induction vals with
  | nil => rfl
  | cons v vs ih =>
    rw [firstFalsy_cons]
    cases ht : v.truthy
    · have : v.isTrue = false := Bool.eq_false_iff.2 fun h => by simp [isTrue_truthy v h] at ht
      simp [outcomeOk_cons_zero, this]
    · have : v.isFalse = false := Bool.eq_false_iff.2 fun h => by simp [isFalse_falsy v h] at ht
      cases hf : firstFalsy vs <;> simp_all [outcomeOk_cons_none, outcomeOk_cons_succ]

theorem results_foldl (d : Doc) (ls : List (Line × Nat)) (ops : List Op) (s : Session) :
    (ops.foldl (Session.step d ls) s).results = s.results ++ (importsOf ops).map (importOnce d ls) := by
  induction ops generalizing s with
  | nil => simp [importsOf]
  | cons op r ih =>
    rw [List.foldl_cons, ih]
    cases op with
    | imp i =>
      simp only [importsOf, List.map_cons]
      unfold Session.step
      cases h : importOnce d ls i <;> simp [h]
    | edit k e => simp [importsOf, Session.step]

end Pew.FastParse
