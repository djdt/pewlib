import PewProofs.Sync
import PewProofs.SyncLayout

/-! # C08 — the rendered times, shifted as `sync` shifts them, are laser-clock times; `searchsorted` of an event is the
event's prefix sum cut to the recorded window -/
namespace Pew.Sync

theorem signal_getElem? (a : Acq) (k : Nat) :
    (signal a)[k]? = if k < a.take then (emitAll a).samples[a.skip + k]? else none :=
  Lists.getElem?_window _ _ _ _

theorem signal_length (a : Acq) (h : a.skip + a.take ≤ (emitAll a).samples.length) : (signal a).length = a.take :=
  Lists.length_window _ _ _ h

theorem signal_sorted (a : Acq) (h0 : 0 < a.phase) (h1 : a.phase < 1) (hd : ∀ p ∈ a.patterns, 0 < p.dwell) :
    (signal a).Pairwise (fun x y => x.t < y.t) :=
  (emitAll_sorted a h0 h1 hd).sublist ((List.take_sublist _ _).trans (List.drop_sublist _ _))

theorem render_some (a : Acq) (sel : Option (List Int)) (rd : Rendered) (h : render a sel = some rd) :
    ∃ f s0, firstFiring a sel = some f ∧ (signal a).head? = some s0 ∧
      rd = { rows := (emitAll a).rows
             times := (signal a).map (fun x => a.t0 + (x.t - s0.t) / 1000)
             delay := (s0.t - (f : Rat)) / 1000 } := by
  unfold render at h
  cases hf : firstFiring a sel with
  | none => simp [hf] at h
  | some f =>
    cases hs : (signal a).head? with
    | none => simp [hf, hs] at h
    | some s0 =>
      simp [hf, hs] at h
      exact ⟨f, s0, rfl, rfl, h.symm⟩

theorem render_rows {a : Acq} {sel : Option (List Int)} {rd : Rendered} (h : render a sel = some rd) :
    rd.rows = (emitAll a).rows := by
  obtain ⟨_, _, _, _, rfl⟩ := render_some a sel rd h; rfl

theorem shifted_times (a : Acq) (h0 : 0 < a.phase) (h1 : a.phase < 1) (hd : ∀ p ∈ a.patterns, 0 < p.dwell)
    (s0 : Sample) (hs0 : (signal a).head? = some s0) (f : Int) :
    shiftTimes ((signal a).map (fun x => a.t0 + (x.t - s0.t) / 1000)) ((s0.t - (f : Rat)) / 1000)
      = (signal a).map (fun x => (x.t - (f : Rat)) / 1000) := by
  have hsorted := signal_sorted a h0 h1 hd
  cases hsig : signal a with
  | nil => rw [hsig] at hs0; cases hs0
  | cons s rest =>
    rw [hsig] at hs0 hsorted
    obtain rfl : s = s0 := Option.some.inj hs0
    rw [List.map_cons, shiftTimes_of_head_min, ← List.map_cons (f := fun x : Sample => a.t0 + (x.t - s.t) / 1000),
      List.map_map]
    · exact List.map_congr_left fun y _ => by simp only [Function.comp]; ring
    · intro y hy
      obtain ⟨z, hz, rfl⟩ := List.mem_map.mp hy
      have := (List.pairwise_cons.mp hsorted).1 z hz
      linarith

/-- `P` is the number of samples before the event (`hP`, which `render_event_index` supplies for `On` and for `Off`);
the signal is the window `[skip, skip + take)` of the samples -/
theorem searchsorted_event (a : Acq)
    (hlen : a.skip + a.take ≤ (emitAll a).samples.length)
    (f : Int) (v P : Nat)
    (hP : ∀ n s, (emitAll a).samples[n]? = some s → (s.t < (v : Rat) ↔ n < P)) :
    searchsorted ((signal a).map (fun x => (x.t - (f : Rat)) / 1000)) ((((v : Int) - f : Int) : Rat) / 1000)
      = min (P - a.skip) a.take := by
  unfold searchsorted signal
  rw [List.filter_map, List.length_map, count_prefix _ _ (P - a.skip), List.length_take, List.length_drop]
  · omega
  · intro n x hx
    rw [List.getElem?_take] at hx
    split at hx
    · rw [List.getElem?_drop] at hx
      simp only [Function.comp, decide_eq_true_eq]
      rw [div_lt_div_iff_of_pos_right (by norm_num), Int.cast_sub, Int.cast_natCast, sub_lt_sub_iff_right, hP _ x hx]
      omega
    · cases hx

theorem interval_isUniform (a : Acq) (ts : List Rat) (dt : Rat) (h : a.interval ts = some dt) :
    isUniform ts dt = true := by
  match ts, h with
  | [t], h =>
    simp only [Acq.interval, Option.map_eq_some_iff] at h
    obtain ⟨p, _, rfl⟩ := h
    have : (0 : Rat) ≤ (p.dwell : Rat) / 1000 := div_nonneg (Nat.cast_nonneg _) (by norm_num)
    simp [isUniform, this]
  | t0 :: t1 :: rest, h =>
    simp only [Acq.interval] at h
    split at h
    · rename_i hu; rw [← Option.some.inj h]; exact hu
    · cases h

end Pew.Sync
