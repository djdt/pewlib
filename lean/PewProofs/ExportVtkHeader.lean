import PewProofs.ExportVtkBlocks

/-! # C16 — the VTK header: what the writer prints the reader takes back — escaped names, decimal numbers, and every tag as
one line that the scanner inverts, given what the opaque tokens avoid; the head and body of the rendered file -/
namespace Pew.Export

/-- what the header needs of the opaque tokens (`sys.byteorder`'s name, `str(spacing[i])`): no
quote, ampersand or line break, and no space inside a spacing value -/
structure HeadOk (endian : Str) (spacing : Str × Str × Str) (names : List Str) : Prop where
  endian : ∀ c ∈ endian, c ≠ '"' ∧ c ≠ '&' ∧ c ≠ '\n'
  spacing : ∀ t ∈ [spacing.1, spacing.2.1, spacing.2.2], ∀ c ∈ t, c ≠ '"' ∧ c ≠ '&' ∧ c ≠ '\n' ∧ c ≠ ' '
  names : ∀ n ∈ names, '\n' ∉ n

theorem headOkB_sound (endian : Str) (spacing : Str × Str × Str) (names : List Str)
    (h : headOkB endian spacing names = true) : HeadOk endian spacing names := by
  simp only [headOkB, Bool.and_eq_true, List.all_eq_true, decide_eq_true_eq, Bool.not_eq_true',
    List.contains_eq_mem, decide_eq_false_iff_not, and_assoc] at h
  exact ⟨h.1, h.2.1, h.2.2⟩

theorem replaceC_eq (c : Char) (rep s : Str) : replaceC c rep s = s.flatMap (fun x => if x = c then rep else [x]) := rfl

theorem unescape_cons_of_ne (c : Char) (r : Str) (h : c ≠ '&') : unescape (c :: r) = c :: unescape r := by
  rw [unescape]
  simp [h]

theorem unescape_noamp (s : Str) (h : '&' ∉ s) : unescape s = s := by
  induction s with
  | nil => simp [unescape]
  | cons c cs ih =>
    have hc : c ≠ '&' := fun e => h (by simp [e])
    rw [unescape_cons_of_ne c cs hc, ih (fun e => h (by simp [e]))]

theorem xmlSpecial_cases {P : Char → Prop} (amp : P '&') (lt : P '<') (gt : P '>') (quot : P '"') (apos : P '\'')
    (plain : ∀ c, c ≠ '&' → c ≠ '<' → c ≠ '>' → c ≠ '"' → c ≠ '\'' → P c) (c : Char) : P c :=
  if h1 : c = '&' then h1 ▸ amp else if h2 : c = '<' then h2 ▸ lt else if h3 : c = '>' then h3 ▸ gt
  else if h4 : c = '"' then h4 ▸ quot else if h5 : c = '\'' then h5 ▸ apos else plain c h1 h2 h3 h4 h5

theorem escChar_of_not_special (c : Char) (h1 : c ≠ '&') (h2 : c ≠ '<') (h3 : c ≠ '>') (h4 : c ≠ '"') (h5 : c ≠ '\'') :
    escChar c = [c] := by
  rw [escChar, if_neg h1, if_neg h2, if_neg h3, if_neg h4, if_neg h5]

theorem replaceC_singleton (c : Char) (rep : Str) (x : Char) : replaceC c rep [x] = if x = c then rep else [x] :=
  List.flatMap_singleton ..

theorem replaceC_append (c : Char) (rep a b : Str) : replaceC c rep (a ++ b) = replaceC c rep a ++ replaceC c rep b :=
  List.flatMap_append

theorem escapeMech_append (a b : Str) : escapeMech (a ++ b) = escapeMech a ++ escapeMech b := by
  simp only [escapeMech, replaceC_append]

theorem escapeMech_singleton (c : Char) : escapeMech [c] = escChar c := by
  induction c using xmlSpecial_cases with
  | plain c h1 h2 h3 h4 h5 =>
    rw [escChar_of_not_special c h1 h2 h3 h4 h5]
    simp only [escapeMech, replaceC_singleton, if_neg h1, if_neg h2, if_neg h3, if_neg h4, if_neg h5]
  | _ =>
    simp only [escapeMech, escChar, Char.reduceEq, ↓reduceIte]
    decide_chars

/-- the five sequential replacements of the code (ampersand first) escape every character
independently: no replacement re-escapes the output of an earlier one -/
theorem escape_mech_eq_spec (s : Str) : escapeMech s = escapeSpec s := by
  induction s with
  | nil => rfl
  | cons c s ih =>
    rw [← List.singleton_append, escapeMech_append, escapeMech_singleton, ih]
    rfl

theorem unescape_entity {r : Str} {d : Char} {t : Str} (h : entityAt r = some (d, t)) :
    unescape ('&' :: r) = d :: unescape t := by
  rw [unescape, if_pos rfl]
  split
  · rename_i d' t' heq
    rw [h] at heq
    injection heq with heq
    injection heq with h1 h2
    rw [h1, h2]
  · rename_i heq
    rw [h] at heq
    exact absurd heq (by simp)

theorem unescape_escChar (c : Char) (r : Str) : unescape (escChar c ++ r) = c :: unescape r := by
  induction c using xmlSpecial_cases with
  | plain c h1 h2 h3 h4 h5 => rw [escChar_of_not_special c h1 h2 h3 h4 h5]; exact unescape_cons_of_ne c r h1
  | _ =>
    simp only [escChar, Char.reduceEq, ↓reduceIte]
    rw [String.toList_ofList]
    exact unescape_entity rfl

/-- **escaping is inverted by entity decoding**, for every string (also one that already contains
entity text such as `&amp;`) -/
theorem escape_inverse (s : Str) : unescape (escapeMech s) = s := by
  rw [escape_mech_eq_spec]
  induction s with
  | nil => rw [escapeSpec, List.flatMap_nil, unescape]
  | cons c s ih => rw [escapeSpec, List.flatMap_cons, unescape_escChar, ← escapeSpec, ih]

theorem escChar_chars (x c : Char) (h : c ∈ escChar x) : c ≠ '"' ∧ (c = '\n' → x = '\n') := by
  induction x using xmlSpecial_cases with
  | plain x h1 h2 h3 h4 h5 =>
    rw [escChar_of_not_special x h1 h2 h3 h4 h5, List.mem_singleton] at h
    subst h
    exact ⟨h4, id⟩
  | _ =>
    revert c
    simp only [escChar, Char.reduceEq, ↓reduceIte]
    decide_chars

theorem escapeMech_chars (s : Str) (hs : '\n' ∉ s) : ∀ c ∈ escapeMech s, c ≠ '"' ∧ c ≠ '\n' := by
  intro c h
  rw [escape_mech_eq_spec] at h
  obtain ⟨x, hxs, hx⟩ := List.mem_flatMap.mp h
  exact ⟨(escChar_chars x c hx).1, fun e => hs ((escChar_chars x c hx).2 e ▸ hxs)⟩

theorem natStr_lt {n : Nat} (h : n < 10) : natStr n = [digitChar n] := by rw [natStr, dif_pos h]

theorem natStr_ge {n : Nat} (h : ¬ n < 10) : natStr n = natStr (n / 10) ++ [digitChar (n % 10)] := by rw [natStr, dif_neg h]

theorem digitChar_eq (d : Nat) (h : d < 10) : digitChar d = Nat.digitChar d :=
  (by decide +kernel : ∀ d < 10, digitChar d = Nat.digitChar d) d h

theorem natStr_eq (n : Nat) : natStr n = Nat.toDigits 10 n := by
  induction n using natStr.induct with
  | case1 n h => rw [natStr_lt h, Nat.toDigits_of_lt_base h, digitChar_eq n h]
  | case2 n h ih =>
    rw [natStr_ge h, ih, digitChar_eq _ (Nat.mod_lt _ (by decide)), Nat.toDigits_of_base_le (by decide) (Nat.le_of_not_lt h)]

theorem parseNatAux_eq (s : Str) (acc : Nat) (h : ∀ c ∈ s, c.isDigit = true) :
    parseNatAux acc s = some (Nat.ofDigitChars 10 s acc) := by
  induction s generalizing acc with
  | nil => rfl
  | cons c r ih =>
    have hc : digitVal c = some (c.toNat - 48) :=
      if_pos (by simpa [Char.isDigit, UInt32.le_iff_toNat_le] using h c List.mem_cons_self)
    rw [parseNatAux, hc, Nat.ofDigitChars_cons, Nat.mul_comm]
    exact ih _ fun x hx => h x (List.mem_cons_of_mem _ hx)

theorem parseNat_natStr (n : Nat) : parseNat (natStr n) = some n := by
  rw [natStr_eq, parseNat, if_neg Nat.toDigits_ne_nil,
    parseNatAux_eq _ _ fun _ hc => Nat.isDigit_of_mem_toDigits (by decide) (by decide) hc, Nat.ofDigitChars_ten_toDigits]

theorem natStr_plain (n : Nat) : ∀ c ∈ natStr n, c ≠ ' ' ∧ c ≠ '"' ∧ c ≠ '&' ∧ c ≠ '\n' := by
  intro c hc
  have h : c.isDigit = true := Nat.isDigit_of_mem_toDigits (by decide) (by decide) (natStr_eq n ▸ hc)
  refine ⟨?_, ?_, ?_, ?_⟩ <;> (rintro rfl; exact absurd h (by decide))

theorem join_chars {P : Char → Prop} (ts : List Str) (hsp : P ' ') (h : ∀ t ∈ ts, ∀ c ∈ t, P c) : ∀ c ∈ join ' ' ts, P c := by
  intro c hc
  rcases mem_join ' ' ts c hc with rfl | ⟨t, ht, hct⟩
  · exact hsp
  · exact h t ht c hct

theorem mapOpt_map_of_inverse {β γ : Type} (f : β → Option γ) (g : γ → β) (h : ∀ y, f (g y) = some y) (ys : List γ) :
    mapOpt f (ys.map g) = some ys := by
  induction ys with
  | nil => rfl
  | cons y ys ih => simp [mapOpt, h, ih]

theorem parseNats_join (ns : List Nat) (hne : ns ≠ []) : parseNats (join ' ' (ns.map natStr)) = some ns := by
  rw [parseNats, splitOn_join ' ' _ (by simpa using hne) (by
    simp only [List.forall_mem_map]
    exact fun n _ h => (natStr_plain n _ h).1 rfl)]
  exact mapOpt_map_of_inverse _ _ parseNat_natStr ns

theorem extentStr_eq_join (nx ny nz : Nat) : extentStr nx ny nz = join ' ' ([0, nx, 0, ny, 0, nz].map natStr) := by
  simp only [List.map_cons, List.map_nil, natStr_lt (by decide : 0 < 10)]
  rfl

theorem extentStr_plain (nx ny nz : Nat) : ∀ c ∈ extentStr nx ny nz, c ≠ '"' ∧ c ≠ '&' ∧ c ≠ '\n' := by
  rw [extentStr_eq_join]
  refine join_chars _ (by decide) ?_
  simp only [List.forall_mem_map]
  exact fun n _ c h => (natStr_plain n c h).2

theorem parseNats_extentStr (nx ny nz : Nat) : parseNats (extentStr nx ny nz) = some [0, nx, 0, ny, 0, nz] := by
  rw [extentStr_eq_join, parseNats_join _ (by simp)]

theorem scanAttrs_key (acc k rest : Str) (hk : '=' ∉ k) :
    scanAttrs (.key acc) (k ++ '=' :: rest) = scanAttrs (.quote (acc ++ k)) rest := by
  induction k generalizing acc with
  | nil => simp [scanAttrs]
  | cons c cs ih =>
    have hc : c ≠ '=' := fun e => hk (by simp [e])
    have hcs : '=' ∉ cs := fun e => hk (by simp [e])
    simp only [List.cons_append, scanAttrs, if_neg hc]
    rw [ih _ hcs]
    simp

theorem scanAttrs_val (k acc v rest : Str) (hv : '"' ∉ v) :
    scanAttrs (.val k acc) (v ++ '"' :: rest) =
      match scanAttrs .start rest with
      | some (as, e) => some ((k, unescape (acc ++ v)) :: as, e)
      | none => none := by
  induction v generalizing acc with
  | nil =>
    simp only [List.nil_append, scanAttrs, if_true, List.append_nil]
    rfl
  | cons c cs ih =>
    have hc : c ≠ '"' := fun e => hv (by simp [e])
    have hcs : '"' ∉ cs := fun e => hv (by simp [e])
    simp only [List.cons_append, scanAttrs, if_neg hc]
    rw [ih _ hcs]
    simp

theorem attrsText_cons (p : Str × Str) (ps : List (Str × Str)) :
    attrsText (p :: ps) = ' ' :: (p.1 ++ '=' :: '"' :: (p.2 ++ '"' :: attrsText ps)) := by
  simp [attrsText, attr]

theorem scanAttrs_attrsText (attrs : List (Str × Str)) (tail : Str)
    (h : ∀ p ∈ attrs, '=' ∉ p.1 ∧ '"' ∉ p.2) (ht : tail.head? ≠ some ' ') :
    scanAttrs .start (attrsText attrs ++ tail) = some (attrs.map (fun p => (p.1, unescape p.2)), tail) := by
  induction attrs with
  | nil =>
    cases tail with
    | nil => simp [attrsText, scanAttrs]
    | cons c r =>
      have : c ≠ ' ' := fun e => ht (by simp [e])
      simp [attrsText, scanAttrs, this]
  | cons p ps ih =>
    have hp := h p (by simp)
    have ih' := ih (fun q hq => h q (by simp [hq]))
    rw [attrsText_cons, List.cons_append, scanAttrs, if_pos rfl, List.append_assoc, List.cons_append,
      scanAttrs_key _ _ _ hp.1, List.cons_append, scanAttrs, if_pos rfl, List.nil_append, List.append_assoc,
      List.cons_append, scanAttrs_val _ _ _ _ hp.2, ih']
    rfl

theorem tagLine_reads (name : Str) (attrs : List (Str × Str)) (closer : Str)
    (hn : name ≠ [] ∧ ∀ c ∈ name, isNameChar c = true ∧ c ≠ '?' ∧ c ≠ '\n')
    (ha : ∀ p ∈ attrs, (∀ c ∈ p.1, c ≠ '=' ∧ c ≠ '\n') ∧ ∀ c ∈ p.2, c ≠ '"' ∧ c ≠ '\n')
    (hc : closer = ['>'] ∨ closer = ['/', '>']) :
    '\n' ∉ tagLine name attrs closer ∧
    parseTag (tagLine name attrs closer) =
      if closer = ['>'] then some (.opening name (attrs.map fun p => (p.1, unescape p.2)))
      else some (.empty name (attrs.map fun p => (p.1, unescape p.2))) := by
  constructor
  · simp only [tagLine, attrsText, attr, List.mem_cons, List.mem_append, List.mem_flatMap, List.not_mem_nil, or_false,
      Char.reduceEq, false_or, not_or, not_exists, not_and]
    exact ⟨fun h => (hn.2 _ h).2.2 rfl, fun p hp => ⟨fun h => ((ha p hp).1 _ h).2 rfl, fun h => ((ha p hp).2 _ h).2 rfl⟩,
      by rcases hc with rfl | rfl <;> decide⟩
  unfold tagLine
  cases name with
  | nil => exact absurd rfl hn.1
  | cons d r' =>
    have hd := hn.2 d (by simp)
    have hd2 : d ≠ '/' := by
      intro e; subst e
      have := hd.1
      simp [isNameChar] at this
    have hhead : ∀ c, (attrsText attrs ++ closer).head? = some c → isNameChar c = false := by
      intro c hcq
      cases attrs with
      | nil =>
        rcases hc with e | e <;> subst e <;> simp [attrsText] at hcq <;> subst hcq <;> decide
      | cons p ps =>
        simp [attrsText, attr] at hcq
        subst hcq; decide
    have htd := Lists.takeWhile_dropWhile_append (l := d :: r') (fun c hcm => (hn.2 c hcm).1) hhead
    have hcl : closer.head? ≠ some ' ' := by
      rcases hc with e | e <;> subst e <;> simp
    have hscan := scanAttrs_attrsText attrs closer
      (fun p hp => ⟨fun h => ((ha p hp).1 _ h).1 rfl, fun h => ((ha p hp).2 _ h).1 rfl⟩) hcl
    simp only [parseTag, ne_eq, not_true_eq_false, if_false, List.cons_append, if_neg hd.2.1, if_neg hd2]
    have e1 : (d :: (r' ++ (attrsText attrs ++ closer))) = (d :: r') ++ (attrsText attrs ++ closer) := rfl
    rw [e1, htd.1, htd.2, hscan]
    rcases hc with e | e <;> subst e <;> simp

theorem lookup_head (k v : Str) (r : List (Str × Str)) : lookup k ((k, v) :: r) = some v := by simp [lookup]

theorem lookup_skip (k k' v : Str) (r : List (Str × Str)) (h : k' ≠ k) : lookup k ((k', v) :: r) = lookup k r := by
  simp [lookup, h]

theorem openTag_reads (nm : String) (attrs : List (Str × Str))
    (hn : nm.toList ≠ [] ∧ ∀ c ∈ nm.toList, isNameChar c = true ∧ c ≠ '?' ∧ c ≠ '\n')
    (ha : ∀ p ∈ attrs, (∀ c ∈ p.1, c ≠ '=' ∧ c ≠ '\n') ∧ ∀ c ∈ p.2, c ≠ '"' ∧ c ≠ '\n') :
    '\n' ∉ tagLine nm.toList attrs ['>'] ∧
      openAttrs nm (parseTag (tagLine nm.toList attrs ['>'])) = some (attrs.map fun p => (p.1, unescape p.2)) := by
  obtain ⟨h1, h2⟩ := tagLine_reads nm.toList attrs ['>'] hn ha (Or.inl rfl)
  exact ⟨h1, by rw [h2, if_pos rfl, openAttrs, if_pos rfl]⟩

theorem openTag_reads_noamp (nm : String) (attrs : List (Str × Str))
    (hn : nm.toList ≠ [] ∧ ∀ c ∈ nm.toList, isNameChar c = true ∧ c ≠ '?' ∧ c ≠ '\n')
    (ha : ∀ p ∈ attrs, (∀ c ∈ p.1, c ≠ '=' ∧ c ≠ '\n') ∧ ∀ c ∈ p.2, c ≠ '"' ∧ c ≠ '&' ∧ c ≠ '\n') :
    '\n' ∉ tagLine nm.toList attrs ['>'] ∧ openAttrs nm (parseTag (tagLine nm.toList attrs ['>'])) = some attrs := by
  have := openTag_reads nm attrs hn fun p hp => ⟨(ha p hp).1, fun c hc => ⟨((ha p hp).2 c hc).1, ((ha p hp).2 c hc).2.2⟩⟩
  rwa [Lists.map_eq_self _ attrs fun p hp => by rw [unescape_noamp _ fun h => ((ha p hp).2 _ h).2.1 rfl]] at this

def declared (p : Str × Nat) : ArrayMeta :=
  { name := p.1, type := "Float64".toList, format := "appended".toList, offset := p.2 }

theorem arrayLine_reads (p : Str × Nat) (hnl : '\n' ∉ p.1) :
    '\n' ∉ arrayLine p.1 p.2 ∧ (parseTag (arrayLine p.1 p.2)).bind arrayOf = some (declared p) := by
  have hn : "DataArray".toList ≠ [] ∧ ∀ c ∈ "DataArray".toList, isNameChar c = true ∧ c ≠ '?' ∧ c ≠ '\n' := by
    decide_chars
  have k1 : ∀ c ∈ "Name".toList, c ≠ '=' ∧ c ≠ '\n' := by decide_chars
  have a2 : (∀ c ∈ "type".toList, c ≠ '=' ∧ c ≠ '\n') ∧ (∀ c ∈ "Float64".toList, c ≠ '"' ∧ c ≠ '\n') ∧
      '&' ∉ "Float64".toList := by decide_chars
  have a3 : (∀ c ∈ "format".toList, c ≠ '=' ∧ c ≠ '\n') ∧ (∀ c ∈ "appended".toList, c ≠ '"' ∧ c ≠ '\n') ∧
      '&' ∉ "appended".toList := by decide_chars
  have k4 : ∀ c ∈ "offset".toList, c ≠ '=' ∧ c ≠ '\n' := by decide_chars
  have v4 := natStr_plain p.2
  obtain ⟨h1, h2⟩ := tagLine_reads "DataArray".toList [("Name".toList, escapeMech p.1), ("type".toList, "Float64".toList),
      ("format".toList, "appended".toList), ("offset".toList, natStr p.2)] ['/', '>'] hn (by
    simp only [List.forall_mem_cons]
    exact ⟨⟨k1, escapeMech_chars p.1 hnl⟩, ⟨a2.1, a2.2.1⟩, ⟨a3.1, a3.2.1⟩,
      ⟨k4, fun c hc => ⟨(v4 c hc).2.1, (v4 c hc).2.2.2⟩⟩, nofun⟩) (Or.inr rfl)
  refine ⟨h1, ?_⟩
  rw [arrayLine, h2, if_neg (by decide)]
  simp only [Option.bind_some, List.map_cons, List.map_nil, escape_inverse, unescape_noamp _ a2.2.2,
    unescape_noamp _ a3.2.2, unescape_noamp _ fun h => (v4 _ h).2.2.1 rfl]
  rw [arrayOf, if_pos rfl, lookup_head, lookup_skip _ _ _ _ (by decide_chars), lookup_head,
    lookup_skip _ _ _ _ (by decide_chars), lookup_skip _ _ _ _ (by decide_chars), lookup_head,
    lookup_skip _ _ _ _ (by decide_chars), lookup_skip _ _ _ _ (by decide_chars),
    lookup_skip _ _ _ _ (by decide_chars), lookup_head, Option.bind_some, parseNat_natStr]
  rfl

theorem spanArrays_lines {β : Type} (ps : List β) (line : β → Str) (mk : β → ArrayMeta) (stop : Str) (rest : List Str)
    (h : ∀ p ∈ ps, (parseTag (line p)).bind arrayOf = some (mk p)) (hstop : (parseTag stop).bind arrayOf = none) :
    spanArrays (ps.map line ++ stop :: rest) = (ps.map mk, stop :: rest) := by
  induction ps with
  | nil =>
    rw [List.map_nil, List.nil_append, spanArrays, hstop]
    rfl
  | cons p ps ih =>
    simp only [List.map_cons, List.cons_append]
    rw [spanArrays, h p List.mem_cons_self, ih fun q hq => h q (List.mem_cons_of_mem _ hq)]

/-- `vtkParse` on a header given by its lines: what the reader finds, from what it makes of each line -/
theorem vtkParse_lines {l0 l1 l2 l3 l4 c0 c1 c2 ap : Str} {arr : List Str} {a1 a2 a3 a4 a5 : List (Str × Str)}
    {am : List ArrayMeta} {ft ve bo ht org sp sc enc : Str} {wh pe : List Nat}
    (hnl : ∀ l ∈ l0 :: l1 :: l2 :: l3 :: l4 :: (arr ++ [c0, c1, c2, ap]), '\n' ∉ l)
    (h0 : parseTag l0 = some .decl) (h1 : openAttrs "VTKFile" (parseTag l1) = some a1)
    (h2 : openAttrs "ImageData" (parseTag l2) = some a2) (h3 : openAttrs "Piece" (parseTag l3) = some a3)
    (h4 : openAttrs "CellData" (parseTag l4) = some a4)
    (hspan : spanArrays (arr ++ [c0, c1, c2, ap, ['_']]) = (am, [c0, c1, c2, ap, ['_']]))
    (hc0 : parseTag c0 = some (.closing "CellData".toList)) (hc1 : parseTag c1 = some (.closing "Piece".toList))
    (hc2 : parseTag c2 = some (.closing "ImageData".toList)) (h5 : openAttrs "AppendedData" (parseTag ap) = some a5)
    (e1 : lookup "type".toList a1 = some ft) (e2 : lookup "version".toList a1 = some ve)
    (e3 : lookup "byte_order".toList a1 = some bo) (e4 : lookup "header_type".toList a1 = some ht)
    (e5 : (lookup "WholeExtent".toList a2).bind parseNats = some wh) (e6 : lookup "Origin".toList a2 = some org)
    (e7 : lookup "Spacing".toList a2 = some sp) (e8 : (lookup "Extent".toList a3).bind parseNats = some pe)
    (e9 : lookup "Scalars".toList a4 = some sc) (e10 : lookup "encoding".toList a5 = some enc) :
    vtkParse ((l0 :: l1 :: l2 :: l3 :: l4 :: (arr ++ [c0, c1, c2, ap])).flatMap (· ++ ['\n']) ++ ['_']) =
      some { fileType := ft, version := ve, byteOrder := bo, headerType := ht, whole := wh, origin := splitOn ' ' org,
             spacing := splitOn ' ' sp, piece := pe, scalars := sc, arrays := am, encoding := enc } := by
  have hmark : splitOn '\n' ['_'] = [['_']] := by decide
  rw [vtkParse, splitOn_terminated_append _ _ hnl, hmark]
  simp only [List.cons_append, List.nil_append, List.append_assoc, h0, h1, h2, h3, h4, hspan, hc0, hc1, hc2, and_self,
    if_true, h5, Option.bind_some, e1, e2, e3, e4, e5, e6, e7, e8, e9, e10]

theorem vtkParse_headLines (endian : Str) (sp : Str × Str × Str) (nx ny nz : Nat) (names : List Str) (offsets : List Nat)
    (h : HeadOk endian sp names) :
    vtkParse ((vtkHeadLines endian sp nx ny nz names offsets).flatMap (· ++ ['\n']) ++ ['_']) =
      some { fileType := "ImageData".toList, version := "1.0".toList, byteOrder := endian, headerType := "UInt64".toList,
             whole := [0, nx, 0, ny, 0, nz], origin := ["0.0".toList, "0.0".toList, "0.0".toList],
             spacing := [sp.1, sp.2.1, sp.2.2], piece := [0, nx, 0, ny, 0, nz], scalars := names.headD [],
             arrays := (List.zip names offsets).map declared,
             encoding := "raw".toList } := by
  have d0 : '\n' ∉ "<?xml version=\"1.0\"?>".toList ∧ parseTag "<?xml version=\"1.0\"?>".toList = some Tag.decl := by
    decide_chars
  have l1 := openTag_reads_noamp "VTKFile" [("type".toList, "ImageData".toList), ("version".toList, "1.0".toList),
      ("byte_order".toList, endian), ("header_type".toList, "UInt64".toList)] (by decide_chars) (by
    simp only [List.forall_mem_cons]
    exact ⟨by decide_chars, by decide_chars, ⟨by decide_chars, h.endian⟩, by decide_chars, nofun⟩)
  have l2 := openTag_reads_noamp "ImageData" [("WholeExtent".toList, extentStr nx ny nz), ("Origin".toList, "0.0 0.0 0.0".toList),
      ("Spacing".toList, sp.1 ++ ' ' :: (sp.2.1 ++ ' ' :: sp.2.2))] (by decide_chars) (by
    simp only [List.forall_mem_cons]
    exact ⟨⟨by decide_chars, extentStr_plain nx ny nz⟩, by decide_chars, ⟨by decide_chars, join_chars [sp.1, sp.2.1, sp.2.2] (by decide) fun t ht c hc =>
      ⟨(h.spacing t ht c hc).1, (h.spacing t ht c hc).2.1, (h.spacing t ht c hc).2.2.1⟩⟩, nofun⟩)
  have l3 := openTag_reads_noamp "Piece" [("Extent".toList, extentStr nx ny nz)] (by decide_chars) (by
    simp only [List.forall_mem_singleton]
    exact ⟨by decide_chars, extentStr_plain nx ny nz⟩)
  have hhead : '\n' ∉ names.headD [] := by
    cases names with
    | nil => decide
    | cons n ns => exact h.names n (by simp)
  have l4 := openTag_reads "CellData" [("Scalars".toList, escapeMech (names.headD []))] (by decide_chars) (by
    simp only [List.forall_mem_singleton]
    exact ⟨by decide_chars, escapeMech_chars _ hhead⟩)
  have l5 := openTag_reads_noamp "AppendedData" [("encoding".toList, "raw".toList)] (by decide_chars) (by
    simp only [List.forall_mem_singleton]
    decide_chars)
  have c0 : '\n' ∉ "</CellData>".toList ∧ parseTag "</CellData>".toList = some (Tag.closing "CellData".toList) := by
    decide_chars
  have c1 : '\n' ∉ "</Piece>".toList ∧ parseTag "</Piece>".toList = some (Tag.closing "Piece".toList) := by decide_chars
  have c2 : '\n' ∉ "</ImageData>".toList ∧ parseTag "</ImageData>".toList = some (Tag.closing "ImageData".toList) := by
    decide_chars
  simp only [List.map_cons, List.map_nil, escape_inverse] at l4
  have hnames : ∀ p ∈ names.zip offsets, '\n' ∉ p.1 := fun p hp => h.names _ (List.of_mem_zip hp).1
  -- the ten values are written out: left to unification, the application ends in a `whnf` timeout
  have key := vtkParse_lines (arr := (names.zip offsets).map fun p => arrayLine p.1 p.2) (by
      simp only [List.forall_mem_cons, List.forall_mem_append, List.forall_mem_map]
      exact ⟨d0.1, l1.1, l2.1, l3.1, l4.1, fun p hp => (arrayLine_reads p (hnames p hp)).1, c0.1, c1.1, c2.1, l5.1, nofun⟩)
    d0.2 l1.2 l2.2 l3.2 l4.2 (spanArrays_lines (names.zip offsets) (fun p => arrayLine p.1 p.2) declared _ _
      (fun p hp => (arrayLine_reads p (hnames p hp)).2) (by decide_chars)) c0.2 c1.2 c2.2 l5.2
    (ft := "ImageData".toList) (ve := "1.0".toList) (bo := endian) (ht := "UInt64".toList) (wh := [0, nx, 0, ny, 0, nz])
    (org := "0.0 0.0 0.0".toList) (sp := sp.1 ++ ' ' :: (sp.2.1 ++ ' ' :: sp.2.2)) (pe := [0, nx, 0, ny, 0, nz])
    (sc := names.headD []) (enc := "raw".toList)
    (lookup_head ..) (by rw [lookup_skip _ _ _ _ (by decide_chars), lookup_head])
    (by rw [lookup_skip _ _ _ _ (by decide_chars), lookup_skip _ _ _ _ (by decide_chars), lookup_head])
    (by rw [lookup_skip _ _ _ _ (by decide_chars), lookup_skip _ _ _ _ (by decide_chars),
      lookup_skip _ _ _ _ (by decide_chars), lookup_head])
    (by rw [lookup_head, Option.bind_some, parseNats_extentStr]) (by rw [lookup_skip _ _ _ _ (by decide_chars), lookup_head])
    (by rw [lookup_skip _ _ _ _ (by decide_chars), lookup_skip _ _ _ _ (by decide_chars), lookup_head])
    (by rw [lookup_head, Option.bind_some, parseNats_extentStr]) (lookup_head ..) (lookup_head ..)
  have horg : splitOn ' ' "0.0 0.0 0.0".toList = ["0.0".toList, "0.0".toList, "0.0".toList] := by decide_chars
  have hsps : splitOn ' ' (sp.1 ++ ' ' :: (sp.2.1 ++ ' ' :: sp.2.2)) = [sp.1, sp.2.1, sp.2.2] :=
    splitOn_join ' ' [sp.1, sp.2.1, sp.2.2] (by simp) fun t ht hm => (h.spacing t ht _ hm).2.2.2 rfl
  rw [horg, hsps] at key
  exact key

section render
variable {α : Type}

theorem vtkRender_head_body (endian : Str) (sp : Str × Str × Str) (img : Image α) (file : VtkFile α)
    (hf : vtkRender endian sp img = some file) :
    file.head = (vtkHeadLines endian sp img.n1 img.n0 img.n2 (img.fields.map (·.name))
        (offsetsFrom 0 ((img.fields.map fun f => vtkBlock (img.vol f)).map List.length))).flatMap (· ++ ['\n']) ++ ['_'] ∧
      file.body = appended (img.fields.map fun f => vtkBlock (img.vol f)) := by
  unfold vtkRender at hf
  split at hf
  · exact absurd hf (by simp)
  · rw [← Option.some.inj hf]
    exact ⟨rfl, rfl⟩

theorem blocks_lengths (img : Image α) :
    (img.fields.map fun f => vtkBlock (img.vol f)).map List.length = img.fields.map fun _ => img.n1 * img.n0 * img.n2 := by
  rw [List.map_map]
  apply List.map_congr_left
  intro f _
  simp only [Function.comp, vtk_block_length]
  rfl

/-- by `rfl`: `rw [vtkMetaSpec]` and `simp only [vtkMetaSpec]` end in a `whnf` timeout on the string literals -/
theorem vtkMetaSpec_arrays (endian : Str) (sp : Str × Str × Str) (img : Image α) :
    (vtkMetaSpec endian sp img).arrays
      = (List.zip (img.fields.map (·.name)) (offsetsFrom 0 (img.fields.map fun _ => img.n1 * img.n0 * img.n2))).map declared := rfl

theorem vtkMetaSpec_names (endian : Str) (sp : Str × Str × Str) (img : Image α) :
    (vtkMetaSpec endian sp img).arrays.map (·.name) = img.fields.map (·.name) := by
  rw [vtkMetaSpec_arrays, List.map_map]
  exact List.map_fst_zip (by simp [offsetsFrom_length])

theorem vtkMetaSpec_array (endian : Str) (sp : Str × Str × Str) (img : Image α) (k o : Nat) (hk : k < img.fields.length)
    (ho : (offsetsFrom 0 (img.fields.map fun _ => img.n1 * img.n0 * img.n2))[k]? = some o) :
    (vtkMetaSpec endian sp img).arrays[k]? = some (declared (img.fields[k].name, o)) := by
  rw [vtkMetaSpec_arrays, List.getElem?_map,
    (List.getElem?_zip_eq_some (l₁ := img.fields.map (·.name)) (z := (img.fields[k].name, o))).mpr ⟨by simp [hk], ho⟩]
  rfl

end render

end Pew.Export
