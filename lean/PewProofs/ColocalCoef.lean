import PewModel.Colocal
import Mathlib.Tactic.Ring
import Mathlib.Tactic.Linarith
import Mathlib.Algebra.Order.Field.Basic
import Mathlib.Algebra.BigOperators.Ring.Finset
import Mathlib.Algebra.Order.BigOperators.Group.List

/-! The coefficients in exact `Rat`.  One fact carries the Pearson family: `cov` is linear and translation invariant in
an argument (`cov_affine`); the textbook centred forms, `var x = cov x x` and the invariance of `r²` and of the sign
under `a·x + b` follow from it.  `cov² ≤ var·var` is Cauchy–Schwarz for lists, by induction along both lists.
The ICQ, the Manders coefficients and the probability are ratios `a / b` with `0 ≤ a ≤ b` (`div_bounds`). -/
namespace Pew.Colocal

theorem mulL_comm (x y : List Rat) : mulL x y = mulL y x :=
  List.zipWith_comm_of_comm (fun a b => mul_comm a b)

theorem mulL_length (x y : List Rat) (h : x.length = y.length) : (mulL x y).length = x.length := by
  rw [mulL, List.length_zipWith, h, Nat.min_self]

theorem length_pos_cast (x : List Rat) (hx : x ≠ []) : (0 : Rat) < (x.length : Rat) :=
  Nat.cast_pos.mpr (List.length_pos_iff.mpr hx)

theorem ne_nil_of_length_eq {x y : List Rat} (h : x.length = y.length) (hx : x ≠ []) : y ≠ [] :=
  fun e => hx (List.length_eq_zero_iff.mp (by rw [h, e]; rfl))

theorem cov_comm (x y : List Rat) : cov x y = cov y x := by
  rw [cov, cov, mulL_comm, mul_comm]

theorem sum_affine (a b : Rat) (x : List Rat) :
    (x.map (fun v => a * v + b)).sum = a * x.sum + (x.length : Rat) * b := by
  rw [List.sum_map_add, List.sum_map_mul_left, List.map_id', List.map_const', List.sum_replicate, nsmul_eq_mul]

theorem mean_affine (a b : Rat) (x : List Rat) (hx : x ≠ []) :
    mean (x.map (fun v => a * v + b)) = a * mean x + b := by
  rw [mean, sum_affine, List.length_map, add_div, mul_div_assoc, mul_div_cancel_left₀ _ (length_pos_cast x hx).ne',
    mean]

theorem sum_mulL_affine (a b : Rat) (x y : List Rat) (h : x.length = y.length) :
    (mulL (x.map (fun v => a * v + b)) y).sum = a * (mulL x y).sum + b * y.sum := by
  induction x generalizing y with
  | nil => cases y with
    | nil => simp [mulL]
    | cons _ _ => cases h
  | cons u x ih => cases y with
    | nil => cases h
    | cons w y =>
      have := ih y (Nat.succ.inj h)
      simp only [mulL, List.map_cons, List.zipWith_cons_cons, List.sum_cons] at this ⊢
      rw [this]; ring

theorem cov_affine (a b : Rat) (x y : List Rat) (h : x.length = y.length) (hx : x ≠ []) :
    cov (x.map (fun v => a * v + b)) y = a * cov x y := by
  rw [cov, cov, mean_affine a b x hx]
  simp only [mean]
  rw [mulL_length _ _ ((List.length_map _).trans h), mulL_length _ _ h, sum_mulL_affine a b x y h,
    List.length_map, ← h]
  ring

theorem cov_eq_centred (x y : List Rat) (h : x.length = y.length) (hx : x ≠ []) :
    cov x y = covCentred x y := by
  -- centring is an affine map with factor 1, under which `cov` does not change, and the centred lists have mean 0
  have e : covCentred x y
      = cov (x.map (fun v => 1 * v + -mean x)) (y.map (fun v => 1 * v + -mean y)) := by
    rw [cov, mean_affine 1 _ x hx, one_mul, add_neg_cancel, zero_mul, sub_zero, mulL, List.zipWith_map, covCentred]
    simp only [one_mul, sub_eq_add_neg]
  rw [e, cov_affine 1 _ x _ (h.trans (List.length_map _).symm) hx, one_mul, cov_comm x (List.map _ y),
    cov_affine 1 _ y x h.symm (ne_nil_of_length_eq h hx), one_mul, cov_comm y x]

theorem var_eq_centred (x : List Rat) : var x = covCentred x x := by
  rw [var, covCentred, List.zipWith_self]

theorem covCentred_eq_sum_div (x y : List Rat) (h : x.length = y.length) :
    covCentred x y
      = (List.zipWith (fun a b => (a - mean x) * (b - mean y)) x y).sum / (x.length : Rat) := by
  rw [covCentred, mean, List.length_zipWith, ← h, Nat.min_self]

theorem var_eq_sum_div (x : List Rat) :
    var x = (x.map (fun v => (v - mean x) * (v - mean x))).sum / (x.length : Rat) := by
  rw [var, mean, List.length_map]

theorem var_eq_cov (x : List Rat) : var x = cov x x := by
  cases x with
  | nil => simp [cov, var, mean, mulL]
  | cons a l => rw [var_eq_centred, cov_eq_centred _ _ rfl (List.cons_ne_nil a l)]

theorem var_affine (a b : Rat) (x : List Rat) (hx : x ≠ []) :
    var (x.map (fun v => a * v + b)) = a * a * var x := by
  rw [var_eq_cov, var_eq_cov, cov_affine a b x _ (List.length_map _).symm hx, cov_comm,
    cov_affine a b x x rfl hx, mul_assoc]

theorem pearsonSq_comm (x y : List Rat) : pearsonSq x y = pearsonSq y x := by
  rw [pearsonSq, pearsonSq, cov_comm, mul_comm (var x)]

theorem pearsonSign_comm (x y : List Rat) : pearsonSign x y = pearsonSign y x := by
  rw [pearsonSign, pearsonSign, cov_comm]

theorem sgn_mul_of_pos {a : Rat} (ha : 0 < a) (c : Rat) : sgn (a * c) = sgn c := by
  simp only [sgn, mul_pos_iff_of_pos_left ha, mul_neg_iff, ha, not_lt_of_gt ha, true_and, false_and, or_false]

theorem pearsonSq_affine (a b : Rat) (x y : List Rat) (h : x.length = y.length) (hx : x ≠ []) (ha : 0 < a) :
    pearsonSq (x.map (fun v => a * v + b)) y = pearsonSq x y := by
  rw [pearsonSq, cov_affine a b x y h hx, var_affine a b x hx, pearsonSq, mul_mul_mul_comm, mul_assoc (a * a),
    mul_div_mul_left _ _ (mul_pos ha ha).ne']

theorem pearsonSign_affine (a b : Rat) (x y : List Rat) (h : x.length = y.length) (hx : x ≠ []) (ha : 0 < a) :
    pearsonSign (x.map (fun v => a * v + b)) y = pearsonSign x y := by
  rw [pearsonSign, cov_affine a b x y h hx, sgn_mul_of_pos ha, pearsonSign]

theorem sum_sq_nonneg (f : Rat → Rat) (a : List Rat) : 0 ≤ (a.map (fun v => f v * f v)).sum :=
  List.sum_nonneg (fun _ hv => by
    obtain ⟨w, _, rfl⟩ := List.mem_map.mp hv
    exact mul_self_nonneg _)

theorem cauchy_schwarz_step (S P Q u v : Rat) (hP : 0 ≤ P) (hQ : 0 ≤ Q) (h : S * S ≤ P * Q) :
    (u * v + S) * (u * v + S) ≤ (u * u + P) * (v * v + Q) := by
  -- what is missing is `2uvS ≤ u²Q + v²P`, and `(u²Q + v²P)² - (2uvS)² = (u²Q - v²P)² + 4u²v²(PQ - S²)`
  have sq : (2 * (u * v) * S) ^ 2 ≤ (u * u * Q + v * v * P) ^ 2 := by
    have h1 := sq_nonneg (u * u * Q - v * v * P)
    have h2 := mul_nonneg (mul_self_nonneg (2 * (u * v))) (sub_nonneg.mpr h)
    linarith
  have key := (abs_le_of_sq_le_sq' sq
    (add_nonneg (mul_nonneg (mul_self_nonneg u) hQ) (mul_nonneg (mul_self_nonneg v) hP))).2
  linarith

theorem cauchy_schwarz (f g : Rat → Rat) (a b : List Rat) :
    (List.zipWith (fun u v => f u * g v) a b).sum * (List.zipWith (fun u v => f u * g v) a b).sum
      ≤ (a.map (fun v => f v * f v)).sum * (b.map (fun v => g v * g v)).sum := by
  induction a generalizing b with
  | nil => simp
  | cons u a ih =>
    cases b with
    | nil => simp only [List.zipWith_nil_right, List.sum_nil, List.map_nil, mul_zero, le_refl]
    | cons v b =>
      simp only [List.zipWith_cons_cons, List.sum_cons, List.map_cons]
      exact cauchy_schwarz_step _ _ _ (f u) (g v) (sum_sq_nonneg f a) (sum_sq_nonneg g b) (ih b)

theorem cov_mul_self_le (x y : List Rat) (h : x.length = y.length) (hx : x ≠ []) :
    cov x y * cov x y ≤ var x * var y := by
  rw [cov_eq_centred x y h hx, covCentred_eq_sum_div x y h, var_eq_sum_div x, var_eq_sum_div y, ← h,
    div_mul_div_comm, div_mul_div_comm]
  exact div_le_div_of_nonneg_right (cauchy_schwarz (· - mean x) (· - mean y) x y)
    (mul_pos (length_pos_cast x hx) (length_pos_cast x hx)).le

theorem var_nonneg (x : List Rat) : 0 ≤ var x :=
  div_nonneg (sum_sq_nonneg (· - mean x) x) (Nat.cast_nonneg _)

theorem meanI_eq (l : List Int) : meanI l = mean (l.map (fun (i : Int) => (i : Rat))) := by
  rw [meanI, mean, List.length_map, Int.cast_list_sum]

theorem oppositeSigns_iff (a b : Rat) : oppositeSigns a b = true ↔ a * b < 0 := by
  simp only [oppositeSigns, Bool.or_eq_true, Bool.and_eq_true, decide_eq_true_eq, mul_neg_iff]

theorem decide_mul_nonneg_eq_not_oppositeSigns (a b : Rat) : decide (a * b ≥ 0) = !oppositeSigns a b := by
  rw [Bool.eq_iff_iff, decide_eq_true_eq, Bool.not_eq_true', ← Bool.not_eq_true, oppositeSigns_iff, not_lt]

theorem div_bounds {a b : Rat} (h0 : 0 ≤ a) (h1 : a ≤ b) (hb : 0 < b) : 0 ≤ a / b ∧ a / b ≤ 1 :=
  ⟨div_nonneg h0 hb.le, (div_le_one hb).mpr h1⟩

theorem count_div_bounds (l : List Bool) (n : Nat) (hl : l.length ≤ n) (hn : 0 < n) :
    0 ≤ (l.count true : Rat) / (n : Rat) ∧ (l.count true : Rat) / (n : Rat) ≤ 1 :=
  div_bounds (Nat.cast_nonneg _) (Nat.cast_le.mpr (List.count_le_length.trans hl)) (Nat.cast_pos.mpr hn)

theorem probability_of_length (gt : List Bool) (n : Nat) (hl : gt.length = n) (hn : 0 < n) :
    ∃ p : Rat, probability gt = some p ∧ 0 ≤ p ∧ p ≤ 1 ∧
      p * (n : Rat) = (gt.count true : Rat) ∧ gt.count true ≤ n := by
  subst hl
  obtain ⟨h0, h1⟩ := count_div_bounds gt gt.length le_rfl hn
  exact ⟨_, by rw [probability, if_neg hn.ne'], h0, h1, div_mul_cancel₀ _ (Nat.cast_pos.mpr hn).ne',
    List.count_le_length⟩

theorem sumWhere_bounds (x : List Rat) (c : List Bool) (hx : ∀ v ∈ x, 0 ≤ v) :
    0 ≤ sumWhere x c ∧ sumWhere x c ≤ x.sum := by
  unfold sumWhere
  induction x generalizing c with
  | nil => exact ⟨le_rfl, le_rfl⟩
  | cons u x ih =>
    have hu : 0 ≤ u := hx u List.mem_cons_self
    have hx' : ∀ v ∈ x, 0 ≤ v := fun v hv => hx v (List.mem_cons_of_mem _ hv)
    cases c with
    | nil => exact ⟨le_rfl, List.sum_nonneg hx⟩
    | cons k c =>
      rw [List.zipWith_cons_cons, List.sum_cons, List.sum_cons]
      have hk : 0 ≤ (if k = true then u else 0) ∧ (if k = true then u else 0) ≤ u := by
        cases k
        · exact ⟨le_rfl, hu⟩
        · exact ⟨hu, le_rfl⟩
      exact ⟨add_nonneg hk.1 (ih c hx').1, add_le_add hk.2 (ih c hx').2⟩

theorem sumWhere_eq_filter (x y : List Rat) (t : Rat) :
    sumWhere x (y.map (fun b => decide (b > t)))
      = (((x.zip y).filter (fun p => decide (p.2 > t))).map (·.1)).sum := by
  unfold sumWhere
  induction x generalizing y with
  | nil => rfl
  | cons u x ih => cases y with
    | nil => rfl
    | cons w y =>
      rw [List.map_cons, List.zipWith_cons_cons, List.sum_cons, List.zip_cons_cons, List.filter_cons, ih y]
      cases decide (w > t)
      · rw [if_neg Bool.false_ne_true, if_neg Bool.false_ne_true, zero_add]
      · rw [if_pos rfl, if_pos rfl, List.map_cons, List.sum_cons]

end Pew.Colocal
