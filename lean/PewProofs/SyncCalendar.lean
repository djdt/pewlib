import PewModel.Sync

/-! # C08 — the calendar: numpy's closed-form day count takes the date reached by walking the years and months from
1970-01-01 back to the day number -/
namespace Pew.Sync

theorem yearLen_ge (y : Nat) : 365 ≤ yearLen y := by unfold yearLen; split <;> omega

theorem daysBeforeYearK_cycle (k : Nat) : daysBeforeYearK (k + 400) = daysBeforeYearK k + 146097 := by
  unfold daysBeforeYearK
  rw [show k + 400 + 1 = k + 1 + 100 * 4 by omega, show k + 400 + 369 = k + 369 + 1 * 400 by omega,
    show k + 400 + 69 = k + 69 + 4 * 100 by omega, Nat.add_mul_div_right _ _ (by decide),
    Nat.add_mul_div_right _ _ (by decide), Nat.add_mul_div_right _ _ (by decide)]
  -- the closed form subtracts in `Nat`: with the quotients opaque, `omega` must be told that nothing is cut off
  have : (k + 69) / 100 ≤ k := by omega
  generalize (k + 1) / 4 = a, (k + 369) / 400 = b, (k + 69) / 100 = c at *
  omega

theorem yearLen_cycle (y : Nat) : yearLen (y + 400) = yearLen y := by
  unfold yearLen isLeap
  rw [show (y + 400) % 4 = y % 4 by omega, show (y + 400) % 100 = y % 100 by omega, Nat.add_mod_right]

/-- numpy's closed form advances by the length of the year: evaluated on the 400 years of one Gregorian cycle, and
both sides repeat from cycle to cycle (146097 days) -/
theorem daysBeforeYearK_succ (k : Nat) : daysBeforeYearK (k + 1) = daysBeforeYearK k + yearLen (1970 + k) := by
  induction k using Nat.strongRecOn with
  | _ k ih =>
    by_cases hk : k < 400
    · exact (by decide +kernel : ∀ r < 400, daysBeforeYearK (r + 1) = daysBeforeYearK r + yearLen (1970 + r)) k hk
    · obtain ⟨j, rfl⟩ : ∃ j, k = j + 400 := ⟨k - 400, by omega⟩
      rw [Nat.add_right_comm, daysBeforeYearK_cycle, daysBeforeYearK_cycle, ← Nat.add_assoc, yearLen_cycle,
        ih j (by omega)]
      omega

theorem daysBeforeYear_succ (y : Nat) (hy : 1970 ≤ y) : daysBeforeYear (y + 1) = daysBeforeYear y + yearLen y := by
  obtain ⟨k, hk⟩ := Nat.exists_eq_add_of_le hy
  have e1 : y + 1 - 1970 = k + 1 := by omega
  have e2 : y - 1970 = k := by rw [hk]; exact Nat.add_sub_cancel_left 1970 k
  unfold daysBeforeYear
  rw [e1, e2, daysBeforeYearK_succ, hk]

theorem walkYears_spec (f y d : Nat) (hy : 1970 ≤ y) (hf : d < f) :
    1970 ≤ (walkYears f y d).1 ∧ (walkYears f y d).2 < yearLen (walkYears f y d).1 ∧
      daysBeforeYear (walkYears f y d).1 + (walkYears f y d).2 = daysBeforeYear y + d := by
  induction f generalizing y d with
  | zero => omega
  | succ f ih =>
    unfold walkYears
    split
    · exact ⟨hy, by assumption, rfl⟩
    · rename_i hd
      have hl := yearLen_ge y
      obtain ⟨h1, h2, h3⟩ := ih (y + 1) (d - yearLen y) (by omega) (by omega)
      refine ⟨h1, h2, ?_⟩
      rw [h3, daysBeforeYear_succ y hy]; omega

theorem monthsBefore_succ (y m : Nat) (hm : 1 ≤ m) : monthsBefore y (m + 1) = monthsBefore y m + monthLen y m := by
  unfold monthsBefore
  obtain ⟨k, rfl⟩ : ∃ k, m = k + 1 := ⟨m - 1, by omega⟩
  simp [List.range_succ]

theorem monthsBefore_13 (y : Nat) : monthsBefore y 13 = yearLen y := by
  unfold monthsBefore yearLen
  simp [List.range, List.range.loop, monthLen]
  split <;> rfl

theorem walkMonths_spec (f y m d : Nat) (hm : 1 ≤ m) (hf : m + f = 13) (hd : monthsBefore y m + d < yearLen y) :
    1 ≤ (walkMonths f y m d).1 ∧ (walkMonths f y m d).1 ≤ 12 ∧ (walkMonths f y m d).2 < monthLen y (walkMonths f y m d).1 ∧
      monthsBefore y (walkMonths f y m d).1 + (walkMonths f y m d).2 = monthsBefore y m + d := by
  induction f generalizing m d with
  | zero =>
    exfalso
    have : m = 13 := by omega
    subst this
    rw [monthsBefore_13] at hd; omega
  | succ f ih =>
    unfold walkMonths
    split
    · exact ⟨hm, by omega, by assumption, rfl⟩
    · rename_i hnd
      have hs := monthsBefore_succ y m hm
      obtain ⟨h1, h2, h3, h4⟩ := ih (m + 1) (d - monthLen y m) (by omega) (by omega) (by omega)
      exact ⟨h1, h2, h3, by omega⟩

/-- **Calendar.**  Walking the years and months from 1970-01-01 (`civilOfDay`, the specification of what the
instrument prints) and numpy's closed-form day count (`daysOfCivil`) are inverse for every day number; the date has a
month 1..12 and a day 1..31. -/
theorem calendar_roundtrip (n : Nat) :
    daysOfCivil (civilOfDay n) = n ∧ 1970 ≤ (civilOfDay n).y ∧ 1 ≤ (civilOfDay n).m ∧ (civilOfDay n).m ≤ 12 ∧
      1 ≤ (civilOfDay n).d ∧ (civilOfDay n).d ≤ 31 := by
  unfold daysOfCivil civilOfDay
  simp only
  obtain ⟨h1, h2, h3⟩ := walkYears_spec (n + 1) 1970 n (by omega) (by omega)
  have hm1 : ∀ y, monthsBefore y 1 = 0 := fun y => rfl
  obtain ⟨g1, g2, g3, g4⟩ := walkMonths_spec 12 (walkYears (n + 1) 1970 n).1 1 (walkYears (n + 1) 1970 n).2 (by omega)
    (by omega) (by rw [hm1]; omega)
  have h0 : daysBeforeYear 1970 = 0 := by decide
  have : ∀ y m, monthLen y m ≤ 31 := by
    intro y m; unfold monthLen; split <;> (try split) <;> omega
  have := this (walkYears (n + 1) 1970 n).1 (walkMonths 12 (walkYears (n + 1) 1970 n).1 1 (walkYears (n + 1) 1970 n).2).1
  rw [hm1] at g4
  exact ⟨by omega, h1, g1, g2, by omega, by omega⟩

theorem daysBeforeYearK_mono {j k : Nat} (h : j ≤ k) : daysBeforeYearK j ≤ daysBeforeYearK k := by
  induction h with
  | refl => exact Nat.le_refl _
  | step _ ih => rw [daysBeforeYearK_succ]; exact Nat.le_trans ih (Nat.le_add_right _ _)

theorem civilOfDay_year_lt (n : Nat) (h : n < 2932897) : (civilOfDay n).y < 10000 := by
  obtain ⟨h1, _, h3⟩ := walkYears_spec (n + 1) 1970 n (by omega) (by omega)
  show (walkYears (n + 1) 1970 n).1 < 10000
  generalize (walkYears (n + 1) 1970 n).1 = y at *
  refine Nat.lt_of_not_le fun hy => ?_
  have := daysBeforeYearK_mono (show 8030 ≤ y - 1970 by omega)
  -- 2932897 is the day number of 10000-01-01, the first day of year 1970 + 8030
  rw [show daysBeforeYearK 8030 = 2932897 by decide, show daysBeforeYear 1970 = 0 by decide] at *
  unfold daysBeforeYear at h3
  omega

end Pew.Sync
