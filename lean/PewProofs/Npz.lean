import PewProofs.NpzInfo

/-! `load` is read member by member on an arbitrary file, and `load_written` assembles the reads: a file that describes a laser loads to
that laser with the info it carries.  `normalise` keeps lasers inside the quantifier (`ok_normalise`) and its third iterate equals its
second (from NpzInfo.lean): a chain of generations is an iterate of `normalise` (`generations_eq_iterate`) and stops changing after two. -/
namespace Pew.Npz

theorem loadHeader_old (f : NpzFile) (v : Str) (hh : f.header = none) (hv : f.version = some v) :
    loadHeader f = if cmpGe v v060 then (getOr .keyError f.cls).map fun c => (v, some c) else .error .valueError := by
  simp only [loadHeader, hh, hv]
  rw [bind_compareVersion]
  split
  · rfl
  · split <;> rfl

theorem tab_not_mem_classOf (c : Config) : '\t' ∉ classOf c := by
  cases c <;> (rw [classOf]; decide)

theorem loadHeader_new (f : NpzFile) (ver cls time : Str)
    (hh : f.header = some (packInfo [(kVersion, ver), (kClass, cls), (kTime, time)]))
    (hv : '\t' ∉ ver) (hc : '\t' ∉ cls) (ht : noNulEnd time = true) : loadHeader f = .ok (ver, some cls) := by
  -- the right-hand side is `infoSpec` of the header evaluated: its three keys are distinct constants, none of them `File Path`
  have hu : unpackInfo (packInfo [(kVersion, ver), (kClass, cls), (kTime, time)])
      = [(kVersion, tabToSpace ver), (kClass, tabToSpace cls), (kTime, tabToSpace time)] :=
    unpack_pack_info _ (noNulEnd_append_sep _ _ _ tab_ne_NUL (noNulEnd_append_sep _ _ _ tab_ne_NUL
      (noNulEnd_append_sep _ _ _ tab_ne_NUL ((noNulEnd_tabToSpace time).trans ht))))
  simp only [loadHeader, hh, hu, tabToSpace_of_tabFree _ hv, tabToSpace_of_tabFree _ hc]
  rfl

theorem loadInfo_packed (f : NpzFile) (v : Str) (i : Info) (h : cmpGe v v070 = true) (hs : f.info = some (packInfo i))
    (hn : noNulEnd (packInfoRaw i) = true) : loadInfo f v = .ok (infoSpec i) := by
  rw [loadInfo, bind_compareVersion, h, hs, ← unpack_pack_info i hn]
  rfl

theorem loadInfo_old (f : NpzFile) (v n : Str) (h : cmpLt v v070 = true) (hn : f.name = some n) :
    loadInfo f v = .ok [(kName, n)] := by
  rw [loadInfo, bind_compareVersion, cmpGe_of_cmpLt v v070 h, h, hn]
  rfl

theorem loadCal_new (f : NpzFile) (v : Str) (x : List (Str × CalArr)) (h : cmpGe v v080 = true)
    (hx : f.calibration = some x) : loadCal f v = .ok (unpackCalibration x) := by
  rw [loadCal, bind_compareVersion, h, hx]
  rfl

theorem foldlM_ok {ε α β : Type} (f : β → α → Except ε β) (g : β → α → β) (l : List α)
    (h : ∀ x ∈ l, ∀ b, f b x = .ok (g b x)) (b : β) : l.foldlM f b = .ok (l.foldl g b) := by
  induction l generalizing b with
  | nil => rfl
  | cons x r ih =>
    rw [List.foldlM_cons, h x List.mem_cons_self, List.foldl_cons, ← ih fun y hy => h y (List.mem_cons_of_mem _ hy)]
    rfl

theorem loadCal_old (f : NpzFile) (v : Str) (h : cmpLt v v080 = true) (cal : List (Str × Cal))
    (hf : f.calibrationOf = cal.map fun kc => (kc.1, kc.2.toArray kc.2.points.length))
    (hc : ∀ kc ∈ cal, kc.2.ok = true) (hfs : (keys f.data.fields).Nodup)
    (hsub : ∀ k ∈ keys f.data.fields, k ∈ keys cal) :
    loadCal f v = .ok (calByName f.data.fields cal) := by
  rw [loadCal, bind_compareVersion, cmpGe_of_cmpLt v v080 h, h, if_neg Bool.false_ne_true, if_pos rfl,
    foldlM_ok _ fun d nf => dictInsert d nf.1 ((dictGet cal nf.1).getD Cal.default)]
  · -- the target back into a fold of inserts: both sides are then the same `foldl`
    rw [← dictOfList_of_nodup (calByName f.data.fields cal) (by rwa [keys_calByName]), dictOfList, dictUpdate,
      calByName, List.foldl_map]
  · intro nf hnf d
    obtain ⟨c, hget⟩ := exists_dictGet_of_mem_keys cal nf.1 (hsub nf.1 (List.mem_map_of_mem hnf))
    rw [hf, dictGet_map_val fun c : Cal => c.toArray c.points.length, hget]
    exact congrArg (fun c' => Except.ok (dictInsert d nf.1 c'))
      (fromArray_toArray c _ (hc (nf.1, c) (dictGet_mem cal nf.1 c hget)))

/-- the legacy class names select the same loader branch as the current ones -/
theorem loadConfig_legacy_class (fl : Rat → Rat) (c : Str) (a : CfgArr) :
    loadConfig fl (legacyOf c) a = loadConfig fl c a := by
  unfold legacyOf
  split
  · next h => rw [h]; rfl
  · split
    · next h => rw [h]; rfl
    · rfl

/-- **Legacy class names.**  Any file loads to the same result (laser or exception) when its
`_class` member carries the legacy name (`Laser` for `Raster`, `SRRLaser` for `SRR`). -/
theorem load_legacy_class (fl : Rat → Rat) (p : PathInfo) (f : NpzFile) :
    load fl p (f.mapCls legacyOf) = load fl p f := by
  obtain ⟨header, version, cls, data, name, info, config, cal, calOf⟩ := f
  cases header with
  | some h => rfl
  | none =>
    cases version with
    | none => rfl
    | some v =>
      -- only the header read sees `_class`
      rw [load, load, loadHeader_old _ v rfl rfl, loadHeader_old _ v rfl rfl]
      cases cmpGe v v060 with
      | false => rfl
      | true =>
        cases cls with
        | none => rfl
        | some c =>
          simp only [NpzFile.mapCls, Option.map, getOr, Except.map, pure, Except.pure, bind, Except.bind, if_true,
            loadConfig_legacy_class]
          rfl

theorem legacy_bind_load (fl : Rat → Rat) (p : PathInfo) (r : Except Err NpzFile) :
    (r.map (·.mapCls legacyOf) >>= load fl p) = (r >>= load fl p) := by
  cases r with
  | error e => rfl
  | ok f => exact load_legacy_class fl p f

structure OkFacts (L : Laser) : Prop where
  ne : L.fields ≠ []
  nul : ∀ k ∈ keys L.fields, noNulEnd k = true
  nodup : (keys L.fields).Nodup
  cnodup : (keys L.cal).Nodup
  csub : ∀ k ∈ keys L.cal, k ∈ keys L.fields
  fsub : ∀ k ∈ keys L.fields, k ∈ keys L.cal
  cal : ∀ kc ∈ L.cal, kc.2.ok = true
  kind : L.config.isSRR = (L.kind == .srr)
  cfg : L.config.ok = true
  layers : layersOk L.kind L.layers = true
  native : (L.kind != .srr || L.fields.all fun f => isNativeDtype f.2) = true
  info : noNulEnd (packInfoRaw L.info) = true

theorem okFacts_iff (L : Laser) : L.ok = true ↔ OkFacts L := by
  simp only [Laser.ok, Bool.and_eq_true, decide_eq_true_eq, beq_iff_eq, List.all_eq_true, Bool.not_eq_true',
    List.isEmpty_eq_false_iff]
  constructor
  · rintro ⟨⟨⟨⟨⟨⟨⟨⟨⟨hne, hnul⟩, hnodup⟩, ⟨hcn, hcs⟩, hfs⟩, hcal⟩, hkind⟩, hcfg⟩, hlayers⟩, hnat⟩, hinfo⟩
    exact ⟨hne, hnul, hnodup, hcn, hcs, hfs, hcal, hkind, hcfg, hlayers, hnat, hinfo⟩
  · rintro ⟨hne, hnul, hnodup, hcn, hcs, hfs, hcal, hkind, hcfg, hlayers, hnat, hinfo⟩
    exact ⟨⟨⟨⟨⟨⟨⟨⟨⟨hne, hnul⟩, hnodup⟩, ⟨hcn, hcs⟩, hfs⟩, hcal⟩, hkind⟩, hcfg⟩, hlayers⟩, hnat⟩, hinfo⟩

theorem okFacts (L : Laser) (h : L.ok = true) : OkFacts L := (okFacts_iff L).mp h

theorem cal_nonempty (L : Laser) (F : OkFacts L) : L.cal.isEmpty = false := by
  obtain ⟨a, b, hf⟩ := List.exists_cons_of_ne_nil F.ne
  have := F.fsub a.1 (hf ▸ List.mem_cons_self)
  cases hc : L.cal with
  | nil => rw [hc] at this; cases this
  | cons _ _ => rfl

theorem dictGet_calByName_ok (L : Laser) (F : OkFacts L) (k : Str) :
    dictGet (calByName L.fields L.cal) k = dictGet L.cal k := by
  by_cases hk : k ∈ keys L.fields
  · obtain ⟨c, hc⟩ := exists_dictGet_of_mem_keys L.cal k (F.fsub k hk)
    rw [dictGet_calByName _ _ _ hk, hc]
    rfl
  · rw [(dictGet_eq_none_iff _ k).mpr (keys_calByName _ _ ▸ hk), (dictGet_eq_none_iff _ k).mpr fun h => hk (F.csub k h)]

theorem ok_of_same_mapping (L : Laser) (hL : L.ok = true) (d : List (Str × Cal)) (hn : (keys d).Nodup)
    (h : ∀ k, dictGet d k = dictGet L.cal k) : ({ L with cal := d } : Laser).ok = true :=
  have F := okFacts L hL
  have hk : ∀ k, k ∈ keys d ↔ k ∈ keys L.cal := fun k => by
    rw [← not_iff_not, ← dictGet_eq_none_iff, ← dictGet_eq_none_iff, h]
  (okFacts_iff _).mpr ⟨F.ne, F.nul, F.nodup, hn, fun k hk' => F.csub k ((hk k).mp hk'),
    fun k hk' => (hk k).mpr (F.fsub k hk'),
    fun kc hkc => F.cal kc (dictGet_mem _ _ _ (h kc.1 ▸ dictGet_of_mem d hn kc.1 kc.2 hkc)),
    F.kind, F.cfg, F.layers, F.native, F.info⟩

theorem ok_with_info (L : Laser) (X : Info) (hL : L.ok = true) (hX : noNulEnd (packInfoRaw X) = true) :
    ({ L with info := X } : Laser).ok = true :=
  have F := okFacts L hL
  (okFacts_iff _).mpr ⟨F.ne, F.nul, F.nodup, F.cnodup, F.csub, F.fsub, F.cal, F.kind, F.cfg, F.layers, F.native, hX⟩

theorem ok_perm (L : Laser) (hL : L.ok = true) (d : List (Str × Cal)) (hd : d.Perm L.cal) :
    ({ L with cal := d } : Laser).ok = true ∧ ∀ p ver, normalise p ver { L with cal := d } = normalise p ver L :=
  have hdn : (keys d).Nodup := (hd.map _).nodup_iff.mpr (okFacts L hL).cnodup
  have h := dictGet_perm d L.cal hd hdn
  ⟨ok_of_same_mapping L hL d hdn h, fun p ver =>
    congrArg (fun c => ({ L with cal := c, info := finishInfo p ver (infoSpec L.info) } : Laser))
      (calByName_congr L.fields d L.cal fun k _ => h k)⟩

theorem ok_loaded (p : PathInfo) (ver : Str) (L : Laser) (hL : L.ok = true) (i : Info)
    (hi : ∀ kv ∈ i, noNulEnd kv.2 = true) (hsn : noNulEnd p.stem = true) (hvn : noNulEnd ver = true) :
    ({ L with cal := calByName L.fields L.cal, info := finishInfo p ver i } : Laser).ok = true
      ∧ infoNoNul (finishInfo p ver i) = true :=
  have F := okFacts L hL
  have h := infoNoNul_finishInfo p ver i hi hsn hvn
  ⟨ok_with_info { L with cal := calByName L.fields L.cal } _
    (ok_of_same_mapping L hL _ (keys_calByName _ _ ▸ F.nodup) (dictGet_calByName_ok L F)) (noNulEnd_packInfoRaw _ h), h⟩

theorem ok_normalise (p : PathInfo) (ver : Str) (L : Laser) (hL : L.ok = true) (hi : infoNoNul L.info = true)
    (hsn : noNulEnd p.stem = true) (hvn : noNulEnd ver = true) :
    (normalise p ver L).ok = true ∧ infoNoNul (normalise p ver L).info = true :=
  ok_loaded p ver L hL _ (noNulEnd_infoSpec_values L.info hi) hsn hvn

/-- `hcal` is the constructor's update of the default calibrations (`mkLaser`) -/
theorem load_written (fl : Rat → Rat) (hfl : ∀ x, |fl x - x| ≤ |x| / 2 ^ 53) (p : PathInfo) (L : Laser) (F : OkFacts L)
    (f : NpzFile) (v : Str) (info : Info) (cal : List (Str × Cal))
    (hd : dataToArray L = .ok f.data) (hcfg : f.config = L.config.toArray fl)
    (hh : loadHeader f = .ok (v, some (classOf L.config)))
    (hi : loadInfo f v = .ok info) (hc : loadCal f v = .ok cal)
    (hcal : dictUpdate (L.fields.map fun f => (f.1, Cal.default)) cal = calByName L.fields L.cal) :
    load fl p f = .ok { L with cal := calByName L.fields L.cal, info := finishInfo p v info } := by
  obtain ⟨d, hd', -, hcons⟩ := data_roundtrip L F.layers F.native
  cases hd.symm.trans hd'
  have hk : (if L.config.isSRR then Kind.srr else Kind.laser) = L.kind := by
    rw [F.kind]
    cases L.kind <;> rfl
  simp only [load, hh, hi, hc, hcfg, config_roundtrip fl hfl L.config F.cfg, hk, bind, Except.bind,
    getOr, pure, Except.pure, hcons, mkLaser, hcal]

theorem specOld_eq (b : Bool) (p : PathInfo) (ver : Str) (L : Laser) :
    specOld b p ver L =
      if cmpGe ver v060 = true then .ok (if b then normaliseV06 p ver L else normalise p ver L) else .error .valueError := by
  rw [specOld, cmpGe, compareVersion_eq_spec]
  cases compareSpec ver v060 with
  | error e => rfl
  | ok r => by_cases hr : r = -1 <;> simp [hr]

/-- a file of `L` in an old layout; the right-hand side has the shape of `specOld_eq`, so that an old-layout load meets `specOld` by one
rewrite.  `h` is asked of an accepted version only: a rejected one need not be of the layout's generation, and its info is never read -/
theorem load_old_eq (fl : Rat → Rat) (hfl : ∀ x, |fl x - x| ≤ |x| / 2 ^ 53) (p : PathInfo) (L : Laser) (F : OkFacts L)
    (f : NpzFile) (ver : Str) (info : Info)
    (hd : dataToArray L = .ok f.data) (hcfg : f.config = L.config.toArray fl)
    (hh : f.header = none) (hv : f.version = some ver) (hc : f.cls = some (classOf L.config))
    (hco : f.calibrationOf = L.cal.map fun kc => (kc.1, kc.2.toArray kc.2.points.length))
    (h : cmpGe ver v060 = true → cmpLt ver v080 = true ∧ loadInfo f ver = .ok info) :
    load fl p f = if cmpGe ver v060 = true then
        .ok { L with cal := calByName L.fields L.cal, info := finishInfo p ver info } else .error .valueError := by
  have hhdr := loadHeader_old f ver hh hv
  by_cases h6 : cmpGe ver v060 = true
  · obtain ⟨d, hd', hdf, -⟩ := data_roundtrip L F.layers F.native
    cases hd.symm.trans hd'
    rw [if_pos h6]
    rw [if_pos h6, hc] at hhdr
    exact load_written fl hfl p L F f ver info _ hd hcfg hhdr (h h6).2
      ((loadCal_old f ver (h h6).1 L.cal hco F.cal (hdf ▸ F.nodup) (hdf ▸ F.fsub)).trans (by rw [hdf]))
      (dictUpdate_same_keys _ _ ((keys_calByName _ []).trans (keys_calByName _ _).symm) (by rw [keys_calByName]; exact F.nodup))
  · rw [if_neg h6, load, hhdr, if_neg h6]
    rfl

theorem normalise_normalise (p : PathInfo) (ver : Str) (L : Laser)
    (g : LoadedInfo p ver (finishInfo p ver (infoSpec L.info))) :
    normalise p ver (normalise p ver L)
      = { L with cal := calByName L.fields L.cal, info := nextInfo p (finishInfo p ver (infoSpec L.info)) } := by
  simp only [normalise, finishInfo_infoSpec_of_loaded p ver _ g, calByName_idem L.fields L.cal]

theorem normalise_fixpoint (p : PathInfo) (ver : Str) (L : Laser) (hst : tabFree p.stem = true) (hv : versionOk ver = true) :
    normalise p ver (normalise p ver (normalise p ver L)) = normalise p ver (normalise p ver L) := by
  simp only [normalise, info_fixpoint p ver L.info hst hv, calByName_idem L.fields L.cal]

theorem generations_succ (fl : Rat → Rat) (ver time : Str) (p : PathInfo) (n : Nat) (L : Laser) :
    generations fl ver time p (n + 1) L
      = ((save fl ver time L >>= load fl p) >>= generations fl ver time p n) := by
  rw [generations]
  cases save fl ver time L <;> rfl

theorem generations_eq_iterate (fl : Rat → Rat) (ver time : Str) (p : PathInfo) (N : Laser → Laser) (Q : Laser → Prop)
    (hls : ∀ L, Q L → (save fl ver time L >>= load fl p) = .ok (N L)) (hQ : ∀ L, Q L → Q (N L))
    (n : Nat) (L : Laser) (h : Q L) : generations fl ver time p n L = .ok (N^[n] L) := by
  induction n generalizing L with
  | zero => rfl
  | succ n ih => rw [generations_succ, hls L h]; exact ih (N L) (hQ L h)

end Pew.Npz
