import PewModel.Srr
import PewProofs.Lists

/-! the stack of one `SRRLaser` object (`Stack.apply`): what `rename`, `remove`, `add` leave, layer by layer and field by field; nothing
here mentions the reconstruction -/
namespace Pew

namespace Srr

theorem fieldOf_appendField_lt (n e : Nat) (px : List Int) (v : Int) (h : e < n) :
    fieldOf e (appendField n px v) = fieldOf e px := by
  simp [fieldOf, appendField, List.getD_eq_getElem?_getD, List.getElem?_append_left, h]

theorem fieldOf_appendField_eq (n : Nat) (px : List Int) (v : Int) : fieldOf n (appendField n px v) = v := by
  simp [fieldOf, appendField, List.getD_eq_getElem?_getD]

theorem pickIdx_zero (keep : List Nat) (n : Nat) : pickIdx keep (zeroPx n) = zeroPx keep.length := by
  simp only [pickIdx, zeroPx]
  rw [List.eq_replicate_iff]
  refine ⟨by simp, ?_⟩
  intro b hb
  obtain ⟨i, _, rfl⟩ := List.mem_map.mp hb
  simp only [List.getD_eq_getElem?_getD, List.getElem?_replicate]
  split <;> rfl

theorem keepIdx_lt (fields : List (String × String)) (names : List String) : ∀ i ∈ keepIdx fields names, i < fields.length := by
  intro i hi
  simp only [keepIdx, List.mem_filter, List.mem_range] at hi
  exact hi.1

theorem apply_rename {s s' : Stack} {mp : List (String × String)} (h : s.apply (.rename mp) = some s') :
    s'.layers = s.layers ∧ s'.fields = s.fields.map (fun f => (renameName mp f.1, f.2)) := by
  simp only [Stack.apply] at h
  split at h
  · cases h; exact ⟨rfl, rfl⟩
  · cases h

theorem apply_remove {s s' : Stack} {names : List String} (h : s.apply (.remove names) = some s') :
    s'.fields = (keepIdx s.fields names).filterMap (fun i => s.fields[i]?) ∧
    s'.fields.length = (keepIdx s.fields names).length ∧
    s'.layers = s.layers.map (Arr2.map (pickIdx (keepIdx s.fields names))) := by
  simp only [Stack.apply] at h
  split at h
  · cases h
    exact ⟨rfl, Lists.length_filterMap_of_isSome (f := fun i => s.fields[i]?)
      (fun i hi => by rw [List.getElem?_eq_getElem (keepIdx_lt s.fields names i hi)]; rfl), rfl⟩
  · cases h

theorem apply_add {s s' : Stack} {name dt : String} {data : List (Arr2 Int)} (h : s.apply (.add name dt data) = some s') :
    s'.fields = s.fields ++ [(name, dt)] ∧
    (∀ e, e < s.fields.length → s'.layers.map (Arr2.map (fieldOf e)) = s.layers.map (Arr2.map (fieldOf e))) ∧
    s'.layers.map (Arr2.map (fieldOf s.fields.length)) = data := by
  simp only [Stack.apply] at h
  split at h
  · cases h
  · rename_i hcond
    cases h
    simp only [Bool.or_eq_true, not_or, bne_iff_ne, ne_eq, Decidable.not_not, Bool.not_eq_true',
      Bool.not_eq_false] at hcond
    obtain ⟨⟨-, hlen⟩, hshape⟩ := hcond
    refine ⟨rfl, fun e he => ?_, ?_⟩
    · apply List.ext_getElem
      · simp [hlen]
      · intro i h1 h2
        simp only [List.getElem_map, List.getElem_zipWith, Arr2.map, fieldOf_appendField_lt _ _ _ _ he]
    · apply List.ext_getElem
      · simp [hlen]
      · intro i h1 h2
        have hi : i < s.layers.length := by simpa [hlen] using h1
        have hmem : (s.layers[i], data[i]) ∈ s.layers.zip data := by
          rw [List.mem_iff_getElem]
          exact ⟨i, by simp [hlen, hi], by simp⟩
        have hsh := List.all_eq_true.mp hshape _ hmem
        simp only [Bool.and_eq_true, beq_iff_eq] at hsh
        simp only [List.getElem_map, List.getElem_zipWith, Arr2.map, fieldOf_appendField_eq, hsh.1, hsh.2]

end Srr
end Pew
