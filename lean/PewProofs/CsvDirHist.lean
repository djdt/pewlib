import PewModel.CsvDir

/-! # C04 — histories of calls: what `step`, `exec` and `trace` do to the directories and to the option objects
the caller holds -/
namespace Pew.CsvDir

variable {α P : Type} (isNan : α → Bool) (rp : Vendor → Image α → P) (tkey : List Nat → Int)

theorem postO_mkOpt (v : Vendor) (img : Image α) : postO isNan rp (mkOpt v) img = post isNan rp v img := by
  cases h : dropsNan v <;> simp [postO, mkOpt, post, h]

theorem loadO_mkOpt (v : Vendor) (listing : List (Entry α)) (π : List Nat) :
    (loadO isNan rp tkey (mkOpt v) listing π).1 = load isNan rp v tkey listing π := by
  simp only [loadO, load, postO_mkOpt]
  rfl

theorem loadO_snd (o : Opt) (listing : List (Entry α)) (π : List Nat) :
    (loadO isNan rp tkey o listing π).2 = o := rfl

theorem step_fs (w : World α) (c : Call α) (p : Nat) :
    ((step isNan rp tkey w c).1).fs p
      = (match c with
         | .write q l => if p = q then l else w.fs p
         | _ => w.fs p) := by
  cases c with
  | importWith i q π =>
    simp only [step]
    cases w.opts[i]? <;> rfl
  | _ => rfl

theorem step_importAuto (w : World α) (p : Nat) (π : List Nat) :
    (step isNan rp tkey w (.importAuto p π)).2
      = some (load isNan rp (autodetect (w.fs p)) tkey (w.fs p) π) := by
  simp only [step, optionForPath, loadO_mkOpt]

theorem exec_append (w : World α) (cs ds : List (Call α)) :
    exec isNan rp tkey w (cs ++ ds) = exec isNan rp tkey (exec isNan rp tkey w cs) ds := by
  induction cs generalizing w with
  | nil => rfl
  | cons c cs ih => simp only [List.cons_append, exec, ih]

theorem trace_append (w : World α) (cs ds : List (Call α)) :
    trace isNan rp tkey w (cs ++ ds)
      = trace isNan rp tkey w cs ++ trace isNan rp tkey (exec isNan rp tkey w cs) ds := by
  induction cs generalizing w with
  | nil => rfl
  | cons c cs ih => simp only [List.cons_append, trace, exec, ih]

theorem trace_length (w : World α) (cs : List (Call α)) : (trace isNan rp tkey w cs).length = cs.length := by
  induction cs generalizing w with
  | nil => rfl
  | cons c cs ih => simp only [trace, List.length_cons, ih]

theorem trace_getElem?_append_cons (w : World α) (pre post : List (Call α)) (c : Call α) :
    (trace isNan rp tkey w (pre ++ c :: post))[pre.length]?
      = some (step isNan rp tkey (exec isNan rp tkey w pre) c).2 := by
  rw [trace_append, List.getElem?_append_right (by rw [trace_length]; exact Nat.le_refl _), trace_length]
  simp [trace]

theorem step_opts (w : World α) (c : Call α) (i : Nat) (o : Opt) (hi : w.opts[i]? = some o)
    (hc : ∀ f, c ≠ .editOpt i f) : ((step isNan rp tkey w c).1).opts[i]? = some o := by
  have hlt : i < w.opts.length := (List.getElem?_eq_some_iff.mp hi).1
  cases c with
  | editOpt j f =>
    have hj : j ≠ i := fun h => hc f (by rw [h])
    simp [step, hj, hi]
  | importWith j q π =>
    simp only [step]
    cases hj : w.opts[j]? with
    | none => exact hi
    | some oj =>
      -- `load` hands the object back as it got it
      simp only [loadO_snd]
      rw [List.getElem?_set]
      by_cases hji : j = i
      · rw [hji, hi] at hj
        simp [hji, hlt, ← Option.some.inj hj]
      · simp [hji, hi]
  | _ => simp [step, List.getElem?_append_left hlt, hi]

/-- **An option object survives every call that is not the caller's own edit of it**: imports through
it (`load` assigns to none of its attributes), imports through other objects, directory writes, new
objects. -/
theorem history_held_option_unchanged (isNan : α → Bool) (rp : Vendor → Image α → P) (tkey : List Nat → Int)
    (w : World α) (cs : List (Call α)) (i : Nat) (o : Opt) (hi : w.opts[i]? = some o)
    (hc : ∀ c ∈ cs, ∀ f, c ≠ .editOpt i f) : (exec isNan rp tkey w cs).opts[i]? = some o := by
  induction cs generalizing w with
  | nil => exact hi
  | cons c cs ih =>
    apply ih
    · exact step_opts isNan rp tkey w c i o hi (hc c (List.mem_cons_self))
    · intro d hd
      exact hc d (List.mem_cons_of_mem _ hd)

/-- `c` is the call that made the object `o` (`newOpt` and `detect` both append it to the held ones: `hc`), so the index
under which a later import passes it is the number of objects held before `c` -/
theorem trace_importWith_appended (w : World α) (pre mid post : List (Call α)) (c : Call α) (o : Opt)
    (p : Nat) (π : List Nat)
    (hc : (step isNan rp tkey (exec isNan rp tkey w pre) c).1.opts = (exec isNan rp tkey w pre).opts ++ [o])
    (hmid : ∀ d ∈ mid, ∀ f, d ≠ .editOpt (exec isNan rp tkey w pre).opts.length f) :
    (trace isNan rp tkey w
        (pre ++ c :: (mid ++ .importWith (exec isNan rp tkey w pre).opts.length p π :: post)))[pre.length + 1 + mid.length]?
      = some (some (loadO isNan rp tkey o ((exec isNan rp tkey w (pre ++ c :: mid)).fs p) π).1) := by
  have hl : (pre ++ c :: mid).length = pre.length + 1 + mid.length := by simp; omega
  have happ : pre ++ c :: (mid ++ .importWith (exec isNan rp tkey w pre).opts.length p π :: post)
      = (pre ++ c :: mid) ++ .importWith (exec isNan rp tkey w pre).opts.length p π :: post := by simp
  have hopt : (exec isNan rp tkey w (pre ++ c :: mid)).opts[(exec isNan rp tkey w pre).opts.length]? = some o := by
    rw [exec_append]
    apply history_held_option_unchanged _ _ _ _ _ _ _ _ hmid
    rw [hc]
    simp
  rw [happ, ← hl, trace_getElem?_append_cons]
  simp only [step, hopt]

end Pew.CsvDir
