import PewModel.Export
import PewProofs.Lists

/-! # C16 — facts about lists of characters that hold of any text, and about `flatMap` into pieces of equal length:
nothing here knows of images, lines or tags -/
namespace Pew.Export

/-- decides a closed fact about string literals: `String.toList_ofList` turns every `"…".toList` into the list of its
characters, then the fact is decided.  The kernel reads a literal as `String.ofList` of that list, so the rewriting
step is checked without evaluating `toList`. -/
macro "decide_chars" : tactic => `(tactic| ((repeat rw [String.toList_ofList]); decide +kernel))

theorem dropWhile_append_of_neg (p : Char → Bool) (m rest : Str) (hne : m ≠ []) (h : ∀ c ∈ m, p c = false) :
    (m ++ rest).dropWhile p = m ++ rest := by
  cases m with
  | nil => exact absurd rfl hne
  | cons a t => rw [List.cons_append, List.dropWhile_cons_of_neg (by simp [h a])]

theorem dropWhile_stop (p : Char → Bool) (l r : Str) (c : Char) (hc : p c = false) :
    (l ++ c :: r).dropWhile p = l.dropWhile p ++ c :: r := by
  induction l with
  | nil => simp [hc]
  | cons d ds ih =>
    by_cases hd : p d = true
    · simp only [List.cons_append, List.dropWhile_cons, hd, if_true, ih]
    · simp [hd]

theorem rstrip_stop (p : Char → Bool) (l r : Str) (c : Char) (hc : p c = false) :
    Lists.rstrip p (l ++ c :: r) = l ++ c :: Lists.rstrip p r := by
  rw [Lists.rstrip, List.reverse_append, List.reverse_cons, List.append_assoc, List.singleton_append,
    dropWhile_stop _ _ _ _ hc, List.reverse_append, List.reverse_cons, List.reverse_reverse, List.append_assoc,
    List.singleton_append, Lists.rstrip]

theorem splitOn_eq : splitOn = Lists.splitOn := by
  funext d s
  induction s with
  | nil => rfl
  | cons c cs ih => rw [splitOn, Lists.splitOn, ih]; cases Lists.splitOn d cs <;> rfl

theorem splitOn_ne_nil (d : Char) (s : Str) : splitOn d s ≠ [] :=
  splitOn_eq ▸ Lists.splitOn_ne_nil d s

theorem splitOn_eq_cons (d : Char) (s : Str) : ∃ x xs, splitOn d s = x :: xs :=
  List.exists_cons_of_ne_nil (splitOn_ne_nil d s)

theorem splitOn_clean (d : Char) (s : Str) (h : d ∉ s) : splitOn d s = [s] :=
  splitOn_eq ▸ Lists.splitOn_of_not_mem d h

theorem splitOn_append (d : Char) (x rest : Str) (h : d ∉ x) :
    splitOn d (x ++ d :: rest) = x :: splitOn d rest :=
  splitOn_eq ▸ Lists.splitOn_append d rest h

theorem join_eq : join = Lists.join := by
  funext d fs
  induction fs with
  | nil => rfl
  | cons x r ih => cases r with
    | nil => rfl
    | cons y r => rw [join, Lists.join, ih]

theorem splitOn_join (d : Char) (fs : List Str) (hne : fs ≠ []) (h : ∀ f ∈ fs, d ∉ f) :
    splitOn d (join d fs) = fs :=
  splitOn_eq ▸ join_eq ▸ Lists.splitOn_join d hne h

theorem splitOn_terminated_append (ls : List Str) (t : Str) (h : ∀ l ∈ ls, '\n' ∉ l) :
    splitOn '\n' (ls.flatMap (· ++ ['\n']) ++ t) = ls ++ splitOn '\n' t := by
  induction ls with
  | nil => rfl
  | cons l ls ih =>
    simp only [List.flatMap_cons, List.append_assoc, List.cons_append, List.nil_append]
    rw [splitOn_append '\n' l _ (h l (by simp))]
    exact congrArg (l :: ·) (ih fun x hx => h x (by simp [hx]))

theorem mem_splitOn (d : Char) (s : Str) : ∀ l ∈ splitOn d s, d ∉ l ∧ ∀ c ∈ l, c ∈ s := by
  induction s with
  | nil => simp [splitOn]
  | cons a t ih =>
    intro l hl
    rw [splitOn] at hl
    split at hl
    · rcases List.mem_cons.mp hl with rfl | e
      · simp
      · exact ⟨(ih l e).1, fun c hc => List.mem_cons_of_mem _ ((ih l e).2 c hc)⟩
    · rename_i ha
      split at hl
      · rename_i hs; exact absurd hs (splitOn_ne_nil _ _)
      · rename_i x xs hs
        rw [hs] at ih
        rcases List.mem_cons.mp hl with rfl | e
        · have hx := ih x List.mem_cons_self
          exact ⟨fun hm => (List.mem_cons.mp hm).elim (fun e => ha e.symm) hx.1,
            fun c hc => (List.mem_cons.mp hc).elim (fun e => e ▸ List.mem_cons_self) fun e => List.mem_cons_of_mem _ (hx.2 c e)⟩
        · have hx := ih l (List.mem_cons_of_mem _ e)
          exact ⟨hx.1, fun c hc => List.mem_cons_of_mem _ (hx.2 c hc)⟩

theorem mem_join (d : Char) (fs : List Str) (c : Char) (hc : c ∈ join d fs) :
    c = d ∨ ∃ f ∈ fs, c ∈ f :=
  Lists.mem_join d (join_eq ▸ hc)

theorem join_ne_nil (d : Char) (fs : List Str) (hne : fs ≠ []) (h : ∀ f ∈ fs, f ≠ []) : join d fs ≠ [] := by
  cases fs with
  | nil => exact absurd rfl hne
  | cons x r =>
    cases r with
    | nil => simpa [join] using h x (by simp)
    | cons y r => simp [join]

theorem mem_joinWith (ss : List Char) (fs : List Str) (c : Char) (h : c ∈ joinWith ss fs) :
    c ∈ ss ∨ (c = ',' ∧ ss.length + 1 < fs.length) ∨ ∃ f ∈ fs, c ∈ f := by
  induction fs generalizing ss with
  | nil => simp [joinWith] at h
  | cons x r ih =>
    cases r with
    | nil =>
      have : c ∈ x := by simpa [joinWith] using h
      exact Or.inr (Or.inr ⟨x, by simp, this⟩)
    | cons y r =>
      cases ss with
      | nil =>
        simp only [joinWith, List.mem_append, List.mem_cons] at h
        rcases h with h | h | h
        · exact Or.inr (Or.inr ⟨x, by simp, h⟩)
        · exact Or.inr (Or.inl ⟨h, by simp⟩)
        · rcases ih [] h with e | ⟨e, _⟩ | ⟨f, hf, hcf⟩
          · simp at e
          · exact Or.inr (Or.inl ⟨e, by simp⟩)
          · exact Or.inr (Or.inr ⟨f, by simp [hf], hcf⟩)
      | cons s ss =>
        simp only [joinWith, List.mem_append, List.mem_cons] at h
        rcases h with h | h | h
        · exact Or.inr (Or.inr ⟨x, by simp, h⟩)
        · exact Or.inl (by simp [h])
        · rcases ih ss h with e | ⟨e, hl⟩ | ⟨f, hf, hcf⟩
          · exact Or.inl (by simp [e])
          · exact Or.inr (Or.inl ⟨e, by simpa using hl⟩)
          · exact Or.inr (Or.inr ⟨f, by simp [hf], hcf⟩)

section pieces
variable {β γ : Type} (f : β → List γ) (n : Nat) (ws : List β) (h : ∀ w ∈ ws, (f w).length = n)
include h

theorem flatMap_take_const (m : Nat) : (ws.flatMap f).take (n * m) = (ws.take m).flatMap f := by
  induction ws generalizing m with
  | nil => simp
  | cons x xs ih =>
    cases m with
    | zero => simp
    | succ m =>
      have hx := h x (by simp)
      rw [List.flatMap_cons, List.take_succ_cons, List.flatMap_cons, Nat.mul_succ, Nat.add_comm,
        List.take_append, hx, Nat.add_sub_cancel_left, ih (fun w hw => h w (by simp [hw])) m]
      congr 1
      exact List.take_of_length_le (by omega)

theorem flatMap_drop_take (i : Nat) (w : β) (hi : ws[i]? = some w) : ((ws.flatMap f).drop (n * i)).take n = f w := by
  obtain ⟨hlt, rfl⟩ := List.getElem?_eq_some_iff.mp hi
  rw [Lists.drop_flatMap_const f n ws h i, List.drop_eq_getElem_cons hlt, List.flatMap_cons]
  exact List.take_left' (h _ (List.getElem_mem hlt))

end pieces

end Pew.Export
