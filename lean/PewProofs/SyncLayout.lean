import PewModel.Sync
import PewProofs.SyncList
import Mathlib.Tactic.Linarith

/-! # C08 — where each sample of a rendered acquisition sits: the samples are sorted in time, and a laser event of a
line splits the sample list at the line's prefix sum -/
namespace Pew.Sync

theorem slot_bounds (phase : Rat) (h0 : 0 < phase) (h1 : phase < 1) (start len k j : Nat) (hj : j < k)
    (hlen : 0 < len) :
    (start : Rat) < (start : Rat) + ((j : Rat) + phase) * ((len : Rat) / (k : Rat)) ∧
    (start : Rat) + ((j : Rat) + phase) * ((len : Rat) / (k : Rat)) < ((start + len : Nat) : Rat) := by
  have hk : (0 : Rat) < (k : Rat) := Nat.cast_pos.mpr (by omega)
  have hu : (0 : Rat) < (len : Rat) / (k : Rat) := div_pos (Nat.cast_pos.mpr hlen) hk
  have hjk : (j : Rat) + 1 ≤ (k : Rat) := by exact_mod_cast hj
  have hj0 : (0 : Rat) ≤ (j : Rat) := Nat.cast_nonneg j
  refine ⟨lt_add_of_pos_right (start : Rat) (mul_pos (add_pos_of_nonneg_of_pos hj0 h0) hu), ?_⟩
  have : ((j : Rat) + phase) * ((len : Rat) / (k : Rat)) < (len : Rat) :=
    calc ((j : Rat) + phase) * ((len : Rat) / (k : Rat)) < (k : Rat) * ((len : Rat) / (k : Rat)) :=
          mul_lt_mul_of_pos_right (by linarith) hu
      _ = (len : Rat) := mul_div_cancel₀ _ hk.ne'
  rw [Nat.cast_add]
  exact add_lt_add_right this (start : Rat)

theorem slot_mono (phase : Rat) (start len k i j : Nat) (hij : i < j) (hj : j < k) (hlen : 0 < len) :
    (start : Rat) + ((i : Rat) + phase) * ((len : Rat) / (k : Rat)) <
    (start : Rat) + ((j : Rat) + phase) * ((len : Rat) / (k : Rat)) := by
  have hu : (0 : Rat) < (len : Rat) / (k : Rat) :=
    div_pos (Nat.cast_pos.mpr hlen) (Nat.cast_pos.mpr (by omega))
  gcongr

theorem slotSamples_length (phase : Rat) (start len k : Nat) (cell : Nat → Option (Int × Int × Int)) :
    (slotSamples phase start len k cell).length = k := by
  simp [slotSamples]

theorem slotSamples_getElem? (phase : Rat) (start len k : Nat) (cell : Nat → Option (Int × Int × Int)) (j : Nat)
    (hj : j < k) :
    (slotSamples phase start len k cell)[j]? =
      some { t := (start : Rat) + ((j : Rat) + phase) * ((len : Rat) / (k : Rat)), cell := cell j } := by
  simp [slotSamples, List.getElem?_map, List.getElem?_range hj]

theorem mem_slotSamples (phase : Rat) (start len k : Nat) (cell : Nat → Option (Int × Int × Int)) (s : Sample)
    (h : s ∈ slotSamples phase start len k cell) :
    ∃ j, j < k ∧ s = { t := (start : Rat) + ((j : Rat) + phase) * ((len : Rat) / (k : Rat)), cell := cell j } := by
  simp only [slotSamples, List.mem_map, List.mem_range] at h
  obtain ⟨j, hj, rfl⟩ := h
  exact ⟨j, hj, rfl⟩

theorem slotSamples_sorted (phase : Rat) (start len k : Nat) (cell : Nat → Option (Int × Int × Int))
    (hlen : 0 < k → 0 < len) :
    (slotSamples phase start len k cell).Pairwise (fun a b => a.t < b.t) := by
  unfold slotSamples
  rw [List.pairwise_map]
  refine (List.Pairwise.and_mem.mp List.pairwise_lt_range).imp fun ⟨_, hb, hab⟩ => ?_
  have hbk := List.mem_range.mp hb
  exact slot_mono phase start len k _ _ hab hbk (hlen (by omega))

theorem on_le_off (l : LineRec) : l.on ≤ l.off := by
  unfold LineRec.off; omega

theorem clock_le_on (l : LineRec) : l.clock ≤ l.on := by
  unfold LineRec.on; omega

theorem gapCount_pos (l : LineRec) (h : 0 < l.gapCount) : 0 < l.ln.gap := by
  unfold LineRec.gapCount at h
  split at h <;> omega

section line
variable (phase : Rat) (h0 : 0 < phase) (h1 : phase < 1)
include h0 h1

theorem gapS_bounds (l : LineRec) (s : Sample) (h : s ∈ l.gapS phase) :
    (l.clock : Rat) < s.t ∧ s.t < (l.on : Rat) ∧ s.cell = none := by
  obtain ⟨j, hj, rfl⟩ := mem_slotSamples _ _ _ _ _ _ h
  have := slot_bounds phase h0 h1 l.clock l.ln.gap l.gapCount j hj (gapCount_pos l (by omega))
  exact ⟨this.1, this.2, rfl⟩

theorem pixS_bounds (l : LineRec) (hd : 0 < l.p.dwell) (s : Sample) (h : s ∈ l.pixS phase) :
    (l.on : Rat) < s.t ∧ s.t < (l.off : Rat) := by
  obtain ⟨j, hj, rfl⟩ := mem_slotSamples _ _ _ _ _ _ h
  have hlen : 0 < l.p.npix * l.p.dwell := Nat.mul_pos (by omega) hd
  exact slot_bounds phase h0 h1 l.on (l.p.npix * l.p.dwell) l.p.npix j hj hlen

theorem samples_bounds (l : LineRec) (hd : 0 < l.p.dwell) (s : Sample) (h : s ∈ l.samples phase) :
    (l.clock : Rat) < s.t ∧ s.t < (l.off : Rat) := by
  have hon : (l.clock : Rat) ≤ (l.on : Rat) := by exact_mod_cast clock_le_on l
  have hoff : (l.on : Rat) ≤ (l.off : Rat) := by exact_mod_cast on_le_off l
  rcases List.mem_append.mp h with hg | hp
  · have := gapS_bounds phase h0 h1 l s hg
    exact ⟨this.1, by linarith [this.2.1]⟩
  · have := pixS_bounds phase h0 h1 l hd s hp
    exact ⟨by linarith [this.1], this.2⟩

theorem samples_sorted (l : LineRec) (hd : 0 < l.p.dwell) :
    (l.samples phase).Pairwise (fun a b => a.t < b.t) := by
  unfold LineRec.samples
  rw [List.pairwise_append]
  refine ⟨slotSamples_sorted _ _ _ _ _ (gapCount_pos l), slotSamples_sorted _ _ _ _ _ fun h => Nat.mul_pos h hd, ?_⟩
  intro a ha b hb
  have := gapS_bounds phase h0 h1 l a ha
  have := pixS_bounds phase h0 h1 l hd b hb
  linarith

end line

theorem flatMap_samples_length_cons (phase : Rat) (l : LineRec) :
    (l.samples phase).length = l.gapCount + l.p.npix := by
  simp [LineRec.samples, LineRec.gapS, LineRec.pixS, slotSamples_length]

theorem gapS_length (phase : Rat) (l : LineRec) : (l.gapS phase).length = l.gapCount := by
  simp [LineRec.gapS, slotSamples_length]

theorem pixS_length (phase : Rat) (l : LineRec) : (l.pixS phase).length = l.p.npix := by
  simp [LineRec.pixS, slotSamples_length]

theorem pixS_cell (phase : Rat) (l : LineRec) (j : Nat) (hj : j < l.p.npix) :
    ∃ s, (l.pixS phase)[j]? = some s ∧
      s.cell = some (l.p.seq, (l.p.stepCell l.i j).1, (l.p.stepCell l.i j).2) := by
  refine ⟨_, slotSamples_getElem? _ _ _ _ _ j hj, rfl⟩

theorem layLines_ordered (p : Pattern) (i c : Nat) (lns : List LineSpec) :
    c ≤ linesEnd p c lns ∧ (∀ l ∈ layLines p i c lns, c ≤ l.clock ∧ l.off ≤ linesEnd p c lns) ∧
      (layLines p i c lns).Pairwise (fun l l' => l.off ≤ l'.clock) := by
  induction lns generalizing i c with
  | nil => simp [layLines, linesEnd]
  | cons ln rest ih =>
    obtain ⟨h1, h2, h3⟩ := ih (i + 1) (c + ln.gap + p.npix * p.dwell)
    have e : LineRec.off { p := p, i := i, ln := ln, clock := c } = c + ln.gap + p.npix * p.dwell := rfl
    have hc : c ≤ c + ln.gap + p.npix * p.dwell := by omega
    simp only [layLines, linesEnd, e, List.forall_mem_cons, List.pairwise_cons]
    exact ⟨hc.trans h1, ⟨⟨le_rfl, h1⟩, fun l hl => ⟨hc.trans (h2 l hl).1, (h2 l hl).2⟩⟩, fun l hl => (h2 l hl).1, h3⟩

theorem layPatterns_ordered (c : Nat) (ps : List Pattern) :
    c ≤ patsEnd c ps ∧ (∀ l ∈ (layPatterns c ps).flatMap (·.lines), c ≤ l.clock ∧ l.off ≤ patsEnd c ps) ∧
      ((layPatterns c ps).flatMap (·.lines)).Pairwise (fun l l' => l.off ≤ l'.clock) := by
  induction ps generalizing c with
  | nil => simp [layPatterns, patsEnd]
  | cons p rest ih =>
    obtain ⟨h1, h2, h3⟩ := layLines_ordered p 0 c p.lines
    obtain ⟨g1, g2, g3⟩ := ih (linesEnd p c p.lines)
    simp only [layPatterns, patsEnd, List.flatMap_cons, List.mem_append, List.pairwise_append]
    exact ⟨h1.trans g1, fun l hl => hl.elim (fun hl => ⟨(h2 l hl).1, (h2 l hl).2.trans g1⟩)
      (fun hl => ⟨h1.trans (g2 l hl).1, (g2 l hl).2⟩), h3, g3, fun l hl l' hl' => (h2 l hl).2.trans (g2 l' hl').1⟩

theorem mem_layLines (p : Pattern) (i c : Nat) (lns : List LineSpec) (l : LineRec) (h : l ∈ layLines p i c lns) :
    l.p = p ∧ i ≤ l.i ∧ l.i < i + lns.length := by
  induction lns generalizing i c with
  | nil => simp [layLines] at h
  | cons ln rest ih =>
    simp only [layLines, List.mem_cons] at h
    rcases h with h | h
    · subst h; simp
    · have := ih (i + 1) _ h
      simp only [List.length_cons]
      exact ⟨this.1, by omega, by omega⟩

theorem layPatterns_p (c : Nat) (ps : List Pattern) : (layPatterns c ps).map (·.p) = ps := by
  induction ps generalizing c with
  | nil => rfl
  | cons p rest ih => simp [layPatterns, ih]

theorem mem_layPatterns (c : Nat) (ps : List Pattern) (b : PatRec) (h : b ∈ layPatterns c ps) :
    b.p ∈ ps ∧ ∃ c', b.lines = layLines b.p 0 c' b.p.lines ∧ b.clock = c' := by
  induction ps generalizing c with
  | nil => simp [layPatterns] at h
  | cons p rest ih =>
    simp only [layPatterns, List.mem_cons] at h
    rcases h with h | h
    · subst h; exact ⟨by simp, c, rfl, rfl⟩
    · have := ih _ h
      exact ⟨by simp [this.1], this.2⟩

theorem mem_recs_lines (a : Acq) (b : PatRec) (hb : b ∈ a.recs) (l : LineRec) (hl : l ∈ b.lines) :
    l.p = b.p ∧ b.p ∈ a.patterns ∧ l.i < b.p.lines.length := by
  obtain ⟨hp, c', hl', _⟩ := mem_layPatterns 0 a.patterns b hb
  rw [hl'] at hl
  have := mem_layLines _ _ _ _ l hl
  exact ⟨this.1, hp, by omega⟩

theorem recs_p (a : Acq) : a.recs.map (·.p) = a.patterns := layPatterns_p 0 a.patterns

theorem mem_lines (a : Acq) (l : LineRec) (hl : l ∈ a.lines) :
    l.p ∈ a.patterns ∧ l.i < l.p.lines.length := by
  unfold Acq.lines at hl
  obtain ⟨b, hb, hlb⟩ := List.mem_flatMap.mp hl
  have := mem_recs_lines a b hb l hlb
  rw [this.1]; exact ⟨this.2.1, this.2.2⟩

section order
variable (phase : Rat) (h0 : 0 < phase) (h1 : phase < 1)
include h0 h1

theorem flatMap_samples_bounds (L : List LineRec) (hd : ∀ l ∈ L, 0 < l.p.dwell) (s : Sample)
    (hs : s ∈ L.flatMap (LineRec.samples phase)) :
    (∀ lo : Nat, (∀ l ∈ L, lo ≤ l.clock) → (lo : Rat) < s.t) ∧
      (∀ hi : Nat, (∀ l ∈ L, l.off ≤ hi) → s.t < (hi : Rat)) := by
  obtain ⟨l, hl, hsl⟩ := List.mem_flatMap.mp hs
  have hb := samples_bounds phase h0 h1 l (hd l hl) s hsl
  exact ⟨fun lo h => lt_of_le_of_lt (by exact_mod_cast h l hl) hb.1,
    fun hi h => lt_of_lt_of_le hb.2 (by exact_mod_cast h l hl)⟩

theorem ordered_sorted (L : List LineRec) (hc : L.Pairwise (fun l l' => l.off ≤ l'.clock))
    (hd : ∀ l ∈ L, 0 < l.p.dwell) : (L.flatMap (LineRec.samples phase)).Pairwise (fun a b => a.t < b.t) := by
  rw [List.pairwise_flatMap]
  refine ⟨fun l hl => samples_sorted phase h0 h1 l (hd l hl), (List.Pairwise.and_mem.mp hc).imp ?_⟩
  rintro l l' ⟨hl, hl', hll⟩ a ha b hb
  have := (samples_bounds phase h0 h1 l (hd l hl) a ha).2
  have := (samples_bounds phase h0 h1 l' (hd l' hl') b hb).1
  have : (l.off : Rat) ≤ (l'.clock : Rat) := by exact_mod_cast hll
  linarith

end order

theorem mem_tailS (a : Acq) (s : Sample) (h : s ∈ a.tailS) :
    0 < a.tailGap ∧ ∃ j, j < a.tailSamples ∧ s = { t := ((patsEnd 0 a.patterns : Nat) : Rat) +
      ((j : Rat) + a.phase) * ((a.tailGap : Rat) / (a.tailSamples : Rat)), cell := none } := by
  unfold Acq.tailS at h
  split at h
  · cases h
  · exact ⟨by omega, mem_slotSamples _ _ _ _ _ _ h⟩

theorem tailS_sorted (a : Acq) : a.tailS.Pairwise (fun x y => x.t < y.t) := by
  unfold Acq.tailS
  split
  · exact List.Pairwise.nil
  · exact slotSamples_sorted _ _ _ _ _ fun _ => by omega

theorem tailS_cell (a : Acq) (s : Sample) (h : s ∈ a.tailS) : s.cell = none := by
  obtain ⟨_, j, _, rfl⟩ := mem_tailS a s h
  rfl

theorem tailS_bounds (a : Acq) (h0 : 0 < a.phase) (h1 : a.phase < 1) (s : Sample) (h : s ∈ a.tailS) :
    ((patsEnd 0 a.patterns : Nat) : Rat) < s.t := by
  obtain ⟨hg, j, hj, rfl⟩ := mem_tailS a s h
  exact (slot_bounds a.phase h0 h1 _ a.tailGap a.tailSamples j hj hg).1

theorem lines_dwell (a : Acq) (hd : ∀ p ∈ a.patterns, 0 < p.dwell) (l : LineRec) (hl : l ∈ a.lines) : 0 < l.p.dwell :=
  hd _ (mem_lines a l hl).1

theorem lines_ordered (a : Acq) :
    (∀ l ∈ a.lines, l.off ≤ patsEnd 0 a.patterns) ∧ a.lines.Pairwise (fun l l' => l.off ≤ l'.clock) :=
  ⟨fun l hl => ((layPatterns_ordered 0 a.patterns).2.1 l hl).2, (layPatterns_ordered 0 a.patterns).2.2⟩

theorem emitAll_sorted (a : Acq) (h0 : 0 < a.phase) (h1 : a.phase < 1) (hd : ∀ p ∈ a.patterns, 0 < p.dwell) :
    (emitAll a).samples.Pairwise (fun x y => x.t < y.t) := by
  simp only [emitAll]
  rw [List.pairwise_append]
  obtain ⟨he, hc⟩ := lines_ordered a
  refine ⟨ordered_sorted a.phase h0 h1 a.lines hc (lines_dwell a hd), tailS_sorted a, fun x hx y hy => ?_⟩
  exact ((flatMap_samples_bounds a.phase h0 h1 a.lines (lines_dwell a hd) x hx).2 _ he).trans (tailS_bounds a h0 h1 y hy)

/-- the lengths do not depend on `phase`; it is a parameter so that a user gets the sample list it holds -/
theorem mem_lineStarts (phase : Rat) (s0 : Nat) (L : List LineRec) (lP : LineRec × Nat) :
    lP ∈ lineStarts s0 L ↔
      ∃ A B, L = A ++ lP.1 :: B ∧ lP.2 = s0 + (A.flatMap (LineRec.samples phase)).length + lP.1.gapCount := by
  induction L generalizing s0 with
  | nil => simp [lineStarts]
  | cons l rest ih =>
    rw [lineStarts, List.mem_cons, ih]
    constructor
    · rintro (rfl | ⟨A, B, rfl, hP⟩)
      · exact ⟨[], rest, rfl, rfl⟩
      · exact ⟨l :: A, B, rfl, by rw [hP, List.flatMap_cons, List.length_append, flatMap_samples_length_cons]; omega⟩
    · rintro ⟨A, B, hL, hP⟩
      cases A with
      | nil => cases hL; exact Or.inl (Prod.ext rfl hP)
      | cons a A =>
        cases hL
        exact Or.inr ⟨A, B, rfl, by rw [hP, List.flatMap_cons, List.length_append, flatMap_samples_length_cons]; omega⟩

theorem lineStarts_mem (s0 : Nat) (L : List LineRec) (lP : LineRec × Nat) (h : lP ∈ lineStarts s0 L) :
    lP.1 ∈ L ∧ s0 ≤ lP.2 := by
  obtain ⟨A, B, rfl, hP⟩ := (mem_lineStarts 0 s0 L lP).mp h
  exact ⟨by simp, by omega⟩

theorem lineStarts_of_mem (s0 : Nat) (L : List LineRec) (l : LineRec) (h : l ∈ L) :
    ∃ P, (l, P) ∈ lineStarts s0 L := by
  obtain ⟨A, B, rfl⟩ := List.append_of_mem h
  exact ⟨s0 + (A.flatMap (LineRec.samples 0)).length + l.gapCount, (mem_lineStarts 0 s0 _ (l, _)).mpr ⟨A, B, rfl, rfl⟩⟩

theorem samples_split (phase : Rat) (A B : List LineRec) (l : LineRec) (tl : List Sample) :
    (A ++ l :: B).flatMap (LineRec.samples phase) ++ tl =
      (A.flatMap (LineRec.samples phase) ++ l.gapS phase) ++ (l.pixS phase ++ (B.flatMap (LineRec.samples phase) ++ tl)) := by
  simp [LineRec.samples]

theorem lt_iff_of_append (A B : List Sample) (v : Rat) (hA : ∀ s ∈ A, s.t < v) (hB : ∀ s ∈ B, v < s.t) (n : Nat)
    (s : Sample) (hs : (A ++ B)[n]? = some s) : s.t < v ↔ n < A.length := by
  rw [List.getElem?_append] at hs
  split at hs
  · rename_i hn; exact ⟨fun _ => hn, fun _ => hA s (List.mem_of_getElem? hs)⟩
  · rename_i hn
    exact ⟨fun h => absurd h (not_lt.mpr (hB s (List.mem_of_getElem? hs)).le), fun h => absurd h hn⟩

section index
variable (phase : Rat) (h0 : 0 < phase) (h1 : phase < 1)
include h0 h1

theorem layout_times (L : List LineRec) (s0 : Nat) (hc : L.Pairwise (fun l l' => l.off ≤ l'.clock))
    (hd : ∀ l ∈ L, 0 < l.p.dwell) (tl : List Sample) (htl : ∀ l ∈ L, ∀ s ∈ tl, (l.off : Rat) < s.t)
    (lP : LineRec × Nat) (hlP : lP ∈ lineStarts s0 L) (n : Nat) (s : Sample)
    (hs : (L.flatMap (LineRec.samples phase) ++ tl)[n]? = some s) :
    (s.t < (lP.1.on : Rat) ↔ n + s0 < lP.2) ∧ (s.t < (lP.1.off : Rat) ↔ n + s0 < lP.2 + lP.1.p.npix) := by
  obtain ⟨l, P⟩ := lP
  obtain ⟨A, B, rfl, hP⟩ := (mem_lineStarts phase s0 L (l, P)).mp hlP
  simp only at hP ⊢
  obtain ⟨-, hlB, hAl⟩ := List.pairwise_append.mp hc
  have hdl : 0 < l.p.dwell := hd l (by simp)
  -- the lines before `l` end by `l.clock`; everything after `l` is later than `l.off`
  have hbefore : ∀ s ∈ A.flatMap (LineRec.samples phase), s.t < (l.clock : Rat) := fun s h =>
    (flatMap_samples_bounds phase h0 h1 A (fun l' hl' => hd l' (by simp [hl'])) s h).2 _ fun l' hl' => hAl l' hl' l (by simp)
  have hafter : ∀ s ∈ B.flatMap (LineRec.samples phase) ++ tl, (l.off : Rat) < s.t := fun s h =>
    (List.mem_append.mp h).elim
      (fun h => (flatMap_samples_bounds phase h0 h1 B (fun l' hl' => hd l' (by simp [hl'])) s h).1 _
        (List.pairwise_cons.mp hlB).1)
      (htl l (by simp) s)
  have e1 : (l.clock : Rat) ≤ (l.on : Rat) := by exact_mod_cast clock_le_on l
  have e2 : (l.on : Rat) ≤ (l.off : Rat) := by exact_mod_cast on_le_off l
  have hon := lt_iff_of_append _ _ (l.on : Rat)
    (fun s h => (List.mem_append.mp h).elim (fun h => lt_of_lt_of_le (hbefore s h) e1)
      (fun h => (gapS_bounds phase h0 h1 l s h).2.1))
    (fun s h => (List.mem_append.mp h).elim (fun h => (pixS_bounds phase h0 h1 l hdl s h).1)
      (fun h => lt_of_le_of_lt e2 (hafter s h)))
    n s (by rw [← samples_split]; exact hs)
  have hoff := lt_iff_of_append (A.flatMap (LineRec.samples phase) ++ l.samples phase) _ (l.off : Rat)
    (fun s h => (List.mem_append.mp h).elim (fun h => lt_of_lt_of_le (hbefore s h) (e1.trans e2))
      (fun h => (samples_bounds phase h0 h1 l hdl s h).2))
    hafter n s (by simpa using hs)
  rw [List.length_append, gapS_length] at hon
  rw [List.length_append, flatMap_samples_length_cons] at hoff
  exact ⟨by rw [hon]; omega, by rw [hoff]; omega⟩

end index

theorem emitAll_index_of_cell (a : Acq) (lP : LineRec × Nat) (hlP : lP ∈ lineStarts 0 a.lines) (j : Nat)
    (hj : j < lP.1.p.npix) :
    ∃ s, (emitAll a).samples[lP.2 + j]? = some s ∧
      s.cell = some (lP.1.p.seq, (lP.1.p.stepCell lP.1.i j).1, (lP.1.p.stepCell lP.1.i j).2) := by
  obtain ⟨A, B, hL, hP⟩ := (mem_lineStarts a.phase 0 _ lP).mp hlP
  obtain ⟨s, hs, hc⟩ := pixS_cell a.phase lP.1 j hj
  refine ⟨s, ?_, hc⟩
  simp only [emitAll]
  rw [hL, samples_split, List.getElem?_append_right (by rw [List.length_append, gapS_length]; omega),
    List.getElem?_append_left (by rw [List.length_append, gapS_length, pixS_length]; omega), ← hs,
    List.length_append, gapS_length]
  congr 1; omega

theorem emitAll_cell_of_index (a : Acq) (n : Nat) (s : Sample) (q : Int × Int × Int)
    (hs : (emitAll a).samples[n]? = some s) (hq : s.cell = some q) :
    ∃ lP ∈ lineStarts 0 a.lines, ∃ j, j < lP.1.p.npix ∧ n = lP.2 + j ∧
      q = (lP.1.p.seq, (lP.1.p.stepCell lP.1.i j).1, (lP.1.p.stepCell lP.1.i j).2) := by
  simp only [emitAll] at hs
  rw [List.getElem?_append] at hs
  split at hs
  · obtain ⟨A, l, B, m, hL, rfl, hm⟩ := getElem?_flatMap _ _ n s hs
    -- a gap sample has no cell, so `s` is pixel sample `m - gapCount` of `l`
    rw [LineRec.samples, List.getElem?_append, gapS_length] at hm
    split at hm
    · obtain ⟨j, _, rfl⟩ := mem_slotSamples _ _ _ _ _ _ (List.mem_of_getElem? hm)
      cases hq
    · have hj : m - l.gapCount < l.p.npix := by
        have := (List.getElem?_eq_some_iff.mp hm).1; rwa [pixS_length] at this
      obtain ⟨s', hs', hc'⟩ := pixS_cell a.phase l _ hj
      rw [hm, Option.some.injEq] at hs'
      subst hs'
      exact ⟨(l, 0 + (A.flatMap (LineRec.samples a.phase)).length + l.gapCount),
        (mem_lineStarts a.phase 0 _ (l, _)).mpr ⟨A, B, hL, rfl⟩, _, hj, by simp only; omega,
        Option.some.inj (hq.symm.trans hc')⟩
  · rw [tailS_cell a s (List.mem_of_getElem? hs)] at hq; cases hq

/-- Laser events against samples, whatever the gaps: for every line of the acquisition (with `P` the
number of samples recorded before its first pixel — gap samples, other lines, other patterns), the
samples recorded before its `On` event are exactly the first `P` and those before its `Off` event
exactly the first `P + npix`.  Laser-off samples therefore fall in no line's range. -/
theorem render_event_index (a : Acq) (h0 : 0 < a.phase) (h1 : a.phase < 1) (hd : ∀ p ∈ a.patterns, 0 < p.dwell)
    (lP : LineRec × Nat) (hlP : lP ∈ lineStarts 0 a.lines) (n : Nat) (s : Sample)
    (hs : (emitAll a).samples[n]? = some s) :
    (s.t < (lP.1.on : Rat) ↔ n < lP.2) ∧ (s.t < (lP.1.off : Rat) ↔ n < lP.2 + lP.1.p.npix) := by
  obtain ⟨he, hc⟩ := lines_ordered a
  exact layout_times a.phase h0 h1 a.lines 0 hc (lines_dwell a hd) a.tailS
    (fun l hl s hs => lt_of_le_of_lt (by exact_mod_cast he l hl) (tailS_bounds a h0 h1 s hs)) lP hlP n s hs

end Pew.Sync
