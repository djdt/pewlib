import PewProofs.SyncRender

/-! # C08 — every complete single-pattern raster lies in the domain of the ground truth -/
namespace Pew.Sync

def Dir.horiz : Dir → Bool
  | .lr => true
  | .rl => true
  | .tb => false
  | .bt => false

theorem lineDir_horiz (p : Pattern) (i : Nat) : (p.lineDir i).horiz = p.dir.horiz := by
  unfold Pattern.lineDir
  split
  · cases p.dir <;> rfl
  · rfl

def Pattern.ownPixel (p : Pattern) (i j : Nat) : Int × Int :=
  (((p.stepCell i j).2 - p.Y) / (p.syu : Int), ((p.stepCell i j).1 - p.X) / (p.sxu : Int))

theorem ownPixel_eq (p : Pattern) (hu : 0 < p.sxu) (hv : 0 < p.syu) (i j : Nat) :
    p.ownPixel i j = match p.lineDir i with
      | .lr => ((i : Int), (j : Int))
      | .rl => ((i : Int), ((p.npix - 1 - j : Nat) : Int))
      | .tb => ((j : Int), (i : Int))
      | .bt => (((p.npix - 1 - j : Nat) : Int), (i : Int)) := by
  unfold Pattern.ownPixel Pattern.stepCell
  cases p.lineDir i <;> simp only <;> rw [div_aligned _ _ _ hu, div_aligned _ _ _ hv]

/-- the line index is read off the same axis for all lines of a pattern -/
theorem ownPixel_line (p : Pattern) (hu : 0 < p.sxu) (hv : 0 < p.syu) (i j : Nat) :
    (if p.dir.horiz then (p.ownPixel i j).1 else (p.ownPixel i j).2) = (i : Int) := by
  rw [ownPixel_eq p hu hv, ← lineDir_horiz p i]
  cases p.lineDir i <;> rfl

theorem ownPixel_inj (p : Pattern) (hu : 0 < p.sxu) (hv : 0 < p.syu) (i1 i2 j1 j2 : Nat) (h1 : j1 < p.npix)
    (h2 : j2 < p.npix) (h : p.ownPixel i1 j1 = p.ownPixel i2 j2) : i1 = i2 ∧ j1 = j2 := by
  have hi : i1 = i2 := by
    have e1 := ownPixel_line p hu hv i1 j1
    have e2 := ownPixel_line p hu hv i2 j2
    rw [h] at e1
    omega
  subst hi
  rw [ownPixel_eq p hu hv, ownPixel_eq p hu hv] at h
  refine ⟨rfl, ?_⟩
  cases hd : p.lineDir i1 <;> rw [hd] at h <;> simp only [Prod.mk.injEq] at h <;> omega

theorem lineStarts_layLines (p : Pattern) (i0 c s0 : Nat) (lns : List LineSpec)
    (x y : LineRec × Nat) (hx : x ∈ lineStarts s0 (layLines p i0 c lns)) (hy : y ∈ lineStarts s0 (layLines p i0 c lns))
    (hi : x.1.i = y.1.i) : x.2 = y.2 := by
  induction lns generalizing i0 c s0 with
  | nil => simp [layLines, lineStarts] at hx
  | cons ln rest ih =>
    simp only [layLines, lineStarts, List.mem_cons] at hx hy
    -- the later lines have larger numbers
    have tail : ∀ z ∈ lineStarts (s0 + LineRec.gapCount { p := p, i := i0, ln := ln, clock := c } + p.npix)
        (layLines p (i0 + 1) (LineRec.off { p := p, i := i0, ln := ln, clock := c }) rest), i0 + 1 ≤ z.1.i :=
      fun z hz => (mem_layLines _ _ _ _ _ (lineStarts_mem _ _ _ hz).1).2.1
    rcases hx with hx | hx <;> rcases hy with hy | hy
    · rw [hx, hy]
    · subst hx; have := tail y hy; simp only at hi; omega
    · subst hy; have := tail x hx; simp only at hi; omega
    · exact ih _ _ _ hx hy

theorem selectedPatterns_single (a : Acq) (sel : Option (List Int)) (p : Pattern) (hp : a.patterns = [p])
    (hsel : isSelected sel p.seq = true) : selectedPatterns a sel = [p] := by
  simp [selectedPatterns, hp, hsel]

theorem truthOrigin_single (a : Acq) (sel : Option (List Int)) (p : Pattern) (hp : a.patterns = [p])
    (hsel : isSelected sel p.seq = true) : truthOrigin a sel = (p.X, p.Y) := by
  simp [truthOrigin, selectedPatterns_single a sel p hp hsel, minList]

/-- Every complete recording (`skip = 0`, all samples taken) of a
single logged pattern — any of the eight scan patterns, any number ≥ 1 and length ≥ 1 of lines, any
gaps with or without laser-off samples, any stage-move rows, lead-in and tail, any stage origin, any
positive spot size, samples anywhere strictly inside their slots — satisfies `truthHyp`. -/
theorem domain_single_pattern (a : Acq) (sel : Option (List Int)) (p : Pattern) (hp : a.patterns = [p])
    (hsel : isSelected sel p.seq = true)
    (h0 : 0 < a.phase) (h1 : a.phase < 1) (hseq : 0 ≤ p.seq) (hd : 0 < p.dwell)
    (hu : 0 < p.sxu) (hv : 0 < p.syu) (hc : p.circular = true → p.sxu = p.syu)
    (hn : 0 < p.npix) (hl : p.lines ≠ [])
    (hskip : a.skip = 0) (htake : a.take = (emitAll a).samples.length) :
    truthHyp a sel = true := by
  have hps := selectedPatterns_single a sel p hp hsel
  have hhead : (selectedPatterns a sel).head? = some p := by rw [hps]; rfl
  have horig := truthOrigin_single a sel p hp hsel
  have hlines : a.lines = layLines p 0 0 p.lines := by simp [Acq.lines, Acq.recs, hp, layPatterns]
  have hpl : ∀ lP ∈ lineStarts 0 a.lines, lP.1.p = p := by
    intro lP hlP
    have := (mem_lines a lP.1 (lineStarts_mem _ _ _ hlP).1).1
    rw [hp] at this; simpa using this
  have hpos : 0 < a.take := by
    cases hlns : p.lines with
    | nil => exact absurd hlns hl
    | cons ln rest =>
      rw [htake]
      simp only [emitAll, hlines, hlns, layLines, List.flatMap_cons, List.length_append, flatMap_samples_length_cons]
      omega
  refine Hyp.truthHyp (p0 := p)
    { head := hhead, ph0 := h0, ph1 := h1, su := hu, sv := hv, circ := hc, take := hpos
      seq0 := by rw [hp]; simpa using hseq
      dwell := by rw [hp]; simpa using hd
      inc := by rw [hp]; simp
      len := by rw [hskip, htake]; omega
      pats := by rw [hps, horig]; simpa using ⟨hn, hl⟩
      recorded := fun lP hlP _ => ?_
      nodup := truthCells_nodup a sel p hhead fun x hx y hy _ _ i j hi hj he => ?_ }
  · -- the line's last pixel is a sample of the acquisition
    obtain ⟨s, hs, _⟩ := emitAll_index_of_cell a lP hlP (p.npix - 1) (by rw [hpl lP hlP]; omega)
    have := (List.getElem?_eq_some_iff.mp hs).1
    rw [lineRecorded_iff, hskip, htake, hpl lP hlP]
    omega
  · -- the same pixel is the same line and step
    rw [hpl x hx] at hi
    rw [hpl y hy] at hj
    have hkey : p.ownPixel x.1.i i = p.ownPixel y.1.i j := by
      unfold Pattern.ownPixel; simpa only [truthPixel, horig, hpl x hx, hpl y hy] using he
    obtain ⟨hi', rfl⟩ := ownPixel_inj p hu hv _ _ _ _ hi hj hkey
    rw [hlines] at hx hy
    rw [lineStarts_layLines p 0 0 0 p.lines x y hx hy hi']

end Pew.Sync
