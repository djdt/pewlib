import PewModel.Sync
import PewProofs.SyncList
import PewProofs.Lists
import Mathlib.Tactic.Ring
import Mathlib.Tactic.FieldSimp
import Mathlib.Tactic.NormNum

/-! # C08 — the spot size as the log writes it, `"a x b"` or `"a"` in shortest decimal notation, parses to the pattern's
spot size; the digit lemmas the other text formats share -/
namespace Pew.Sync

theorem digitsVal_eq (cs : List Char) (hne : cs ≠ []) (hd : ∀ c ∈ cs, c.isDigit = true) :
    digitsVal cs = some (Nat.ofDigitChars 10 cs 0) := by
  unfold digitsVal
  have h1 : cs.isEmpty = false := by cases cs <;> simp_all
  have h2 : cs.all Char.isDigit = true := List.all_eq_true.mpr hd
  simp only [h1, h2, if_true, Bool.false_eq_true, if_false]
  rw [Nat.ofDigitChars_eq_foldl]

theorem toDigits_isDigit (n : Nat) : ∀ c ∈ Nat.toDigits 10 n, c.isDigit = true :=
  fun _ hc => Nat.isDigit_of_mem_toDigits (by decide) (by decide) hc

theorem digitsVal_toDigits (n : Nat) : digitsVal (Nat.toDigits 10 n) = some n := by
  rw [digitsVal_eq _ Nat.toDigits_ne_nil (toDigits_isDigit n), Nat.ofDigitChars_ten_toDigits]

theorem isDigit_ne {c d : Char} (h : c.isDigit = true) (hd : d.isDigit = false) : c ≠ d := by
  rintro rfl; rw [h] at hd; cases hd

theorem toDigits_ne (n : Nat) (d : Char) (hd : d.isDigit = false) : ∀ c ∈ Nat.toDigits 10 n, c ≠ d :=
  fun c hc => isDigit_ne (toDigits_isDigit n c hc) hd

theorem digitChars_isDigit (ds : List Nat) (hd : ∀ d ∈ ds, d < 10) : ∀ c ∈ ds.map Nat.digitChar, c.isDigit = true := by
  intro c hc
  obtain ⟨d, hd', rfl⟩ := List.mem_map.mp hc
  rw [Nat.isDigit_digitChar, decide_eq_true (hd d hd')]

theorem ofDigitChars_digitChars (ds : List Nat) (hd : ∀ d ∈ ds, d < 10) (acc : Nat) :
    Nat.ofDigitChars 10 (ds.map Nat.digitChar) acc = ds.foldl (fun n d => 10 * n + d) acc := by
  induction ds generalizing acc with
  | nil => rfl
  | cons d ds ih =>
    rw [List.map_cons, Nat.ofDigitChars_cons_digitChar_of_lt_ten (hd d (by simp)), List.foldl_cons]
    exact ih (fun x hx => hd x (List.mem_cons_of_mem _ hx)) _

theorem digitsVal_digitChars (ds : List Nat) (hne : ds ≠ []) (hd : ∀ d ∈ ds, d < 10) :
    digitsVal (ds.map Nat.digitChar) = some (ds.foldl (fun n d => 10 * n + d) 0) := by
  rw [digitsVal_eq _ (by simpa using hne) (digitChars_isDigit ds hd), ofDigitChars_digitChars ds hd]

/-! the `w` low decimal digits of `n`, most significant first; the model's `pad2`, `pad3`, `pad4` are its widths 2, 3, 4 -/

def lowDigits : Nat → Nat → List Nat
  | 0, _ => []
  | w + 1, n => lowDigits w (n / 10) ++ [n % 10]

theorem lowDigits_lt (w n : Nat) : ∀ d ∈ lowDigits w n, d < 10 := by
  induction w generalizing n with
  | zero => simp [lowDigits]
  | succ w ih =>
    intro d hd
    rcases List.mem_append.mp hd with h | h
    · exact ih _ d h
    · rw [List.mem_singleton.mp h]; exact Nat.mod_lt _ (by decide)

theorem lowDigits_val (w n : Nat) : (lowDigits w n).foldl (fun a d => 10 * a + d) 0 = n % 10 ^ w := by
  induction w generalizing n with
  | zero => simp [lowDigits, Nat.mod_one]
  | succ w ih =>
    rw [lowDigits, List.foldl_append, ih, List.foldl_cons, List.foldl_nil, Nat.pow_succ', Nat.mod_mul]
    omega

theorem digitsVal_lowDigits (w n : Nat) (hw : 0 < w) (h : n < 10 ^ w) :
    digitsVal ((lowDigits w n).map Nat.digitChar) = some n := by
  rw [digitsVal_digitChars _ (by cases w <;> simp_all [lowDigits]) (lowDigits_lt w n), lowDigits_val, Nat.mod_eq_of_lt h]

theorem pad2_eq (n : Nat) : pad2 n = (lowDigits 2 n).map Nat.digitChar := by
  simp [pad2, lowDigits]

theorem pad3_eq (n : Nat) : pad3 n = (lowDigits 3 n).map Nat.digitChar := by
  simp [pad3, lowDigits, Nat.div_div_eq_div_mul]

theorem pad4_eq (n : Nat) : pad4 n = (lowDigits 4 n).map Nat.digitChar := by
  simp [pad4, lowDigits, Nat.div_div_eq_div_mul]

theorem pad4_length (n : Nat) : (pad4 n).length = 4 := rfl

theorem digitsVal_pad2 (n : Nat) (h : n < 100) : digitsVal (pad2 n) = some n := by
  rw [pad2_eq, digitsVal_lowDigits 2 n (by decide) h]

theorem digitsVal_pad3 (n : Nat) (h : n < 1000) : digitsVal (pad3 n) = some n := by
  rw [pad3_eq, digitsVal_lowDigits 3 n (by decide) h]

theorem digitsVal_pad4 (n : Nat) (h : n < 10000) : digitsVal (pad4 n) = some n := by
  rw [pad4_eq, digitsVal_lowDigits 4 n (by decide) h]

theorem pad4_isDigit (n : Nat) : ∀ c ∈ pad4 n, c.isDigit = true := by
  rw [pad4_eq]; exact digitChars_isDigit _ (lowDigits_lt 4 n)

theorem ofDigitChars_pad4 (n : Nat) (h : n < 10000) : Nat.ofDigitChars 10 (pad4 n) 0 = n := by
  rw [pad4_eq, ofDigitChars_digitChars _ (lowDigits_lt 4 n), lowDigits_val]
  exact Nat.mod_eq_of_lt h

def trimZ (d : List Char) : List Char := (d.reverse.dropWhile (· == '0')).reverse

theorem trimZ_spec (d : List Char) : ∃ z, d = trimZ d ++ List.replicate z '0' := by
  obtain ⟨t, ht, hp⟩ := Lists.rstrip_spec (p := (· == '0')) d
  exact ⟨t.length, by rw [← List.eq_replicate_iff.mpr ⟨rfl, fun b hb => beq_iff_eq.mp (hp b hb)⟩]; exact ht⟩

theorem mem_of_mem_trimZ (d : List Char) : ∀ c ∈ trimZ d, c ∈ d :=
  fun _ hc => (Lists.rstrip_sublist (p := (· == '0')) d).subset hc

theorem frac_trim (fp : Nat) (h : fp < 10000) (hne : fp ≠ 0) :
    trimZ (pad4 fp) ≠ [] ∧ (∀ c ∈ trimZ (pad4 fp), c.isDigit = true) ∧
      ((Nat.ofDigitChars 10 (trimZ (pad4 fp)) 0 : Nat) : Rat) / ((10 ^ (trimZ (pad4 fp)).length : Nat) : Rat)
        = (fp : Rat) / 10000 := by
  obtain ⟨z, hz⟩ := trimZ_spec (pad4 fp)
  have hval := ofDigitChars_pad4 fp h
  have hlen : (pad4 fp).length = 4 := rfl
  rw [hz, Nat.ofDigitChars_append, Nat.ofDigitChars_replicate_zero] at hval
  rw [hz, List.length_append, List.length_replicate] at hlen
  refine ⟨?_, fun c hc => pad4_isDigit fp c (mem_of_mem_trimZ _ c hc), ?_⟩
  · intro hnil
    rw [hnil] at hval
    simp at hval
    omega
  · have hpow : (10000 : Rat) = ((10 ^ (trimZ (pad4 fp)).length : Nat) : Rat) * ((10 ^ z : Nat) : Rat) := by
      rw [← Nat.cast_mul, ← Nat.pow_add, hlen]; norm_num
    have hfp : (fp : Rat) = ((10 ^ z : Nat) : Rat) * ((Nat.ofDigitChars 10 (trimZ (pad4 fp)) 0 : Nat) : Rat) := by
      rw [← Nat.cast_mul, hval]
    rw [hpow, hfp]
    field_simp

theorem fmtDecL_eq (u : Nat) :
    fmtDecL u = if u % 10000 = 0 then Nat.toDigits 10 (u / 10000)
      else Nat.toDigits 10 (u / 10000) ++ '.' :: trimZ (pad4 (u % 10000)) := by
  -- `fmtDecL` writes the leading fraction digit as `fp / 1000`, `pad4` as `fp / 1000 % 10`
  simp only [fmtDecL, pad4, trimZ, Nat.mod_eq_of_lt (show u % 10000 / 1000 < 10 by omega)]

theorem fmtDecL_ne (u : Nat) (d : Char) (hd : d.isDigit = false) (hdot : d ≠ '.') : ∀ c ∈ fmtDecL u, c ≠ d := by
  intro c hc
  rw [fmtDecL_eq] at hc
  split at hc
  · exact toDigits_ne _ d hd c hc
  · rcases List.mem_append.mp hc with h | h
    · exact toDigits_ne _ d hd c h
    · rcases List.mem_cons.mp h with h | h
      · rw [h]; exact hdot.symm
      · exact isDigit_ne (pad4_isDigit _ c (mem_of_mem_trimZ _ c h)) hd

theorem parseDecL_int (D : List Char) (hD : ∀ a ∈ D, (a != '.') = true) :
    parseDecL D = (digitsVal D).map (fun n => (n : Rat)) := by
  have hdrop : D.dropWhile (· != '.') = [] := by
    have := List.dropWhile_append_of_pos (l₂ := []) hD
    simpa using this
  unfold parseDecL
  rw [hdrop]

theorem parseDecL_frac (D t : List Char) (hD : ∀ a ∈ D, (a != '.') = true) :
    parseDecL (D ++ '.' :: t) = (digitsVal D).bind (fun n => (digitsVal t).bind (fun m =>
      some ((n : Rat) + (m : Rat) / ((10 ^ t.length : Nat) : Rat)))) := by
  obtain ⟨htake, hdrop⟩ := Lists.takeWhile_dropWhile_append (r := '.' :: t) hD (by simp)
  unfold parseDecL
  rw [hdrop]
  simp only [htake]
  rfl

theorem parseDecL_fmtDecL (u : Nat) : parseDecL (fmtDecL u) = some ((u : Rat) / 10000) := by
  rw [fmtDecL_eq]
  have hnd : ∀ a ∈ Nat.toDigits 10 (u / 10000), (a != '.') = true :=
    fun a ha => bne_iff_ne.mpr (toDigits_ne _ '.' rfl a ha)
  have hu : (u : Rat) = ((u / 10000 : Nat) : Rat) * 10000 + ((u % 10000 : Nat) : Rat) := by
    have h : u = u / 10000 * 10000 + u % 10000 := by omega
    have h' : (u : Rat) = ((u / 10000 * 10000 + u % 10000 : Nat) : Rat) := by rw [← h]
    rw [h']; push_cast; ring
  split
  · rename_i hfp
    rw [parseDecL_int _ hnd, digitsVal_toDigits]
    rw [hu, hfp]; simp
  · rename_i hfp
    have hlt : u % 10000 < 10000 := Nat.mod_lt _ (by decide)
    obtain ⟨hne, hdig, hval⟩ := frac_trim (u % 10000) hlt hfp
    rw [parseDecL_frac _ _ hnd, digitsVal_toDigits, digitsVal_eq _ hne hdig]
    change some (_ + _) = _
    rw [hval, hu]; field_simp

theorem splitX_nosep (B : List Char) (hB : ∀ c ∈ B, c ≠ ' ') : splitX B = [B] := by
  induction B with
  | nil => rfl
  | cons c rest ih =>
    have hc : c ≠ ' ' := hB c (by simp)
    rw [splitX.eq_3 c rest (fun _ h _ => hc h), ih (fun c' hc' => hB c' (by simp [hc']))]

theorem splitX_sep (A B : List Char) (hA : ∀ c ∈ A, c ≠ ' ') (hB : ∀ c ∈ B, c ≠ ' ') :
    splitX (A ++ ' ' :: 'x' :: ' ' :: B) = [A, B] := by
  induction A with
  | nil => rw [List.nil_append, splitX.eq_2, splitX_nosep B hB]
  | cons c rest ih =>
    have hc : c ≠ ' ' := hA c (by simp)
    rw [List.cons_append, splitX.eq_3 c _ (fun _ h _ => hc h), ih (fun c' hc' => hA c' (by simp [hc']))]

/-- The spot size written in the log (`"a x b"`, or `"a"` for a circular spot, shortest decimal
notation of a four-decimal value) parses back to the pattern's spot size in µm — all values. -/
theorem render_spot_roundtrip (p : Pattern) :
    spotSize p.spotStr =
      some [(p.sxu : Rat) / 10000, ((if p.circular then p.sxu else p.syu : Nat) : Rat) / 10000] := by
  unfold spotSize Pattern.spotStr
  simp only [String.toList_ofList]
  unfold Pattern.spotL
  by_cases hc : p.circular = true
  · simp only [hc, if_true]
    have hx : (fmtDecL p.sxu).contains 'x' = false := by
      rw [← Bool.not_eq_true, List.contains_iff_mem]
      exact fun h => fmtDecL_ne p.sxu 'x' rfl (by decide) 'x' h rfl
    rw [hx]
    simp [parseDecL_fmtDecL]
  · have hc' : p.circular = false := by simpa using hc
    simp only [hc', Bool.false_eq_true, if_false]
    have hx : (fmtDecL p.sxu ++ [' ', 'x', ' '] ++ fmtDecL p.syu).contains 'x' = true := by simp
    rw [hx]
    have : fmtDecL p.sxu ++ [' ', 'x', ' '] ++ fmtDecL p.syu = fmtDecL p.sxu ++ ' ' :: 'x' :: ' ' :: fmtDecL p.syu := by
      simp
    rw [this, splitX_sep _ _ (fmtDecL_ne _ ' ' rfl (by decide)) (fmtDecL_ne _ ' ' rfl (by decide))]
    simp [parseDecL_fmtDecL]

end Pew.Sync
