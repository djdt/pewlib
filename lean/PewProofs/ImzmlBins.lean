import PewProofs.Imzml
import PewProofs.Lists
import Mathlib.Data.List.Induction
import Mathlib.Data.Rat.Floor

/-! C05: `mass_range` and `binned_masses`. The specified bins are the chain of the edges and one last bin
(`binSpec_eq_chain`), so they telescope by `chain_sum`; the mechanism equals them only on the class `dense`
(`denseIdx_iff`, `reduceat_dense`). -/
namespace Pew.Imzml

theorem rangeMin_le (a l : Rat) : (if a < l then a else l) ≤ a ∧ (if a < l then a else l) ≤ l := by
  split
  · exact ⟨le_refl _, le_of_lt ‹_›⟩
  · exact ⟨not_lt.mp ‹_›, le_refl _⟩

theorem le_rangeMax (h b : Rat) : h ≤ (if h < b then b else h) ∧ b ≤ (if h < b then b else h) := by
  split
  · exact ⟨le_of_lt ‹_›, le_refl _⟩
  · exact ⟨le_refl _, not_lt.mp ‹_›⟩

/-- the first disjunct is the fold's start value: it only starts the induction, `mass_range_bounds` discards it -/
theorem massRange_spec (specs : List Spectrum) (hne : ∀ s ∈ specs, s.mz ≠ []) (hs : ∀ s ∈ specs, Incr s.mz) :
    (specs = [] ∧ massRange specs = some (none, none)) ∨
    ∃ lo hi, massRange specs = some (some lo, some hi) ∧
      (∀ s ∈ specs, ∀ m ∈ s.mz, lo ≤ m ∧ m ≤ hi) ∧
      (∃ s ∈ specs, lo ∈ s.mz) ∧ (∃ s ∈ specs, hi ∈ s.mz) := by
  induction specs using List.reverseRecOn with
  | nil => left; exact ⟨rfl, rfl⟩
  | append_singleton specs s ih =>
    right
    have hmem : s ∈ specs ++ [s] := List.mem_append_right _ (List.mem_singleton_self s)
    have hhead := List.head?_eq_some_head (hne s hmem)
    have hlast := List.getLast?_eq_some_getLast (hne s hmem)
    generalize s.mz.head (hne s hmem) = a at hhead
    generalize s.mz.getLast (hne s hmem) = b at hlast
    have hlo := incr_head?_le (hs s hmem) hhead
    have hhi := incr_le_getLast? (hs s hmem) hlast
    have hamem : a ∈ s.mz := List.mem_of_mem_head? hhead
    have hbmem : b ∈ s.mz := List.mem_of_getLast? hlast
    rw [massRange, List.foldl_append, ← massRange]
    simp only [List.foldl_cons, List.foldl_nil]
    rcases ih (fun t ht => hne t (List.mem_append_left _ ht)) (fun t ht => hs t (List.mem_append_left _ ht)) with
      ⟨rfl, h0⟩ | ⟨lo, hi, h1, hb, ⟨sl, hsl, hlm⟩, ⟨sh, hsh, hhm⟩⟩
    · refine ⟨a, b, by simp only [h0, rangeStep, hhead, hlast], fun t ht m hm => ?_, ⟨s, hmem, hamem⟩, ⟨s, hmem, hbmem⟩⟩
      obtain rfl := List.mem_singleton.mp ht
      exact ⟨hlo m hm, hhi m hm⟩
    · refine ⟨_, _, by simp only [h1, rangeStep, hhead, hlast]; rfl, fun t ht m hm => ?_, ?_, ?_⟩
      · rcases List.mem_append.mp ht with ht | ht
        · exact ⟨le_trans (rangeMin_le a lo).2 (hb t ht m hm).1, le_trans (hb t ht m hm).2 (le_rangeMax hi b).1⟩
        · obtain rfl := List.mem_singleton.mp ht
          exact ⟨le_trans (rangeMin_le a lo).1 (hlo m hm), le_trans (hhi m hm) (le_rangeMax hi b).2⟩
      · by_cases h : a < lo
        · exact ⟨s, hmem, by rw [if_pos h]; exact hamem⟩
        · exact ⟨sl, List.mem_append_left _ hsl, by rw [if_neg h]; exact hlm⟩
      · by_cases h : hi < b
        · exact ⟨s, hmem, by rw [if_pos h]; exact hbmem⟩
        · exact ⟨sh, List.mem_append_left _ hsh, by rw [if_neg h]; exact hhm⟩

theorem binSpec_singleton (mz it : List Rat) (b w : Rat) :
    binSpec mz it [b] w = [windowSum mz it b (b + w)] := rfl

theorem binSpec_cons_cons (mz it : List Rat) (a b : Rat) (r : List Rat) (w : Rat) :
    binSpec mz it (a :: b :: r) w = windowSum mz it a b :: binSpec mz it (b :: r) w := rfl

theorem binSpec_eq_chain (mz it : List Rat) (w : Rat) (bins : List Rat) :
    ∀ l, bins.getLast? = some l →
      binSpec mz it bins w = specSpectrum mz it (chain bins) ++ [windowSum mz it l (l + w)] := by
  induction bins with
  | nil => intro l hl; cases hl
  | cons b r ih =>
    intro l hl
    cases r with
    | nil => rw [← Option.some.inj hl]; rfl
    | cons b' r =>
      rw [binSpec_cons_cons, ih l hl]
      rfl

theorem denseIdx_iff (n : Nat) (idx : List Nat) :
    denseIdx n idx = true ↔ idx.Pairwise (· < ·) ∧ ∀ k, idx.getLast? = some k → k < n := by
  rw [← List.isChain_iff_pairwise]
  induction idx with
  | nil => simp [denseIdx]
  | cons a r ih =>
    cases r with
    | nil => simp [denseIdx]
    | cons b r => simp only [denseIdx, Bool.and_eq_true, decide_eq_true_eq, ih, List.isChain_cons_cons,
        List.getLast?_cons_cons, and_assoc]

theorem denseIdx_lt (n : Nat) (idx : List Nat) (h : denseIdx n idx = true) : ∀ i ∈ idx, i < n := by
  obtain ⟨hc, hl⟩ := (denseIdx_iff n idx).mp h
  intro i hi
  obtain ⟨k, hk⟩ : ∃ k, idx.getLast? = some k := ⟨_, List.getLast?_eq_some_getLast (List.ne_nil_of_mem hi)⟩
  exact lt_of_le_of_lt (pairwise_le_getLast? hc hk i hi) (hl k hk)

theorem clip_of_lt (n : Nat) (idx : List Nat) (h : ∀ i ∈ idx, i < n) : clip n idx = idx :=
  Lists.map_eq_self _ idx fun i hi => if_neg (Nat.not_lt.mpr (Nat.le_sub_one_of_lt (h i hi)))

/-- the unclipped core of `binned_masses` on the dense class: the last entry, a suffix sum, is the slice up
to the index of an edge above every peak -/
theorem reduceat_dense (mz it : List Rat) (bins : List Rat) (w : Rat) (hs : Incr mz)
    (hlen : it.length = mz.length) (hd : denseIdx mz.length (bins.map (ssLeft mz)) = true)
    (htop : ∀ l, bins.getLast? = some l → ∀ x ∈ mz, x < l + w) :
    reduceat it (bins.map (ssLeft mz)) = binSpec mz it bins w := by
  induction bins with
  | nil => rfl
  | cons b r ih =>
    cases r with
    | nil =>
      rw [binSpec_singleton, ← sliceSum_ssLeft mz it b (b + w) hs hlen, ssLeft_eq_length (htop b rfl), ← hlen,
        sliceSum_length]
      rfl
    | cons b' r =>
      simp only [List.map_cons, denseIdx, Bool.and_eq_true, decide_eq_true_eq] at hd ih
      rw [binSpec_cons_cons, ← sliceSum_ssLeft mz it b b' hs hlen,
        ← ih hd.2 htop]
      simp only [List.map_cons, reduceat, if_pos hd.1]

theorem arange_incr (start stop step : Rat) (h : 0 < step) : Incr (arange start stop step) :=
  (incr_iff_pairwise _).mpr (List.pairwise_lt_range.map _ fun _ _ hab =>
    add_lt_add_right (mul_lt_mul_of_pos_right (Nat.cast_lt.mpr hab) h) start)

theorem arange_mem (start stop step : Rat) (b : Rat) (hb : b ∈ arange start stop step) :
    ∃ k : Nat, b = start + (k : Rat) * step := by
  unfold arange at hb
  obtain ⟨k, _, rfl⟩ := List.mem_map.mp hb
  exact ⟨k, rfl⟩

/-- `n = ⌈(hi − lo)/w⌉`: the count of `arange(lo, hi + w, w)` is `⌈(hi − lo)/w + 1⌉ = n + 1`, and the last edge
`lo + n·w` is the first at or above `hi` -/
theorem arange_ends (lo hi w : Rat) (hw : 0 < w) (h : lo ≤ hi) :
    ∃ n : Nat, (arange lo (hi + w) w).length = n + 1 ∧ (arange lo (hi + w) w).head? = some lo ∧
      (arange lo (hi + w) w).getLast? = some (lo + (n : Rat) * w) ∧
      hi ≤ lo + (n : Rat) * w ∧ lo + (n : Rat) * w < hi + w := by
  have hq : (hi + w - lo) / w = (hi - lo) / w + 1 := by rw [add_sub_right_comm, add_div, div_self hw.ne']
  obtain ⟨n, hn⟩ : ∃ n : Nat, (n : Int) = ((hi - lo) / w).ceil :=
    ⟨_, Int.toNat_of_nonneg (Int.cast_nonneg_iff.mp (le_trans (div_nonneg (sub_nonneg.mpr h) hw.le) Rat.le_ceil))⟩
  have hnq : (n : Rat) = (((hi - lo) / w).ceil : Rat) := by rw [← hn, Int.cast_natCast]
  have h1 : hi - lo ≤ (n : Rat) * w := (div_le_iff₀ hw).mp (hnq ▸ Rat.le_ceil)
  have h2 : (n : Rat) * w < hi + w - lo := (lt_div_iff₀ hw).mp (hq ▸ hnq ▸ Rat.ceil_lt)
  have hlen : ((hi + w - lo) / w).ceil.toNat = n + 1 := by
    rw [hq, Rat.ceil_add_one, ← hn, Int.toNat_natCast_add_one]
  refine ⟨n, ?_, ?_, ?_, sub_le_iff_le_add'.mp h1, lt_sub_iff_add_lt'.mp h2⟩
  all_goals rw [arange, hlen]
  · rw [List.length_map, List.length_range]
  · rw [List.range_succ_eq_map, List.map_cons, List.head?_cons, Nat.cast_zero, zero_mul, add_zero]
  · rw [List.range_succ, List.map_append, List.map_singleton, List.getLast?_concat]

end Pew.Imzml
