import PewProofs.SortCsv

/-! # C04 — what image is made of the tables: the post-processing (`stack`, NaN dropping, `drop_fields`: masks and `zip`)
computes the pointwise specification `specImage` (index lists and look-ups).  Both are read as a selection
`select pos cols`, the sample positions and fields picked by two index lists (`pick`): the stack is the full selection,
and each step of `post` filters one of the lists. -/
namespace Pew.CsvDir

variable {α P : Type}

theorem cutLen_eq_minLen (lines : List (Line α)) : cutLen lines = minLen lines := by
  unfold cutLen minLen
  cases lines.map (·.rows.length) <;> rfl

theorem min?_length_eq_minLen (lines : List (Line α)) (h : lines ≠ []) :
    (lines.map (·.rows.length)).min? = some (minLen lines) := by
  rw [← cutLen_eq_minLen]
  unfold cutLen
  cases hmin : (lines.map (·.rows.length)).min? with
  | none => exact absurd (List.map_eq_nil_iff.mp (List.min?_eq_none_iff.mp hmin)) h
  | some a => rfl

theorem minLen_le (lines : List (Line α)) (l : Line α) (h : l ∈ lines) : minLen lines ≤ l.rows.length :=
  (List.min?_eq_some_iff.mp (min?_length_eq_minLen lines (List.ne_nil_of_mem h))).2 _ (List.mem_map_of_mem h)

theorem minLen_mem (lines : List (Line α)) (h : lines ≠ []) : ∃ l ∈ lines, minLen lines = l.rows.length := by
  obtain ⟨l, hl, e⟩ := List.mem_map.mp (List.min?_eq_some_iff.mp (min?_length_eq_minLen lines h)).1
  exact ⟨l, hl, e.symm⟩

/-- one cell per field in every sample row (`np.genfromtxt(names=True)`) and one header for all
accepted files (`np.stack`): the tables form a rectangular stack -/
theorem rect_of_tables (lines : List (Line α))
    (hwf : ∀ l ∈ lines, ∀ row ∈ l.rows, row.length = l.names.length)
    (hhdr : ∀ a ∈ lines, ∀ b ∈ lines, a.names = b.names) : Rect lines := by
  cases lines with
  | nil => intro l hl; simp at hl
  | cons a t =>
    intro l hl row hrow
    show row.length = a.names.length
    rw [hwf l hl row hrow, hhdr l hl a List.mem_cons_self]

theorem rect_byRank (key : Entry α → List Int) (es : List (Entry α))
    (hd : es.Pairwise (fun a b => key a ≠ key b))
    (hwf : ∀ e ∈ es, ∀ row ∈ e.line.rows, row.length = e.line.names.length)
    (hhdr : ∀ a ∈ es, ∀ b ∈ es, a.line.names = b.line.names) : Rect ((byRank key es).map (·.line)) := by
  have hmem : ∀ {e}, e ∈ byRank key es ↔ e ∈ es := (byRank_perm key es hd).mem_iff
  apply rect_of_tables <;> simp only [List.forall_mem_map, hmem]
  · exact hwf
  · exact hhdr

theorem dropMasked_cons {β : Type} (b : Bool) (mask : List Bool) (a : β) (l : List β) :
    dropMasked (b :: mask) (a :: l) = if b then dropMasked mask l else a :: dropMasked mask l := by
  cases b <;> rfl

theorem dropMasked_map_self {β : Type} (f : β → Bool) : ∀ l : List β, dropMasked (l.map f) l = l.filter (fun x => !f x)
  | [] => rfl
  | a :: t => by
    rw [List.map_cons, dropMasked_cons, dropMasked_map_self f t, List.filter_cons]
    cases f a <;> rfl

theorem dropMasked_map {β γ : Type} (f : γ → Bool) : ∀ (l : List β) (ns : List γ),
    dropMasked (ns.map f) l = ((l.zip ns).filter (fun p => !f p.2)).map (·.1)
  | [], _ => rfl
  | _ :: _, [] => rfl
  | a :: t, n :: ns => by
    rw [List.map_cons, dropMasked_cons, dropMasked_map f t ns, List.zip_cons_cons, List.filter_cons]
    cases f n <;> rfl

theorem dropMasked_range {β : Type} (p : Nat → Bool) (l : List β) (n : Nat) (h : l.length ≤ n) :
    dropMasked ((List.range n).map p) l = ((l.zipIdx).filter (fun x => !p x.2)).map (·.1) := by
  -- `zip` cuts `range n` to the length of `l`
  rw [dropMasked_map, List.zipIdx_eq_zip_range', ← List.range_eq_range', List.zip_eq_zip_take_min (l₂ := List.range n),
    List.length_range, Nat.min_eq_left h, List.take_length, List.take_range, Nat.min_eq_left h]

def pick {β : Type} (cs : List Nat) (l : List β) : List β := cs.filterMap (fun c => l[c]?)

theorem pick_cons {β : Type} (c : Nat) (cs : List Nat) (l : List β) (h : c < l.length) :
    pick (c :: cs) l = l[c] :: pick cs l :=
  List.filterMap_cons_some (List.getElem?_eq_getElem h)

theorem mem_of_mem_pick {β : Type} {cs : List Nat} {l : List β} {x : β} (h : x ∈ pick cs l) : x ∈ l := by
  obtain ⟨c, _, hc⟩ := List.mem_filterMap.mp h
  exact List.mem_of_getElem? hc

theorem pick_range {β : Type} (l : List β) (n : Nat) (h : l.length = n) : pick (List.range n) l = l := by
  subst h; exact filterMap_range_getElem? l

theorem pick_range_le {β : Type} (l : List β) (L : Nat) (h : L ≤ l.length) : pick (List.range L) l = l.take L := by
  rw [← pick_range (l.take L) L (by rw [List.length_take]; omega)]
  exact filterMap_congr' fun j hj => (List.getElem?_take_of_lt (List.mem_range.mp hj)).symm

theorem getElem?_pick {β : Type} (cs : List Nat) (l : List β) (h : ∀ c ∈ cs, c < l.length) (i : Nat) :
    (pick cs l)[i]? = (cs[i]?).bind (fun c => l[c]?) :=
  Lists.getElem?_filterMap_of_isSome (fun c hc => by simp [h c hc]) i

theorem dropMasked_pick {β : Type} (m : Nat → Bool) (l : List β) :
    ∀ cs : List Nat, (∀ c ∈ cs, c < l.length) → dropMasked (cs.map m) (pick cs l) = pick (cs.filter (fun c => !m c)) l
  | [], _ => rfl
  | c :: cs, h => by
    have hc := h c List.mem_cons_self
    rw [pick_cons c cs l hc, List.map_cons, dropMasked_cons,
      dropMasked_pick m l cs (fun x hx => h x (List.mem_cons_of_mem _ hx)), List.filter_cons]
    cases m c
    · exact (pick_cons c _ l hc).symm
    · rfl

theorem dropMasked_take {β : Type} (m : Nat → Bool) (L : Nat) (l : List β) (hL : L ≤ l.length) :
    dropMasked ((List.range L).map m) (l.take L) = pick ((List.range L).filter (fun j => !m j)) l := by
  have := dropMasked_pick m l (List.range L) fun c hc => Nat.lt_of_lt_of_le (List.mem_range.mp hc) hL
  rwa [pick_range_le l L hL] at this

/-- negated twice so that the entries kept are those with `(ns[c]?).any (!f ·)`, the way `specCols` and
`dropMasked_names` say it -/
theorem map_pick {γ : Type} (f : γ → Bool) (ns : List γ) : ∀ cs : List Nat, (∀ c ∈ cs, c < ns.length) →
    (pick cs ns).map f = cs.map (fun c => !(ns[c]?).any (fun n => !f n))
  | [], _ => rfl
  | c :: cs, h => by
    have hc := h c List.mem_cons_self
    rw [pick_cons c cs ns hc, List.map_cons, List.map_cons, map_pick f ns cs (fun x hx => h x (List.mem_cons_of_mem _ hx)),
      List.getElem?_eq_getElem hc, Option.any_some, Bool.not_not]

theorem dropMasked_names {β γ : Type} (f : γ → Bool) (ns : List γ) (l : List β) (h : l.length = ns.length) :
    dropMasked (ns.map f) l
      = ((List.range ns.length).filter (fun c => (ns[c]?).any (fun n => !f n))).filterMap (fun c => l[c]?) := by
  have := dropMasked_pick (fun c => !(ns[c]?).any (fun n => !f n)) l (List.range ns.length)
    fun c hc => h ▸ List.mem_range.mp hc
  rw [← map_pick f ns _ (fun c => List.mem_range.mp), pick_range ns _ rfl, pick_range l _ h] at this
  simp only [Bool.not_not] at this
  exact this

def select (pos cols : List Nat) (hdr : List String) (lines : List (Line α)) : Image α :=
  { names := pick cols hdr, lines := lines.map (fun l => (pick pos l.rows).map (pick cols)) }

theorem select_allCols (pos : List Nat) (lines : List (Line α)) (hr : Rect lines) :
    select pos (List.range (hdrOf lines).length) (hdrOf lines) lines
      = { names := hdrOf lines, lines := lines.map fun l => pick pos l.rows } := by
  unfold select
  congr 1
  · exact pick_range _ _ rfl
  · exact List.map_congr_left fun l hl =>
      Lists.map_eq_self _ _ fun row hrow => pick_range row _ (hr l hl row (mem_of_mem_pick hrow))

theorem stack_eq_select (lines : List (Line α)) (hr : Rect lines) :
    stack lines = select (List.range (minLen lines)) (List.range (hdrOf lines).length) (hdrOf lines) lines := by
  rw [select_allCols _ _ hr]
  unfold stack
  congr 1
  exact List.map_congr_left fun l hl => (pick_range_le _ _ (minLen_le lines l hl)).symm

theorem select_names (pos cols : List Nat) (hdr : List String) (lines : List (Line α))
    (hc : ∀ c ∈ cols, c < hdr.length) (i : Nat) :
    (select pos cols hdr lines).names[i]? = (cols[i]?).bind (fun c => hdr[c]?) :=
  getElem?_pick cols hdr hc i

theorem select_lines_length (pos cols : List Nat) (hdr : List String) (lines : List (Line α)) :
    (select pos cols hdr lines).lines.length = lines.length :=
  List.length_map _

theorem select_cell (pos cols : List Nat) (hdr : List String) (lines : List (Line α))
    (hp : ∀ l ∈ lines, ∀ j ∈ pos, j < l.rows.length) (hc : ∀ c ∈ cols, c < hdr.length)
    (hr : ∀ l ∈ lines, ∀ row ∈ l.rows, row.length = hdr.length) (k j i : Nat) :
    (((select pos cols hdr lines).lines[k]?).bind (fun l => l[j]?)).bind (fun row => row[i]?)
      = (lines[k]?).bind (fun l => (pos[j]?).bind (fun j' => (l.rows[j']?).bind (fun row =>
          (cols[i]?).bind (fun c => row[c]?)))) := by
  simp only [select, List.getElem?_map]
  cases hk : lines[k]? with
  | none => rfl
  | some l =>
    have hl : l ∈ lines := List.mem_of_getElem? hk
    simp only [Option.map_some, Option.bind_some, List.getElem?_map, getElem?_pick _ _ (hp l hl)]
    cases hj : pos[j]? with
    | none => rfl
    | some j' =>
      simp only [Option.bind_some]
      cases hrow : l.rows[j']? with
      | none => rfl
      | some row =>
        exact getElem?_pick _ _ (fun c hc' => by rw [hr l hl row (List.mem_of_getElem? hrow)]; exact hc c hc') i

theorem specImage_eq_select (isNan : α → Bool) (dropNan : Bool) (keep : String → Bool) (lines : List (Line α)) :
    specImage isNan dropNan keep lines
      = select (specPos isNan dropNan lines) (specCols isNan dropNan keep (hdrOf lines) lines) (hdrOf lines) lines := by
  simp only [specImage, select, pick, List.map_filterMap]
  rfl

theorem imgLength_stack (lines : List (Line α)) : imgLength (stack lines) = minLen lines := by
  cases lines with
  | nil => rfl
  | cons a t =>
    have := minLen_le (a :: t) a List.mem_cons_self
    simp only [imgLength, stack, List.map_cons, List.head?_cons, Option.map_some, Option.getD_some,
      List.length_take]
    omega

theorem nanPos_stack (isNan : α → Bool) (lines : List (Line α)) (j : Nat) (hj : j < minLen lines) :
    nanPos isNan (stack lines) j = specNanPos isNan lines j := by
  unfold nanPos specNanPos stack
  rw [List.all_map]
  apply all_congr'
  intro l hl
  have hj' : j < l.rows.length := Nat.lt_of_lt_of_le hj (minLen_le lines l hl)
  simp only [Function.comp, List.getElem?_take_of_lt hj, List.getElem?_eq_getElem hj', Option.getD_some,
    Option.all_some]

theorem specPos_true (isNan : α → Bool) (lines : List (Line α)) :
    specPos isNan true lines = (List.range (minLen lines)).filter (fun j => !specNanPos isNan lines j) := by
  unfold specPos
  rw [cutLen_eq_minLen]
  simp

theorem dropNanRows_stack (isNan : α → Bool) (lines : List (Line α)) (hr : Rect lines) :
    dropNanRows isNan (stack lines)
      = select (specPos isNan true lines) (List.range (hdrOf lines).length) (hdrOf lines) lines := by
  have hf : (List.range (minLen lines)).filter (fun c => !nanPos isNan (stack lines) c) = specPos isNan true lines := by
    rw [specPos_true]
    exact List.filter_congr fun j hj => by rw [nanPos_stack isNan lines j (List.mem_range.mp hj)]
  rw [select_allCols _ _ hr, ← hf]
  unfold dropNanRows
  rw [imgLength_stack]
  show Image.mk _ ((lines.map (fun l => l.rows.take (minLen lines))).map _) = _
  rw [List.map_map]
  congr 1
  exact List.map_congr_left fun l hl => dropMasked_take _ _ _ (minLen_le lines l hl)

theorem dropCols_select (m : Nat → Bool) (pos cs : List Nat) (hdr : List String) (lines : List (Line α))
    (hb : ∀ c ∈ cs, c < hdr.length) (hr : ∀ l ∈ lines, ∀ row ∈ l.rows, row.length = hdr.length) :
    dropCols (cs.map m) (select pos cs hdr lines) = select pos (cs.filter (fun c => !m c)) hdr lines := by
  unfold dropCols select
  congr 1
  · exact dropMasked_pick m hdr cs hb
  · simp only [List.map_map]
    apply List.map_congr_left
    intro l hl
    rw [Function.comp, List.map_map]
    apply List.map_congr_left
    intro row hrow
    exact dropMasked_pick m row cs fun c hc => by rw [hr l hl row (mem_of_mem_pick hrow)]; exact hb c hc

theorem nanCol_select (isNan : α → Bool) (lines : List (Line α)) (hr : Rect lines) (c : Nat) :
    nanCol isNan (select (specPos isNan true lines) (List.range (hdrOf lines).length) (hdrOf lines) lines) c
      = specNanCol isNan lines (minLen lines) c := by
  rw [select_allCols _ _ hr]
  unfold nanCol specNanCol
  rw [List.all_map, specPos_true]
  apply all_congr'
  intro l hl
  simp only [Function.comp, pick, List.all_filterMap, List.all_filter, Bool.not_not]
  apply all_congr'
  intro j _
  cases hrow : l.rows[j]? with
  | none => simp
  | some row =>
    cases hc : row[c]? with
    | none => simp [hc]
    | some x =>
      -- a position that is NaN everywhere is NaN in field `c`
      simp only [hc, Option.map_some, Option.getD_some, Option.all_some]
      cases hn : specNanPos isNan lines j with
      | false => rfl
      | true =>
        have := List.all_eq_true.mp hn l hl
        rw [hrow] at this
        rw [List.all_eq_true.mp this x (List.mem_of_getElem? hc)]
        rfl

theorem specPos_mem_lt {isNan : α → Bool} {dropNan : Bool} {lines : List (Line α)} {j : Nat} {l : Line α}
    (hj : j ∈ specPos isNan dropNan lines) (hl : l ∈ lines) : j < l.rows.length :=
  Nat.lt_of_lt_of_le (List.mem_range.mp (List.mem_filter.mp hj).1) (cutLen_eq_minLen lines ▸ minLen_le lines l hl)

theorem specCols_mem_lt {isNan : α → Bool} {dropNan : Bool} {keep : String → Bool} {hdr : List String}
    {lines : List (Line α)} {c : Nat} (hc : c ∈ specCols isNan dropNan keep hdr lines) : c < hdr.length :=
  List.mem_range.mp (List.mem_filter.mp hc).1

theorem specCols_keep (isNan : α → Bool) (dropNan : Bool) (keep : String → Bool) (hdr : List String)
    (lines : List (Line α)) :
    specCols isNan dropNan keep hdr lines
      = (specCols isNan dropNan (fun _ => true) hdr lines).filter (fun c => (hdr[c]?).any keep) := by
  unfold specCols
  rw [List.filter_filter]
  apply List.filter_congr
  intro c hc
  simp [List.mem_range.mp hc, Bool.and_comm]

theorem dropFields_specImage (isNan : α → Bool) (dropNan : Bool) (drop : List String) (lines : List (Line α))
    (hr : Rect lines) :
    dropFields drop (specImage isNan dropNan (fun _ => true) lines)
      = specImage isNan dropNan (fun n => !drop.contains n) lines := by
  rw [specImage_eq_select, specImage_eq_select, specCols_keep isNan dropNan (fun n => !drop.contains n), dropFields]
  show dropCols ((pick _ (hdrOf lines)).map _) _ = _
  rw [map_pick _ _ _ fun _ => specCols_mem_lt, dropCols_select _ _ _ _ _ (fun _ => specCols_mem_lt) hr]
  simp only [Bool.not_not]

theorem dropNan_stack_eq_specImage (isNan : α → Bool) (dropNan : Bool) (lines : List (Line α)) (hr : Rect lines) :
    (if dropNan then dropNanCols isNan (dropNanRows isNan (stack lines)) else stack lines)
      = specImage isNan dropNan (fun _ => true) lines := by
  cases dropNan
  · have hpos : specPos isNan false lines = List.range (minLen lines) := by simp [specPos, cutLen_eq_minLen]
    have hcols : specCols isNan false (fun _ => true) (hdrOf lines) lines = List.range (hdrOf lines).length :=
      List.filter_eq_self.mpr fun c hc => by simp [List.mem_range.mp hc]
    rw [if_neg Bool.false_ne_true, specImage_eq_select, hpos, hcols, stack_eq_select lines hr]
  · rw [if_pos rfl]
    unfold dropNanCols
    rw [show (dropNanRows isNan (stack lines)).names.length = (hdrOf lines).length from rfl,
      dropNanRows_stack isNan lines hr, dropCols_select _ _ _ _ _ (fun _ => List.mem_range.mp) hr, specImage_eq_select]
    congr 1
    unfold specCols
    apply List.filter_congr
    intro c hc
    rw [nanCol_select isNan lines hr c, cutLen_eq_minLen]
    simp [List.mem_range.mp hc]

/-- **the mechanism's cut / stack / NaN masks / `drop_fields` compute the pointwise specification `specImage`**, for every
layout including LDR: the returned image is the specified image without the helper columns, and the
parameters are read from the specified image WITH the helper columns (all-NaN positions and fields
already removed for LDR) -/
theorem post_eq_spec (isNan : α → Bool) (rp : Vendor → Image α → P) (v : Vendor) (lines : List (Line α))
    (hr : Rect lines) :
    post isNan rp v (stack lines)
      = (specImage isNan (dropsNan v) (fun n => !(dropNames v).contains n) lines,
         rp v (specImage isNan (dropsNan v) (fun _ => true) lines)) := by
  unfold post
  simp only
  rw [dropNan_stack_eq_specImage isNan (dropsNan v) lines hr, dropFields_specImage isNan _ _ lines hr]

end Pew.CsvDir
