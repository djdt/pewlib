import PewModel.Npz

/-! `compare_version` without its `do`.  The loader's test `compare_version(v, b) == -1` is a three-way branch on `cmpGe` / `cmpLt`
(`bind_compareVersion`): not older, older, not comparable. -/
namespace Pew.Npz

theorem parseNat_eq (s : Str) : parseNat s = if isNum s then .ok (numVal s) else .error .valueError :=
  ite_congr (propext (by cases s <;> simp [isNum])) (fun _ => rfl) fun _ => rfl

theorem mapM_parseNat (xs : List Str) :
    xs.mapM parseNat = if xs.all isNum then .ok (xs.map numVal) else .error .valueError := by
  induction xs with
  | nil => rfl
  | cons x xs ih =>
    rw [List.mapM_cons, parseNat_eq, ih, List.all_cons]
    cases isNum x <;> cases xs.all isNum <;> rfl

theorem cmpComponents_cons (a b : Str) (as bs : List Str) :
    cmpComponents (a :: as) (b :: bs) =
      if isNum a && isNum b then
        if numVal a > numVal b then .ok 1 else if numVal a < numVal b then .ok (-1) else cmpComponents as bs
      else .error .valueError := by
  rw [cmpComponents, parseNat_eq, parseNat_eq]
  cases isNum a <;> cases isNum b <;> rfl

theorem cmpComponents_of_isNum (xs ys : List Str) (hx : xs.all isNum = true) (hy : ys.all isNum = true) :
    cmpComponents xs ys = .ok (lexZip (xs.map numVal) (ys.map numVal)) := by
  induction xs generalizing ys with
  | nil => rfl
  | cons x xs ih =>
    cases ys with
    | nil => rfl
    | cons y ys =>
      rw [List.all_cons, Bool.and_eq_true] at hx hy
      rw [cmpComponents_cons, hx.1, hy.1, ih ys hx.2 hy.2, List.map_cons, List.map_cons, lexZip]
      simp only [Bool.and_self, if_true, apply_ite Except.ok]

theorem cmpComponents_eq_spec (xs ys : List Str) :
    cmpComponents xs ys =
      match (xs.zip ys).find? decisive with
      | none => .ok 0
      | some ab =>
        if isNum ab.1 && isNum ab.2 then .ok (if numVal ab.1 > numVal ab.2 then 1 else -1)
        else .error .valueError := by
  induction xs generalizing ys with
  | nil => rfl
  | cons x xs ih =>
    cases ys with
    | nil => rfl
    | cons y ys =>
      have hd : decisive (x, y) = !(isNum x && isNum y && numVal x == numVal y) := rfl
      rw [cmpComponents_cons, List.zip_cons_cons, List.find?_cons, hd]
      by_cases hn : (isNum x && isNum y) = true
      · rw [if_pos hn, hn, Bool.true_and]
        rcases Nat.lt_trichotomy (numVal x) (numVal y) with h | h | h
        · simp [beq_false_of_ne (Nat.ne_of_lt h), Nat.lt_asymm h, h, hn]
        · rw [h, beq_self_eq_true, if_neg (Nat.lt_irrefl _), if_neg (Nat.lt_irrefl _)]
          exact ih ys
        · simp [beq_false_of_ne (Nat.ne_of_gt h), h, hn]
      · simp [hn]

/-- **The model's `compare_version` meets its specification on every pair of strings** (no hypothesis): the
recursion over the zipped components equals "first decisive pair decides".  In particular components
beyond the shorter version and components after the first difference are never parsed.  Both sides read a
component as `parseNat` does, ASCII digits only; Python's `int()` also takes a sign, surrounding blanks, `_`
between digits and other Unicode digits (`"0.+7.0"`, `"0. 7.0"`, `"0.1_0.0"` compare as 0.7.0 / 0.10.0 in pewlib and raise
here): those strings are outside what the model says about the code. -/
theorem compareVersion_eq_spec (va vb : Str) : compareVersion va vb = compareSpec va vb :=
  cmpComponents_eq_spec _ _

/-- the only exception `compare_version` raises is `ValueError` -/
theorem compareVersion_error (va vb : Str) (e : Err) (h : compareVersion va vb = .error e) : e = .valueError := by
  rw [compareVersion_eq_spec] at h
  unfold compareSpec at h
  split at h
  · cases h
  · split at h
    · cases h
    · cases h; rfl

theorem bind_compareVersion {α} (va vb : Str) (A B : Except Err α) :
    (compareVersion va vb >>= fun r => if r = -1 then A else B)
      = if cmpGe va vb then B else if cmpLt va vb then A else .error .valueError := by
  unfold cmpGe cmpLt
  cases hc : compareVersion va vb with
  | error e => rw [compareVersion_error va vb e hc]; rfl
  | ok r => by_cases hr : r = -1 <;> simp [hr, bind, Except.bind]

theorem cmpGe_of_cmpLt (va vb : Str) (h : cmpLt va vb = true) : cmpGe va vb = false := by
  unfold cmpGe cmpLt at *
  cases hc : compareVersion va vb with
  | error e => rfl
  | ok r => simpa [hc] using h

theorem versionOk_iff (ver : Str) : versionOk ver = true ↔
    ver.all (fun c => c.isDigit || c == '.') = true ∧ cmpGe ver v070 = true ∧ cmpGe ver v080 = true := by
  simp only [versionOk, cmpGe, Bool.and_eq_true, and_assoc]

theorem version07Ok_iff (ver : Str) : version07Ok ver = true ↔
    noNulEnd ver = true ∧ cmpGe ver v060 = true ∧ cmpGe ver v070 = true ∧ cmpLt ver v080 = true := by
  simp only [version07Ok, Bool.and_eq_true, and_assoc]

theorem version06Ok_iff (ver : Str) : version06Ok ver = true ↔
    noNulEnd ver = true ∧ cmpGe ver v060 = true ∧ cmpLt ver v070 = true ∧ cmpLt ver v080 = true := by
  simp only [version06Ok, Bool.and_eq_true, and_assoc]

theorem not_mem_of_digits_dots (ver : Str) (h : ver.all (fun c => c.isDigit || c == '.') = true) (c : Char)
    (hc : (c.isDigit || c == '.') = false) : c ∉ ver :=
  fun hm => Bool.false_ne_true (hc.symm.trans (List.all_eq_true.mp h c hm))

end Pew.Npz
