import PewModel.Extent
import PewProofs.Srr

/-! every read reduces to `getQ_near` (four quotients within 5·10⁻⁷ of row / column numbers).  Its hypothesis is met by the perturbed
quotient of an aligned bound (`aligned_near`) and by the float64 quotient of a bound that is `NearBoundary` (`float_quotient_near`); the
product `fl(p · k)` a caller or `data_extent` computes is such a bound (`nearBoundary_fl_mul`).  The exact quotient needs no lemma
(`get_own_extent` in `PewTheorems/C10.lean`). -/
namespace Pew
namespace Extent
open Pew.Srr (sliceBounds_natCast)

theorem Cfg.dataExtent_eq_specExtent (c : Cfg) (rows cols : Nat) : c.dataExtent [rows, cols] = c.specExtent rows cols := by
  cases c <;> simp [Cfg.dataExtent, Cfg.specExtent, extentSpec, Cfg.pixelWidth, Cfg.pixelHeight, mul_comm]

theorem rectSpec_full {α : Type} (data : Arr2 α) : rectSpec data 0 data.rows 0 data.cols = data := by
  cases data
  simp [rectSpec]

theorem trunc_intCast (n : Int) : trunc (n : Rat) = n := by
  unfold trunc
  split
  · exact Rat.floor_intCast n
  · rw [Rat.ceil_eq_neg_floor_neg]
    have : (-(n : Rat)) = ((-n : Int) : Rat) := by push_cast; rfl
    rw [this, Rat.floor_intCast]; omega

theorem toIndex_near (q : Rat) (j : Int) (h : |q - j| < 5 / 10000000) : toIndex q = j := by
  rw [toIndex, round6, round6_near q j h, trunc_intCast]

/-- the last two conjuncts say that no tie rule is consulted on the way: the scaled quotient is no tie, half-even and half-up agree -/
theorem near_index (q : Rat) (k : Nat) (h : |q - (k : Rat)| < 5 / 10000000) :
    toIndex q = k ∧ q * 1000000 - ((q * 1000000).floor : Rat) ≠ 1 / 2 ∧ round6 q = round6Up q := by
  have h' : |q - ((k : Int) : Rat)| < 5 / 10000000 := by rwa [Int.cast_natCast]
  have tie := no_tie_near_abs _ _ (sixth_decimal_near q k h')
  exact ⟨toIndex_near q k h', tie, by rw [round6, round6Up, roundHalfEven_eq_halfUp _ tie]⟩

theorem aligned_near {p : Rat} (hp : 0 < p) (k : Nat) {d : Rat} (hd : |d| < 5 / 10000000) :
    |(k : Rat) * p / p + d - (k : Rat)| < 5 / 10000000 := by
  rwa [mul_div_cancel_right₀ _ hp.ne', add_sub_cancel_left]

theorem slice_aligned {α : Type} (data : Arr2 α) (r0 r1 c0 c1 : Nat)
    (hr1 : r1 ≤ data.rows) (hr : r0 ≤ r1) (hc1 : c1 ≤ data.cols) (hc : c0 ≤ c1) :
    data.slice (some (r0 : Int)) (some (r1 : Int)) (some (c0 : Int)) (some (c1 : Int))
      = rectSpec data r0 r1 c0 c1 := by
  simp only [Arr2.slice, rectSpec, sliceBounds_natCast _ _ _ hr hr1, sliceBounds_natCast _ _ _ hc hc1]

theorem getQ_near {α : Type} (data : Arr2 α) (r0 r1 c0 c1 : Nat) (hr : r0 ≤ r1) (hr1 : r1 ≤ data.rows) (hc : c0 ≤ c1)
    (hc1 : c1 ≤ data.cols) {qx0 qx1 qy0 qy1 : Rat} (h1 : |qx0 - (c0 : Rat)| < 5 / 10000000)
    (h2 : |qx1 - (c1 : Rat)| < 5 / 10000000) (h3 : |qy0 - (r0 : Rat)| < 5 / 10000000) (h4 : |qy1 - (r1 : Rat)| < 5 / 10000000) :
    getQ data qx0 qx1 qy0 qy1 = rectSpec data r0 r1 c0 c1 := by
  unfold getQ
  rw [(near_index _ _ h1).1, (near_index _ _ h2).1, (near_index _ _ h3).1, (near_index _ _ h4).1]
  exact slice_aligned data r0 r1 c0 c1 hr1 hr hc1 hc

theorem nearBoundary_iff (b p : Rat) (k : Nat) :
    NearBoundary b p k ↔ |b - (k : Rat) * p| ≤ (k : Rat) * p / 2 ^ 50 := by
  unfold NearBoundary
  have e : (2 : Rat) ^ 50 = 1125899906842624 := by norm_num
  rw [e]
  split_ifs with h
  · rw [abs_of_neg h, neg_sub]
  · rw [abs_of_nonneg (not_lt.mp h)]

/-- one rounding of the division (`k / 2⁵³`) on top of the `k / 2⁵⁰` the bound may be off: below `k / 2⁴⁹`, which `k ≤ 2²⁸`
keeps under 5·10⁻⁷ -/
theorem float_quotient_near (p b : Rat) (k : Nat) (hp : 0 < p) (hk : k ≤ 2 ^ 28) (hb : NearBoundary b p k) :
    |fl (b / p) - (k : Rat)| < 5 / 10000000 := by
  rw [nearBoundary_iff] at hb
  have hkR : (k : Rat) ≤ 2 ^ 28 := by exact_mod_cast hk
  have hk0 : (0 : Rat) ≤ (k : Rat) := Nat.cast_nonneg k
  have hq : |b / p - (k : Rat)| ≤ |(k : Rat)| / 2 ^ 50 :=
    relerr_div hp.ne' (by rwa [abs_of_nonneg (mul_nonneg hk0 hp.le)])
  have h := relerr_trans (a := 2 ^ 50) (b := 2 ^ 53) (c := 2 ^ 49) (by norm_num) le_rfl hq (fl_relerr (b / p)) (by norm_num)
  rw [abs_of_nonneg hk0] at h
  exact lt_of_le_of_lt (h.trans (div_le_div_of_nonneg_right hkR (by norm_num))) (by norm_num)

/-- the product a caller (and `data_extent`) computes, `fl(p · k)`, against the exact `k · p`: one rounding, so any `e ≤ 53` will do
(50 is `NearBoundary`; `extent_float_close` takes 51) -/
theorem fl_mul_close (p : Rat) (k : Nat) (hp : 0 < p) (e : Nat) (he : e ≤ 53) :
    |fl (p * (k : Rat)) - (k : Rat) * p| ≤ (k : Rat) * p / 2 ^ e := by
  have h := fl_relerr (p * (k : Rat))
  rw [abs_of_nonneg (mul_nonneg hp.le (Nat.cast_nonneg k))] at h
  rw [mul_comm (k : Rat)]
  exact h.trans (div_le_div_of_nonneg_left (mul_nonneg hp.le (Nat.cast_nonneg k)) (by positivity)
    (pow_le_pow_right₀ one_le_two he))

theorem nearBoundary_fl_mul (p : Rat) (k : Nat) (hp : 0 < p) : NearBoundary (fl (p * (k : Rat))) p k :=
  (nearBoundary_iff _ _ _).mpr (fl_mul_close p k hp 50 (by decide))

theorem nearBoundary_zero (p : Rat) : NearBoundary 0 p 0 := by
  rw [nearBoundary_iff]; simp

theorem pixelF_pos (c : Cfg) (hc : c.Positive) : 0 < c.pixelWidthF ∧ 0 < c.pixelHeightF := by
  cases c with
  | raster s v t => exact ⟨fl_pos _ (mul_pos hc.2.1 hc.2.2), hc.1⟩
  | spot sx sy => exact ⟨hc.1, hc.2⟩

end Extent
end Pew
