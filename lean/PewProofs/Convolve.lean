import PewModel.Convolve
import PewProofs.Lists
import Mathlib.Algebra.BigOperators.Ring.List
import Mathlib.Algebra.BigOperators.Group.Finset.Basic
import Mathlib.Algebra.Order.Field.Rat

/-! # C18 — convolution and deconvolution entry by entry: every list of the model is read through `at0` (entry with
default 0) and every sum is a sum over `List.range`, so each model function gets one lemma for its entries and the
theorems compare sums term by term.  `trimZeros` and `deconvolveOld`, the mechanism `deconvolve` had before
/repo 5e4648b, are defined here, next to the lemma about them. -/
namespace Pew.Convolve

theorem at0_of_lt (l : List Rat) (i : Nat) (h : i < l.length) : at0 l i = l[i] := by
  simp [at0, List.getD, List.getElem?_eq_getElem h]

theorem at0_of_ge (l : List Rat) (i : Nat) (h : l.length ≤ i) : at0 l i = 0 := by
  simp [at0, List.getD, List.getElem?_eq_none h]

theorem at0_mem (l : List Rat) (i : Nat) (h : i < l.length) : at0 l i ∈ l := by
  rw [at0_of_lt l i h]; exact List.getElem_mem h

theorem length_pos_of_at0_ne {l : List Rat} (h : at0 l 0 ≠ 0) : 0 < l.length :=
  Nat.pos_of_ne_zero fun hl => h (at0_of_ge l 0 hl.le)

theorem at0_replicate (N : Nat) (c : Rat) (i : Nat) (h : i < N) : at0 (List.replicate N c) i = c := by
  rw [at0_of_lt _ _ (by simpa using h)]; simp

theorem at0_map_range (f : Nat → Rat) {n k : Nat} (hk : k < n) : at0 ((List.range n).map f) k = f k := by
  rw [at0_of_lt _ _ (by simpa using hk)]; simp

theorem map_at0_range (l : List Rat) : (List.range l.length).map (at0 l) = l :=
  Lists.map_getD_range l 0

theorem eq_map_range (l : List Rat) (f : Nat → Rat) {n : Nat} (hl : l.length = n) (h : ∀ k, k < n → at0 l k = f k) :
    l = (List.range n).map f := by
  subst hl
  exact (map_at0_range l).symm.trans (List.map_congr_left fun k hk => h k (List.mem_range.mp hk))

theorem at0_append_left (a b : List Rat) (i : Nat) (h : i < a.length) : at0 (a ++ b) i = at0 a i := by
  simp [at0, List.getD, List.getElem?_append_left h]

theorem at0_append_right (a b : List Rat) (i : Nat) (h : a.length ≤ i) : at0 (a ++ b) i = at0 b (i - a.length) := by
  simp [at0, List.getD, List.getElem?_append_right h]

theorem map_at0_range_ge (x : List Rat) (r : Nat) (h : x.length ≤ r) :
    (List.range r).map (at0 x) = x ++ List.replicate (r - x.length) 0 := by
  apply List.ext_getElem
  · rw [List.length_map, List.length_range, List.length_append, List.length_replicate, Nat.add_sub_cancel' h]
  · intro i h1 h2
    simp only [List.getElem_map, List.getElem_range]
    rcases Nat.lt_or_ge i x.length with hi | hi
    · rw [List.getElem_append_left hi]; exact at0_of_lt x i hi
    · rw [List.getElem_append_right hi, List.getElem_replicate]
      exact at0_of_ge x i hi

theorem sum_range_congr {f g : Nat → Rat} {n : Nat} (h : ∀ j, j < n → f j = g j) :
    ((List.range n).map f).sum = ((List.range n).map g).sum :=
  congrArg List.sum (List.map_congr_left fun j hj => h j (List.mem_range.mp hj))

theorem sum_range_eq_finset_sum (f : Nat → Rat) (n : Nat) :
    ((List.range n).map f).sum = ∑ j ∈ Finset.range n, f j :=
  -- `Finset.range n` is the list `List.range n` as a multiset, and the sum of a list as a multiset is its `List.sum`
  rfl

theorem sum_range_eq_of_zero (g : Nat → Rat) (a b : Nat) (ha : ∀ j, a ≤ j → g j = 0) (hb : ∀ j, b ≤ j → g j = 0) :
    ((List.range a).map g).sum = ((List.range b).map g).sum := by
  rw [sum_range_eq_finset_sum, sum_range_eq_finset_sum]
  rcases le_total a b with h | h
  · exact Finset.sum_subset (Finset.range_mono h) fun j _ hj => ha j (not_lt.mp (mt Finset.mem_range.mpr hj))
  · exact (Finset.sum_subset (Finset.range_mono h) fun j _ hj => hb j (not_lt.mp (mt Finset.mem_range.mpr hj))).symm

theorem clampIdx_neg (n : Nat) (i : Int) (h : i < 0) : clampIdx n i = 0 := if_pos h

/-- the index comes as an `Int` with a proof that it is the cast of `m`, so that callers discharge the cast by
`rw`/`omega` (likewise `pySliceTo_nat`, `pySliceTo_neg`) -/
theorem clampIdx_eq (n : Nat) (i : Int) (m : Nat) (hi : i = m) (h : m < n) : clampIdx n i = m := by
  subst hi
  unfold clampIdx
  rw [if_neg (not_lt.mpr (Int.natCast_nonneg m)), if_neg (not_le.mpr (Nat.cast_lt.mpr h))]
  rfl

theorem clampIdx_ge (n : Nat) (i : Int) (h : (n : Int) ≤ i) : clampIdx n i = n - 1 := by
  unfold clampIdx
  rw [if_neg (not_lt.mpr ((Int.natCast_nonneg n).trans h)), if_pos h]

theorem clampIdx_lt (n : Nat) (hn : 0 < n) (i : Int) : clampIdx n i < n := by
  unfold clampIdx
  split
  · exact hn
  · split
    · exact Nat.sub_lt hn one_pos
    · rename_i h1 h2
      exact (Int.toNat_lt (not_lt.mp h1)).mpr (not_le.mp h2)

theorem padEdge_length (x : List Rat) (l r : Nat) : (padEdge x l r).length = l + x.length + r := by
  unfold padEdge
  rw [List.length_append, List.length_append, List.length_replicate, List.length_replicate]

theorem padLens (m : Nat) (hm : 0 < m) : m / 2 + (m / 2 + m % 2 - 1) = m - 1 := by omega

theorem getLastD_eq_at0 (x : List Rat) (hx : x ≠ []) : x.getLastD 0 = at0 x (x.length - 1) := by
  rw [at0_of_lt _ _ (Nat.sub_lt (List.length_pos_iff.mpr hx) one_pos)]
  rw [List.getLastD_eq_getLast?, List.getLast?_eq_some_getLast hx, List.getLast_eq_getElem]
  rfl

theorem padEdge_at (x : List Rat) (hx : x ≠ []) (l r i : Nat) (hi : i < l + x.length + r) :
    at0 (padEdge x l r) i = at0 x (clampIdx x.length ((i : Int) - (l : Int))) := by
  have hl : (List.replicate l (x.headD 0) ++ x).length = l + x.length := by
    rw [List.length_append, List.length_replicate]
  unfold padEdge
  rcases Nat.lt_or_ge i l with h1 | h1
  · rw [clampIdx_neg _ _ (sub_neg.mpr (Nat.cast_lt.mpr h1)), List.append_assoc,
      at0_append_left _ _ _ (by rwa [List.length_replicate]), at0_replicate _ _ _ h1]
    exact List.headD_eq_getD
  · rcases Nat.lt_or_ge i (l + x.length) with h2 | h2
    · rw [clampIdx_eq _ _ (i - l) (Nat.cast_sub h1).symm (Nat.sub_lt_left_of_lt_add h1 h2),
        at0_append_left _ _ _ (by rwa [hl]), at0_append_right _ _ _ (by rwa [List.length_replicate]),
        List.length_replicate]
    · rw [clampIdx_ge _ _ (by omega), at0_append_right _ _ _ (by rwa [hl]), hl,
        at0_replicate _ _ _ (Nat.sub_lt_left_of_lt_add h2 hi), getLastD_eq_at0 x hx]

theorem padConvAt_replicate (c : Rat) (n : Nat) (hn : 0 < n) (psf : List Rat) (k : Nat) :
    padConvAt (List.replicate n c) psf k = c * psf.sum := by
  unfold padConvAt
  rw [List.length_replicate,
    sum_range_congr (g := fun j => at0 psf j * c) fun j _ => by rw [at0_replicate _ _ _ (clampIdx_lt n hn _)],
    List.sum_map_mul_right, map_at0_range, mul_comm]

theorem convValidGe_length (a v : List Rat) : (convValidGe a v).length = a.length + 1 - v.length := by
  unfold convValidGe
  rw [List.length_map, List.length_range]

theorem at0_convValidGe (a v : List Rat) (k : Nat) (hk : k < a.length + 1 - v.length) :
    at0 (convValidGe a v) k
      = ((List.range v.length).map (fun j => at0 v j * at0 a (k + v.length - 1 - j))).sum :=
  at0_map_range _ hk

theorem padEdge_length_pad (x : List Rat) (m : Nat) (hm : 0 < m) :
    (padEdge x (m / 2) (m / 2 + m % 2 - 1)).length = x.length + (m - 1) := by
  rw [padEdge_length, Nat.add_right_comm, padLens m hm, Nat.add_comm]

/-- the padded signal is never shorter than the kernel: numpy does not swap the arguments -/
theorem convolvePad_eq (x psf : List Rat) (hx : x ≠ []) (hp : psf ≠ []) :
    convolvePad x psf
      = convValidGe (padEdge x (psf.length / 2) (psf.length / 2 + psf.length % 2 - 1)) psf := by
  have hn : 0 < x.length := List.length_pos_iff.mpr hx
  have hm : 0 < psf.length := List.length_pos_iff.mpr hp
  exact if_neg (by rw [padEdge_length_pad x _ hm]; omega)

theorem fullConv_length (x psf : List Rat) : (fullConv x psf).length = x.length + psf.length - 1 := by
  unfold fullConv
  rw [List.length_map, List.length_range]

theorem fullConvAt_of_ge (x psf : List Rat) (t : Nat) (h : x.length + psf.length - 1 ≤ t) :
    fullConvAt x psf t = 0 := by
  apply List.sum_eq_zero
  intro v hv
  obtain ⟨j, hj, rfl⟩ := List.mem_map.mp hv
  have hj' : j < psf.length := List.mem_range.mp hj
  split
  · rw [at0_of_ge x _ (by omega), mul_zero]
  · rfl

theorem at0_fullConv (x psf : List Rat) (t : Nat) :
    at0 (fullConv x psf) t = fullConvAt x psf t := by
  rcases Nat.lt_or_ge t (x.length + psf.length - 1) with h | h
  · exact at0_map_range _ h
  · rw [fullConvAt_of_ge x psf t h]
    exact at0_of_ge _ _ (by rw [fullConv_length]; exact h)

theorem fullConvAt_eq_range (x psf : List Rat) (t : Nat) :
    fullConvAt x psf t = ((List.range (t + 1)).map (fun j => at0 psf j * at0 x (t - j))).sum := by
  unfold fullConvAt
  rw [sum_range_eq_of_zero _ psf.length (t + 1)
    (fun j hj => by rw [at0_of_ge _ _ hj, zero_mul, ite_self]) (fun j hj => if_neg (Nat.not_le.mpr hj))]
  exact sum_range_congr fun j hj => if_pos (Nat.le_of_lt_succ hj)

theorem le_nextPow2 (n : Nat) : n ≤ nextPow2 n := by
  unfold nextPow2
  split
  · rename_i h
    rw [h]
    exact Nat.zero_le _
  · split
    · rename_i h
      exact h.le
    · have := Nat.lt_log2_self (n := n - 1)
      omega

theorem seriesDiv_length (c psf : List Rat) (r : Nat) : (seriesDiv c psf r).length = r := by
  induction r with
  | zero => rfl
  | succ r ih => simp [seriesDiv, ih]

/-- uniqueness of the series quotient -/
theorem seriesDiv_eq_of_conv (c q psf : List Rat) (h0 : at0 psf 0 ≠ 0) (r : Nat)
    (h : ∀ t, t < r → fullConvAt q psf t = at0 c t) :
    seriesDiv c psf r = (List.range r).map (at0 q) := by
  have hm : 0 < psf.length := length_pos_of_at0_ne h0
  induction r with
  | zero => rfl
  | succ r ih =>
    rw [seriesDiv, ih fun t ht => h t (Nat.lt_succ_of_lt ht), List.range_succ, List.map_append, ← h r r.lt_succ_self]
    congr 2
    -- the tap `j = 0` of the convolution sum is `psf[0] · q[r]`, the other taps are what is subtracted
    obtain ⟨m', hm'⟩ : ∃ m', psf.length = m' + 1 := ⟨psf.length - 1, (Nat.sub_add_cancel hm).symm⟩
    unfold fullConvAt
    rw [div_eq_iff h0, sub_eq_iff_eq_add, hm', List.sum_range_succ', List.sum_range_succ', if_pos (Nat.zero_le r),
      if_neg fun h => Nat.not_succ_le_zero 0 h.1, zero_add, mul_comm]
    congr 1
    refine sum_range_congr fun j _ => ?_
    by_cases hjr : j + 1 ≤ r
    · rw [if_pos hjr, if_pos ⟨Nat.le_add_left 1 j, hjr⟩, at0_map_range _ (Nat.sub_lt (j.succ_pos.trans_le hjr) j.succ_pos)]
    · rw [if_neg hjr, if_neg fun h => hjr h.2]

theorem seriesDiv_fullConv (x psf : List Rat) (h0 : at0 psf 0 ≠ 0) {r : Nat} (hr : x.length ≤ r) :
    seriesDiv (fullConv x psf) psf r = x ++ List.replicate (r - x.length) 0 :=
  (seriesDiv_eq_of_conv _ x psf h0 r fun t _ => (at0_fullConv x psf t).symm).trans (map_at0_range_ge x r hr)

theorem fftQuotient_fullConv (x psf : List Rat) (h0 : at0 psf 0 ≠ 0) :
    seriesDiv (fullConv x psf) psf (nextPow2 (max (fullConv x psf).length psf.length))
      = x ++ List.replicate (nextPow2 (max (fullConv x psf).length psf.length) - x.length) 0 :=
  -- n ≤ n + m − 1 = len (fullConv x psf) ≤ the maximum ≤ its next power of two
  seriesDiv_fullConv x psf h0 <|
    ((Nat.le_sub_one_of_lt (Nat.lt_add_of_pos_right (length_pos_of_at0_ne h0))).trans_eq (fullConv_length x psf).symm).trans
      ((le_max_left _ _).trans (le_nextPow2 _))

theorem pySliceTo_nat {α : Type} (l : List α) (k : Nat) (i : Int) (hi : i = k) : pySliceTo l i = l.take k := by
  subst hi; exact if_pos (Int.natCast_nonneg k)

theorem pySliceTo_neg {α : Type} (l : List α) (k : Nat) (i : Int) (hk : 0 < k) (hi : i = -(k : Int)) :
    pySliceTo l i = l.take (l.length - k) := by
  subst hi; unfold pySliceTo; rw [if_neg (not_le.mpr (neg_neg_of_pos (Int.natCast_pos.mpr hk))), neg_neg, Int.toNat_natCast]

theorem stop_fullConv (x psf : List Rat) (h2 : 2 ≤ x.length) :
    ((fullConv x psf).length : Int) - (psf.length : Int) - 1 = ((x.length - 2 : Nat) : Int) := by
  rw [fullConv_length]; omega

/-- `np.trim_zeros` -/
def trimZeros (l : List Rat) : List Rat :=
  ((l.dropWhile (· == 0)).reverse.dropWhile (· == 0)).reverse

/-- `deconvolve(c, psf)` before /repo 5e4648b: `np.trim_zeros(np.real(y))[: c.size - psf.size - 1]` -/
def deconvolveOld (c psf : List Rat) : List Rat :=
  let r := nextPow2 (max c.length psf.length)
  pySliceTo (trimZeros (seriesDiv c psf r)) ((c.length : Int) - (psf.length : Int) - 1)

theorem trimZeros_append_zeros (x : List Rat) (hh : ∀ a, x.head? = some a → a ≠ 0)
    (hl : ∀ a, x.getLast? = some a → a ≠ 0) (k : Nat) :
    trimZeros (x ++ List.replicate k 0) = x :=
  -- `trimZeros` unfolds to `Lists.strip (· == 0)`
  Lists.strip_append (fun _ hc => beq_iff_eq.mpr (List.eq_of_mem_replicate hc))
    (fun c hc => beq_eq_false_iff_ne.mpr (hh c hc)) (fun c hc => beq_eq_false_iff_ne.mpr (hl c hc))

end Pew.Convolve
