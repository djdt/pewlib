import PewProofs.Export

/-! # C16 — sources and sessions: what the Boolean `imgOk`, `Src.ok` and `Src.image?` say as propositions; a session run
call by call answers as its specification does -/
namespace Pew.Export

variable {α : Type} (fmt : α → Str) (conv : Str → α)

theorem imgOk_spec (img : List (List α)) (h : imgOk img = true) :
    img ≠ [] ∧ 0 < (img.headD []).length ∧ ∀ row ∈ img, row.length = (img.headD []).length := by
  cases img with
  | nil => simp [imgOk] at h
  | cons r rs =>
    simp only [imgOk, Bool.and_eq_true, Bool.not_eq_true', List.isEmpty_eq_false_iff, List.all_eq_true] at h
    refine ⟨by simp, ?_, ?_⟩
    · simp only [List.headD_cons]
      exact List.length_pos_iff.mpr h.1
    · intro row hrow
      rcases List.mem_cons.mp hrow with e | e
      · subst e; rfl
      · simpa using h.2 row e

theorem Src.ok_saved {h : Str} {img : List (List α)} : (Src.saved h img).ok = true ↔ '\r' ∉ h ∧ imgOk img = true := by
  simp [Src.ok]

theorem Src.ok_delimited {seps : List (List Char)} {img : List (List α)} :
    (Src.delimited seps img).ok = true ↔ seps.length = img.length ∧ (∀ ss ∈ seps, ∀ s ∈ ss, IsDelim s) ∧
      imgOk img = true ∧ ∀ ss ∈ seps, ss.length + 1 = (img.headD []).length := by
  simp only [Src.ok, Bool.and_eq_true, beq_iff_eq, List.all_eq_true, isDelimB_iff, and_assoc]

theorem Src.image?_saved {delim : Option Char} {h : Str} {im img : List (List α)}
    (hi : (Src.saved h im).image? delim = some img) : delim = none ∧ im = img := by
  cases delim with
  | none => exact ⟨rfl, Option.some.inj hi⟩
  | some d => cases hi

theorem Src.image?_delimited {delim : Option Char} {seps : List (List Char)} {im img : List (List α)}
    (hi : (Src.delimited seps im).image? delim = some img) :
    im = img ∧ ∀ d, delim = some d → IsDelim d ∧ ∀ ss ∈ seps, ∀ s ∈ ss, s = d := by
  cases delim with
  | none => exact ⟨Option.some.inj hi, nofun⟩
  | some d =>
    simp only [Src.image?] at hi
    split at hi
    · rename_i hcond
      simp only [Bool.and_eq_true, List.all_eq_true, beq_iff_eq, isDelimB_iff] at hcond
      exact ⟨Option.some.inj hi, fun _ e => Option.some.inj e ▸ hcond⟩
    · cases hi

/-! ### sessions: the file system threaded through the calls holds the last text put at each path -/

theorem lastPut_append (p : Nat) (a b : List (Call α)) :
    lastPut p (a ++ b) = (match lastPut p b with
      | some s => some s
      | none => lastPut p a) := by
  induction a with
  | nil =>
    simp only [List.nil_append, lastPut]
    cases lastPut p b <;> rfl
  | cons c cs ih =>
    simp only [List.cons_append, lastPut, ih]
    cases lastPut p b with
    | some s => rfl
    | none => rfl

theorem runSession_eq_specFrom (fs : List (Nat × Str)) (before cs : List (Call α))
    (h : ∀ p, fsGet fs p = (lastPut p before).map (Src.text fmt)) :
    runSession fmt conv fs cs = specFrom fmt conv before cs := by
  induction cs generalizing fs before with
  | nil => rfl
  | cons c cs ih =>
    rw [runSession, specFrom]
    congr 1
    · cases c with
      | put q s => rfl
      | load q d n =>
        simp only [step, replyAt, h q]
        cases lastPut q before <;> rfl
    · refine ih _ _ fun p => ?_
      rw [lastPut_append]
      cases c with
      | put q s =>
        simp only [step, fsGet, lastPut]
        split <;> simp [h p]
      | load q d n => exact h p

theorem specFrom_get (before cs : List (Call α)) (i : Nat) :
    (specFrom fmt conv before cs)[i]? = (cs[i]?).map (replyAt fmt conv (before ++ cs.take i)) := by
  induction cs generalizing before i with
  | nil => simp [specFrom]
  | cons c cs ih =>
    cases i with
    | zero => simp [specFrom]
    | succ i =>
      simp only [specFrom, List.getElem?_cons_succ, List.take_succ_cons]
      rw [ih]
      simp

theorem lastPut_none (p : Nat) (mid : List (Call α)) (h : ∀ q s, Call.put q s ∈ mid → q ≠ p) : lastPut p mid = none := by
  induction mid with
  | nil => rfl
  | cons c cs ih =>
    simp only [lastPut]
    rw [ih (fun q s hm => h q s (by simp [hm]))]
    cases c with
    | put q s =>
      have := h q s (by simp)
      simp [this]
    | load q d n => rfl

end Pew.Export
