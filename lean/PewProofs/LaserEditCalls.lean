import PewProofs.LaserEditHeap
import PewProofs.LaserEditExc

/-! C07, the calls of the object level (`World`, `hstep`) against the content level (`State`, `stepE`): every call is the
content-level call seen through `view` and treats the objects as `Keeps` says (`hstep_spec`); holders' edits; one allowed
step (`hstep_tracked`) and histories. -/
namespace Pew.LaserEdit

theorem hAddLayers_spec (n : Name) : ∀ (as : List Arr) (xs : List ArrIn) (h : Heap),
    (∀ a ∈ as, ArrOK h a) → (∀ x ∈ xs, x.2 < h.cells.length) →
    match hAddLayers n as xs h with
    | .ok (r, h') =>
      addLayersE n (as.map (viewLayer h)) (xs.map fun x => (x.1, h.cell x.2)) = .ok (r.map (viewLayer h')) ∧
        Grows h h' ∧ (∀ a ∈ r, ArrOK h' a) ∧ ∀ a ∈ r, ∀ e ∈ a.fields, h.cells.length ≤ e.2
    | .error (e, r, h') =>
      addLayersE n (as.map (viewLayer h)) (xs.map fun x => (x.1, h.cell x.2)) = .error (e, r.map (viewLayer h')) ∧
        Grows h h' ∧ ∀ a ∈ r, ArrOK h' a := by
  intro as
  induction as with
  | nil =>
    intro xs h _ _
    exact ⟨rfl, Grows.refl h, by simp, by simp⟩
  | cons a t ih =>
    intro xs h has hxs
    cases xs with
    | nil => exact ⟨rfl, Grows.refl h, has⟩
    | cons x u =>
      obtain ⟨_, hast⟩ := List.forall_mem_cons.1 has
      obtain ⟨_, hxu⟩ := List.forall_mem_cons.1 hxs
      have hadd : Layer.addE (viewLayer h a) n (x.1, h.cell x.2) = (Layer.addE a n x).map (viewLayer h) :=
        Layer.addE_mapV h.cell a n x
      simp only [hAddLayers, Arr.addE, List.map_cons, addLayersE]
      rw [hadd]
      cases Layer.addE a n x with
      | error e => exact ⟨rfl, Grows.refl h, has⟩
      | ok a2 =>
        have hcv := copyArr_view h a2
        have hg := copyArr_grows h a2
        have hok := copyArr_ok h a2
        have ih := ih u (h.copyArr a2).2 (fun b hb => (hast b hb).mono hg.ext)
          (fun y hy => Nat.lt_of_lt_of_le (hxu y hy) hg.cells_le)
        -- the remaining arrays and the caller's columns show in the new memory what they showed in `h`
        rw [hg.ext.viewLayers hast, List.map_congr_left (fun y hy => by rw [hg.ext.cell (hxu y hy)] :
          ∀ y ∈ u, (y.1, (h.copyArr a2).2.cell y.2) = (y.1, h.cell y.2))] at ih
        simp only [Except.map, ← hcv]
        cases hr : hAddLayers n t u (h.copyArr a2).2 with
        | ok q =>
          rw [hr] at ih
          obtain ⟨i1, i2, i3, i4⟩ := ih
          simp only [i1, List.map_cons, i2.ext.viewLayer hok]
          exact ⟨trivial, hg.trans i2, List.forall_mem_cons.2 ⟨hok.mono i2.ext, i3⟩,
            List.forall_mem_cons.2 ⟨copyArr_fresh h a2, fun b hb e he => Nat.le_trans hg.cells_le (i4 b hb e he)⟩⟩
        | error q =>
          rw [hr] at ih
          obtain ⟨i1, i2, i3⟩ := ih
          simp only [i1, List.map_cons, i2.ext.viewLayer hok]
          exact ⟨trivial, hg.trans i2, List.forall_mem_cons.2 ⟨hok.mono i2.ext, i3⟩⟩

/-- `drop_fields` builds a new array per layer: the loop of `remove` copies the layers without the fields -/
theorem hDropLayers_eq (ns : List Name) : ∀ (as : List Arr) (h : Heap),
    hDropLayers ns as h = copyArrs (as.map (·.drop ns)) h
  | [], _ => rfl
  | a :: t, h => by simp only [hDropLayers, List.map_cons, copyArrs, hDropLayers_eq ns t]

theorem ext_storeCal (h : Heap) (i : Nat) (n : Name) (cal : Option Nat) : Ext (some i) h (h.storeCal i n cal) := by
  cases cal with
  | none => exact (Ext.of_growsC (growsC_alloc h 0)).trans (ext_setDict _ i _)
  | some k => exact ext_setDict h i _

theorem storeCal_spec (h : Heap) (i : Nat) (n : Name) (cal : Option Nat) (hi : i < h.dicts.length)
    (hcal : ∀ k, cal = some k → k < h.cals.length) :
    (h.storeCal i n cal).dict i = dictSet (h.dict i) n (cal.getD h.cals.length) ∧
    cal.getD h.cals.length < (h.storeCal i n cal).cals.length ∧
    (h.storeCal i n cal).calOf (cal.getD h.cals.length) = (cal.map h.calOf).getD 0 := by
  cases cal with
  | none => exact ⟨dict_set_self (h := (h.allocCal 0).2) _ hi, by simp [Heap.storeCal, Heap.allocCal],
      by simp [Heap.storeCal, Heap.allocCal, Heap.calOf]⟩
  | some k => exact ⟨dict_set_self _ hi, hcal k rfl, rfl⟩

theorem Valid.dict_lt {w : World} (hv : Valid w) : w.laser.cal < w.heap.dicts.length := hv.1
theorem Valid.cal_lt {w : World} (hv : Valid w) : ∀ e ∈ w.heap.dict w.laser.cal, e.2 < w.heap.cals.length := hv.2.1
theorem Valid.cfg_lt {w : World} (hv : Valid w) : w.laser.cfg < w.heap.cfgs.length := hv.2.2.1
theorem Valid.data_ok {w : World} (hv : Valid w) : ∀ a ∈ w.laser.data, ArrOK w.heap a := hv.2.2.2

/-- the caller's `Calibration` that `add` stores by reference: the only `Calibration` a call can make the laser reference
that is neither new nor referenced by it before (`pc` in `Keeps.vals`) -/
def HOp.passed : HOp → Option Nat
  | .add _ _ cal => cal
  | _ => none

/-- the frame of a call: what `Sep.of_keeps` and `Placed.frame` need to know about the objects afterwards -/
structure Keeps (pc : Option Nat) (w w' : World) : Prop where
  ext : Ext (some w.laser.cal) w.heap w'.heap
  srr : w'.laser.srr = w.laser.srr
  cfg : w'.laser.cfg = w.laser.cfg
  cal : w'.laser.cal = w.laser.cal ∨ w.heap.dicts.length ≤ w'.laser.cal
  vals : ∀ e ∈ w'.heap.dict w'.laser.cal,
    (∃ e' ∈ w.heap.dict w.laser.cal, e'.2 = e.2) ∨ w.heap.cals.length ≤ e.2 ∨ pc = some e.2

structure Simulates (pc : Option Nat) (w : World) (r : Res World) (r' : Res State) : Prop where
  sim : r.map view = r'
  valid : Valid r.state
  keeps : Keeps pc w r.state

/-- the shape all calls share: new arrays `l` and a dict reference `c'` over memory that extends the old one -/
theorem view_after {w : World} (hv : Valid w) {d : Option Nat} {h' : Heap} (he : Ext d w.heap h') {l : List Arr}
    (hl : ∀ a ∈ l, ArrOK h' a) {c' : Nat} (hc : c' < h'.dicts.length) (hd : ∀ e ∈ h'.dict c', e.2 < h'.cals.length) :
    Valid ⟨h', ⟨w.laser.srr, l, c', w.laser.cfg⟩⟩ ∧
    view ⟨h', ⟨w.laser.srr, l, c', w.laser.cfg⟩⟩ =
      ⟨w.laser.srr, l.map (viewLayer h'), viewDict h' (h'.dict c'), (view w).cfg⟩ :=
  ⟨⟨hc, hd, Nat.lt_of_lt_of_le hv.cfg_lt he.cfgs_le, hl⟩,
   State.ext' rfl rfl rfl (congrArg Cfg.scal (he.cfgOf hv.cfg_lt))⟩

theorem view_ext {w : World} {h' : Heap} {d : Option Nat} (hv : Valid w) (he : Ext d w.heap h')
    (hd : some w.laser.cal ≠ d) : view ⟨h', w.laser⟩ = view w ∧ Valid ⟨h', w.laser⟩ := by
  have hdict : h'.dict w.laser.cal = w.heap.dict w.laser.cal := he.dict hv.dict_lt hd
  obtain ⟨v1, v2⟩ := view_after hv he (fun a ha => (hv.data_ok a ha).mono he)
    (Nat.lt_of_lt_of_le hv.dict_lt he.dicts_le)
    (by rw [hdict]; exact fun e hm => Nat.lt_of_lt_of_le (hv.cal_lt e hm) he.cals_le)
  refine ⟨v2.trans ?_, v1⟩
  rw [hdict, he.viewLayers hv.data_ok, he.viewDict hv.cal_lt]
  rfl

theorem sep_ext {F : Foreign} {w : World} {h' : Heap} {d : Option Nat} (hv : Valid w) (hs : Sep F w)
    (he : Ext d w.heap h') (hd : some w.laser.cal ≠ d) : Sep F ⟨h', w.laser⟩ := by
  obtain ⟨b1, b2, b3, s1, s2, s3⟩ := hs
  refine ⟨fun k hk => Nat.lt_of_lt_of_le (b1 k hk) he.cals_le, fun k hk => Nat.lt_of_lt_of_le (b2 k hk) he.dicts_le,
    fun k hk => Nat.lt_of_lt_of_le (b3 k hk) he.cfgs_le, s1, ?_, s3⟩
  rw [he.dict hv.dict_lt hd]
  exact s2

theorem view_grows {pc : Option Nat} {w : World} (hv : Valid w) {h' : Heap} (hg : Grows w.heap h') {l : List Arr}
    (hl : ∀ a ∈ l, ArrOK h' a) :
    view ⟨h', { w.laser with data := l }⟩ = { view w with layers := l.map (viewLayer h') } ∧
    Valid ⟨h', { w.laser with data := l }⟩ ∧ Keeps pc w ⟨h', { w.laser with data := l }⟩ := by
  have hd : h'.dict w.laser.cal = w.heap.dict w.laser.cal := hg.dict _
  obtain ⟨v1, v2⟩ := view_after hv hg.ext hl (Nat.lt_of_lt_of_le hv.dict_lt hg.ext.dicts_le)
    (by rw [hd]; exact fun e hm => Nat.lt_of_lt_of_le (hv.cal_lt e hm) hg.ext.cals_le)
  refine ⟨v2.trans ?_, v1, hg.ext.weaken, rfl, rfl, Or.inl rfl, fun e he => Or.inl ⟨e, hd ▸ he, rfl⟩⟩
  rw [hd, hg.ext.viewDict hv.cal_lt]
  rfl

theorem hAdd_spec (w : World) (hv : Valid w) (n : Name) (xs : List ArrIn) (cal : Option Nat)
    (hxs : ∀ x ∈ xs, x.2 < w.heap.cells.length) (hcal : ∀ k, cal = some k → k < w.heap.cals.length) :
    Simulates cal w (hAdd w n xs cal)
      (addE (view w) n (xs.map (fun x => (x.1, w.heap.cell x.2))) ((cal.map w.heap.calOf).getD 0)) ∧
    ∀ w', hAdd w n xs cal = .ok w' → (∀ a ∈ w'.laser.data, ∀ e ∈ a.fields, w.heap.cells.length ≤ e.2) ∧
      w'.heap.dict w'.laser.cal = dictSet (w.heap.dict w.laser.cal) n (cal.getD w.heap.cals.length) := by
  have hs := hAddLayers_spec n w.laser.data xs w.heap hv.data_ok hxs
  unfold hAdd addE
  simp only [List.length_map, show (view w).layers = w.laser.data.map (viewLayer w.heap) from rfl]
  split
  · obtain ⟨g1, g2, g3⟩ := view_grows (pc := cal) hv (Grows.refl _) hv.data_ok
    exact ⟨⟨rfl, g2, g3⟩, nofun⟩
  · cases hE : hAddLayers n w.laser.data xs w.heap with
    | error q =>
      obtain ⟨e, ls, h⟩ := q
      rw [hE] at hs
      obtain ⟨s1, s2, s3⟩ := hs
      obtain ⟨g1, g2, g3⟩ := view_grows (pc := cal) hv s2 s3
      simp only [s1]
      exact ⟨⟨congrArg (Res.fail e) g1, g2, g3⟩, nofun⟩
    | ok q =>
      obtain ⟨ls, h⟩ := q
      rw [hE] at hs
      obtain ⟨s1, s2, s3, s4⟩ := hs
      simp only [s1]
      have hx := ext_storeCal h w.laser.cal n cal
      have he : Ext (some w.laser.cal) w.heap (h.storeCal w.laser.cal n cal) := s2.ext.weaken.trans hx
      have hdl : w.laser.cal < h.dicts.length := Nat.lt_of_lt_of_le hv.dict_lt s2.ext.dicts_le
      obtain ⟨t1, t2, t3⟩ := storeCal_spec h w.laser.cal n cal hdl (by rw [s2.cals]; exact hcal)
      rw [s2.dict, s2.cals] at t1
      rw [s2.cals] at t2 t3
      have hval : ∀ e ∈ (h.storeCal w.laser.cal n cal).dict w.laser.cal,
          e.2 < (h.storeCal w.laser.cal n cal).cals.length ∧ ((∃ e' ∈ w.heap.dict w.laser.cal, e'.2 = e.2) ∨
            w.heap.cals.length ≤ e.2 ∨ cal = some e.2) := by
        intro e hm
        rw [t1] at hm
        rcases mem_dictSet hm with h1 | rfl
        · exact ⟨Nat.lt_of_lt_of_le (hv.cal_lt e h1) he.cals_le, Or.inl ⟨e, h1, rfl⟩⟩
        · refine ⟨t2, Or.inr ?_⟩
          cases cal with
          | none => exact Or.inl (Nat.le_refl _)
          | some k => exact Or.inr rfl
      obtain ⟨v1, v2⟩ := view_after hv he (fun a ha => (s3 a ha).mono hx) (Nat.lt_of_lt_of_le hv.dict_lt he.dicts_le)
        (fun e hm => (hval e hm).1)
      refine ⟨⟨congrArg Res.ok (v2.trans ?_), v1, ⟨he, rfl, rfl, Or.inl rfl, fun e hm => (hval e hm).2⟩⟩,
        fun w' hw => Res.ok.inj hw ▸ ⟨s4, t1⟩⟩
      rw [hx.viewLayers s3, t1, viewDict, mapV_dictSet, ← viewDict, he.viewDict hv.cal_lt, t3, (funext s2.calOf : h.calOf = w.heap.calOf)]
      rfl

theorem hRemove_spec (w : World) (hv : Valid w) (ns : List Name) :
    Simulates none w (hRemove w ns) (removeE (view w) ns) ∧
    ∀ a ∈ (hRemove w ns).state.laser.data, ∀ e ∈ a.fields, w.heap.cells.length ≤ e.2 := by
  obtain ⟨s1, s2, s3, s4⟩ := copyArrs_spec (w.laser.data.map (·.drop ns)) w.heap
    (List.forall_mem_map.2 fun a ha e he => hv.data_ok a ha e (List.mem_filter.1 he).1)
  unfold hRemove removeE
  rw [hDropLayers_eq]
  generalize copyArrs (w.laser.data.map (·.drop ns)) w.heap = r at s1 s2 s3 s4
  obtain ⟨dl, dh⟩ := r
  simp only at s1 s2 s3 s4 ⊢
  rw [s2.dict]
  have hx := ext_setDict dh w.laser.cal (popAllE (w.heap.dict w.laser.cal) ns).1
  have he : Ext (some w.laser.cal) w.heap _ := s2.ext.weaken.trans hx
  have hdl : w.laser.cal < dh.dicts.length := Nat.lt_of_lt_of_le hv.dict_lt s2.ext.dicts_le
  have hdict := dict_set_self (h := dh) (popAllE (w.heap.dict w.laser.cal) ns).1 hdl
  have hsub : ∀ e ∈ (popAllE (w.heap.dict w.laser.cal) ns).1, e ∈ w.heap.dict w.laser.cal := popAllE_subset ns _
  obtain ⟨v1, v2⟩ := view_after hv he (l := dl) (fun a ha => (s3 a ha).mono hx)
    (Nat.lt_of_lt_of_le hv.dict_lt he.dicts_le)
    (by rw [hdict]; exact fun e hm => Nat.lt_of_lt_of_le (hv.cal_lt e (hsub e hm)) he.cals_le)
  have hk : Keeps none w ⟨_, ⟨w.laser.srr, dl, w.laser.cal, w.laser.cfg⟩⟩ :=
    ⟨he, rfl, rfl, Or.inl rfl, fun e hm => Or.inl ⟨e, hsub e (hdict ▸ hm), rfl⟩⟩
  have hpop := popAllE_mapV w.heap.calOf ns (w.heap.dict w.laser.cal)
  have hlay : (w.laser.data.map (·.drop ns)).map (viewLayer w.heap) = (view w).layers.map (·.drop ns) := by
    show _ = (w.laser.data.map (viewLayer w.heap)).map (·.drop ns)
    rw [List.map_map, List.map_map]
    exact List.map_congr_left fun a _ => (Layer.drop_mapV w.heap.cell a ns).symm
  rw [hdict, hx.viewLayers s3, s1, hlay, he.viewDict (fun e hm => hv.cal_lt e (hsub e hm))] at v2
  rw [show (view w).cal = mapV w.heap.calOf (w.heap.dict w.laser.cal) from rfl, hpop]
  cases (popAllE (w.heap.dict w.laser.cal) ns).2 with
  | none => exact ⟨⟨congrArg Res.ok v2, v1, hk⟩, s4⟩
  | some e => exact ⟨⟨congrArg (Res.fail e) v2, v1, hk⟩, s4⟩

theorem hRename_spec (w : World) (hv : Valid w) (m : NameMap) :
    Simulates none w (hRename w m) (renameE (view w) m) ∧
    ((hRename w m).state.laser.data.map Layer.ids = w.laser.data.map Layer.ids) := by
  have hn := renameLayersE_mapV w.heap.cell m w.laser.data
  have hids := renameLayersE_ids m w.laser.data
  unfold hRename renameE
  rw [show (view w).layers = w.laser.data.map (Layer.mapV w.heap.cell) from rfl, hn]
  cases hE : renameLayersE m w.laser.data with
  | error p =>
    obtain ⟨e, ls⟩ := p
    rw [hE] at hids
    -- `ArrOK` speaks of the cells only (`arrsOK_iff`), and the renamed layers occupy the same cells (`hids`)
    obtain ⟨g1, g2, g3⟩ := view_grows (pc := none) hv (Grows.refl _) (arrsOK_iff.2 (hids ▸ arrsOK_iff.1 hv.data_ok))
    exact ⟨⟨congrArg (Res.fail e) g1, g2, g3⟩, hids⟩
  | ok ls =>
    rw [hE] at hids
    have hx := ext_allocDict (some w.laser.cal) w.heap (rebuildDict (w.heap.dict w.laser.cal) m)
    have hdict : (w.heap.allocDict (rebuildDict (w.heap.dict w.laser.cal) m)).2.dict w.heap.dicts.length =
        rebuildDict (w.heap.dict w.laser.cal) m := dict_of_append rfl
    have hval : ∀ e ∈ rebuildDict (w.heap.dict w.laser.cal) m, ∃ e' ∈ w.heap.dict w.laser.cal, e'.2 = e.2 :=
      fun e => rebuildDict_values m _
    obtain ⟨v1, v2⟩ := view_after hv hx (l := ls) (c' := w.heap.dicts.length)
      (arrsOK_iff.2 (hids ▸ arrsOK_iff.1 hv.data_ok)) (by simp [Heap.allocDict])
      (by rw [hdict]; exact fun e hm => by obtain ⟨e', h1, h2⟩ := hval e hm; exact h2 ▸ hv.cal_lt e' h1)
    refine ⟨⟨congrArg Res.ok (v2.trans ?_), v1, ⟨hx, rfl, rfl, Or.inr (Nat.le_refl _), fun e hm => Or.inl (hval e (hdict ▸ hm))⟩⟩, hids⟩
    rw [hdict, viewDict, mapV_rebuildDict]
    rfl

theorem grows_set {h0 h : Heap} (g : Grows h0 h) {i : Nat} (hi : h0.cells.length ≤ i) (v : Nat) :
    Grows h0 { h with cells := h.cells.set i v } :=
  ⟨by rw [List.length_set]; exact g.cells_le, fun j hj => (List.getElem?_set_ne (by omega)).trans (g.cells j hj),
    g.cals, g.cfgs, g.offs, g.dicts⟩

/-- the in-place calibration loop of an all-element read writes only into the cells it is given: if they are new
since `h0`, then for `h0` memory has only grown -/
theorem calibrateCells_spec (d : IdDict) (h0 : Heap) : ∀ (f : List (Name × Nat)) (h : Heap), (f.map (·.2)).Nodup →
    Grows h0 h → (∀ e ∈ f, h0.cells.length ≤ e.2) →
    match calibrateCells d f h with
    | .ok (out, h2) => calibrateAllE (viewDict h d) (mapV h.cell f) = .ok out ∧ Grows h0 h2
    | .error e => calibrateAllE (viewDict h d) (mapV h.cell f) = .error e := by
  intro f
  induction f with
  | nil => exact fun h _ g _ => ⟨rfl, g⟩
  | cons x r ih =>
    intro h hnd g hf
    obtain ⟨hx, hr⟩ := List.nodup_cons.1 hnd
    obtain ⟨hfx, hfr⟩ := List.forall_mem_cons.1 hf
    simp only [calibrateCells, mapV_cons, calibrateAllE, show get? (viewDict h d) x.1 = (get? d x.1).map h.calOf from
      get?_mapV _ _ _]
    cases get? d x.1 with
    | none => rfl
    | some k =>
      simp only [Option.map_some]
      -- the identity calibration writes nothing; any other writes cell `x.2`, which is new since `h0` and no cell of `r`
      -- (`hx`): the three facts about the heap after this column hold in both branches
      generalize hh1 : (if h.calOf k = 0 then h else
        ({ h with cells := h.cells.set x.2 (calTok (h.cell x.2) (h.calOf k)) } : Heap)) = h1
      have h1c : Grows h0 h1 ∧ viewDict h1 d = viewDict h d ∧ mapV h1.cell r = mapV h.cell r := by
        subst hh1
        split
        · exact ⟨g, rfl, rfl⟩
        · exact ⟨grows_set g hfx _, rfl, mapV_congr fun e he => congrArg (·.getD 0)
            (List.getElem?_set_ne fun hh => hx (List.mem_map.2 ⟨e, he, hh.symm⟩))⟩
      obtain ⟨c1, c2, c3⟩ := h1c
      have ih := ih h1 hr c1 hfr
      rw [c2, c3] at ih
      cases hrec : calibrateCells d r h1 with
      | error e => rw [hrec] at ih; simp only [ih]
      | ok q =>
        rw [hrec] at ih
        simp only [ih.1]
        exact ⟨trivial, ih.2⟩

theorem not_returnsView_none (w : World) (c : Bool) : ¬ returnsView w none c := fun ⟨_, _, hn, _⟩ => nomatch hn

theorem returnsView_some_iff (w : World) (n : Name) (c : Bool) :
    returnsView w (some n) c ↔ w.laser.srr = false ∧
      (c = false ∨ (get? (w.heap.dict w.laser.cal) n).map w.heap.calOf = some 0) := by
  simp only [returnsView, Option.some.injEq, exists_eq_left', Option.map_eq_some_iff]

theorem hGet_spec (w : World) (layer : Nat) (t : Option Name) (c : Bool) :
    match hGet w layer t c with
    | .ok (r, h') => readE (view w) layer t c = .ok r.items ∧ Grows w.heap h' ∧
      (returnsView w t c → ∃ a n i, w.laser.data[layer]? = some a ∧ t = some n ∧ get? a.fields n = some i ∧
        r.cells = [(n, i)] ∧ h' = w.heap) ∧
      (¬ returnsView w t c → r.allNew w.heap)
    | .error e => readE (view w) layer t c = .error e := by
  unfold hGet readE
  rw [show (view w).layers[layer]? = (w.laser.data[layer]?).map (viewLayer w.heap) by simp [view, List.getElem?_map]]
  cases ha : w.laser.data[layer]? with
  | none => rfl
  | some a =>
    simp only [Option.map_some]
    cases t with
    | some n =>
      -- the array `data[element]` is taken from: the stored one, or (SRR) a fresh copy
      generalize hr0 : (if w.laser.srr then w.heap.copyArr a else (a, w.heap)) = r0
      have hP : viewLayer r0.2 r0.1 = viewLayer w.heap a ∧ Grows w.heap r0.2 ∧
          (w.laser.srr = true → ∀ e ∈ r0.1.fields, w.heap.cells.length ≤ e.2) ∧
          (w.laser.srr = false → r0 = (a, w.heap)) := by
        subst hr0
        cases w.laser.srr with
        | true => exact ⟨copyArr_view _ _, copyArr_grows _ _, fun _ => copyArr_fresh _ _, nofun⟩
        | false => exact ⟨rfl, Grows.refl _, nofun, fun _ => rfl⟩
      obtain ⟨p1, p2, p3, p4⟩ := hP
      have hget : (get? r0.1.fields n).map r0.2.cell = (get? a.fields n).map w.heap.cell := by
        simpa [viewLayer, get?_mapV] using congrArg (fun l => get? l.fields n) p1
      simp only [readLayerE, show get? (viewLayer w.heap a).fields n = (get? a.fields n).map w.heap.cell from
        get?_mapV _ _ _, ← hget,
        show get? (view w).cal n = (get? (w.heap.dict w.laser.cal) n).map w.heap.calOf from get?_mapV _ _ _]
      cases hi : get? r0.1.fields n with
      | none => rfl
      | some i =>
        -- column `i` of `r0` handed out as it is: the stored column (`Laser`) or a column of the copy (`SRRLaser`).
        -- The premise holds in the two branches that hand out (uncalibrated, identity calibration), each for its own
        -- reason: there `¬ returnsView` leaves only `SRRLaser`, whose column is new
        have handed : (w.laser.srr = false → returnsView w (some n) c) →
            (returnsView w (some n) c → ∃ a' n' i', some a = some a' ∧ some n = some n' ∧ get? a'.fields n' = some i' ∧
              [(n, i)] = [(n', i')] ∧ r0.2 = w.heap) ∧
            (¬ returnsView w (some n) c → ∀ e ∈ [(n, i)], w.heap.cells.length ≤ e.2) := by
          refine fun hback => ⟨fun hrv => ?_, fun hnv e he => ?_⟩
          · have := p4 hrv.1
            subst this
            exact ⟨a, n, i, rfl, rfl, hi, rfl, rfl⟩
          · have hs : w.laser.srr = true := by
              cases h : w.laser.srr with
              | true => rfl
              | false => exact absurd (hback h) hnv
            exact List.mem_singleton.1 he ▸ p3 hs (n, i) (get?_mem hi)
        cases c with
        | false => exact ⟨rfl, p2, handed fun h => (returnsView_some_iff w n _).2 ⟨h, .inl rfl⟩⟩
        | true =>
          simp only [Option.map_some, if_true]
          cases hk : get? (w.heap.dict w.laser.cal) n with
          | none => rfl
          | some k =>
            simp only [Option.map_some, p2.calOf]
            by_cases hc0 : w.heap.calOf k = 0
            · simp only [hc0, if_true]
              exact ⟨trivial, p2, handed fun h => (returnsView_some_iff w n _).2 ⟨h, .inr (by rw [hk, Option.map_some, hc0])⟩⟩
            · simp only [hc0, if_false]
              refine ⟨trivial, p2.trans (grows_append _ _), fun hrv => ?_, fun _ e he => List.mem_singleton.1 he ▸ p2.cells_le⟩
              rcases ((returnsView_some_iff w n _).1 hrv).2 with h1 | h1
              · cases h1
              · rw [hk, Option.map_some, Option.some.injEq] at h1
                exact absurd h1 hc0
    | none =>
      have hcv := copyArr_view w.heap a
      have hcg := copyArr_grows w.heap a
      have hnv := not_returnsView_none w c
      have hfields : mapV (w.heap.copyArr a).2.cell (w.heap.copyArr a).1.fields = (viewLayer w.heap a).fields :=
        congrArg Layer.fields hcv
      cases c with
      | false =>
        simp only [Bool.false_eq_true, if_false, readLayerE]
        refine ⟨?_, hcg, fun hh => absurd hh hnv, fun _ => copyArr_fresh _ _⟩
        rw [← hfields]
        simp [mapV, List.map_map, Function.comp_def]
      | true =>
        have hcc := calibrateCells_spec (w.heap.dict w.laser.cal) w.heap (w.heap.copyArr a).1.fields (w.heap.copyArr a).2
          ((copyArr_ids w.heap a).symm ▸ List.nodup_range' : (w.heap.copyArr a).1.ids.Nodup) hcg (copyArr_fresh _ _)
        rw [show viewDict (w.heap.copyArr a).2 (w.heap.dict w.laser.cal) = (view w).cal from
          viewDict_congr (fun e _ => hcg.calOf e.2), hfields] at hcc
        cases hr : calibrateCells (w.heap.dict w.laser.cal) (w.heap.copyArr a).1.fields (w.heap.copyArr a).2 with
        | error e => rw [hr] at hcc; exact hcc
        | ok q =>
          rw [hr] at hcc
          exact ⟨hcc.1, hcc.2, fun hh => absurd hh hnv, fun _ => copyArr_fresh _ _⟩

theorem hstep_spec (w : World) (hv : Valid w) (op : HOp) (ha : ArgsOK w.heap op) (hc : op.isCall = true) :
    Simulates op.passed w (hstep w op) (stepE (view w) (absOp w.heap op)) := by
  cases op with
  | add n xs cal => exact (hAdd_spec w hv n xs cal ha.1 ha.2).1
  | remove ns => exact (hRemove_spec w hv ns).1
  | rename m => exact (hRename_spec w hv m).1
  | get layer t c =>
    have hg := hGet_spec w layer t c
    simp only [hstep, stepE, absOp, HOp.passed]
    cases hr : hGet w layer t c with
    | error e =>
      rw [hr] at hg
      obtain ⟨_, g2, g3⟩ := view_grows (pc := none) hv (Grows.refl _) hv.data_ok
      simp only [hg]
      exact ⟨rfl, g2, g3⟩
    | ok q =>
      rw [hr] at hg
      obtain ⟨h1, h2, _, _⟩ := hg
      obtain ⟨g1, g2, g3⟩ := view_grows (pc := none) hv h2 (fun a ha => (hv.data_ok a ha).mono h2.ext)
      simp only [h1]
      exact ⟨congrArg Res.ok (g1.trans (by rw [h2.ext.viewLayers hv.data_ok]; rfl)), g2, g3⟩
  | _ => cases hc

theorem Sep.of_keeps {F : Foreign} {pc : Option Nat} {w w' : World} (hs : Sep F w) (hk : Keeps pc w w')
    (hpc : ∀ k, pc = some k → k ∉ F.cals) : Sep F w' := by
  obtain ⟨b1, b2, b3, s1, s2, s3⟩ := hs
  refine ⟨fun k hm => Nat.lt_of_lt_of_le (b1 k hm) hk.ext.cals_le, fun k hm => Nat.lt_of_lt_of_le (b2 k hm) hk.ext.dicts_le,
    fun k hm => Nat.lt_of_lt_of_le (b3 k hm) hk.ext.cfgs_le, ?_, ?_, by rw [hk.cfg]; exact s3⟩
  · rcases hk.cal with h | h
    · rw [h]; exact s1
    · exact fun hm => Nat.lt_irrefl _ (Nat.lt_of_lt_of_le (b2 _ hm) h)
  · intro e he hm
    rcases hk.vals e he with ⟨e', he', h1⟩ | h1 | h1
    · exact s2 e' he' (h1 ▸ hm)
    · exact Nat.lt_irrefl _ (Nat.lt_of_lt_of_le (b1 _ hm) h1)
    · exact hpc _ h1 hm

/-- memory the history started with: its cells, and its `Calibration` objects other than the foreign ones,
still hold what they held -/
def Stable (F : Foreign) (h0 h : Heap) : Prop :=
  h0.cells.length ≤ h.cells.length ∧ (∀ i, i < h0.cells.length → h.cell i = h0.cell i) ∧
  h0.cals.length ≤ h.cals.length ∧ (∀ k, k < h0.cals.length → k ∉ F.cals → h.calOf k = h0.calOf k)

theorem Stable.of_ext {F : Foreign} {h0 h h' : Heap} {d : Option Nat} (hs : Stable F h0 h) (he : Ext d h h') :
    Stable F h0 h' := by
  obtain ⟨a1, a2, a3, a4⟩ := hs
  exact ⟨Nat.le_trans a1 he.cells_le, fun i hi => (he.cell (Nat.lt_of_lt_of_le hi a1)).trans (a2 i hi),
    Nat.le_trans a3 he.cals_le, fun k hk hn => (he.calOf (Nat.lt_of_lt_of_le hk a3)).trans (a4 k hk hn)⟩

theorem Stable.refl (F : Foreign) (h : Heap) : Stable F h h :=
  ⟨Nat.le_refl _, fun _ _ => rfl, Nat.le_refl _, fun _ _ _ => rfl⟩

theorem Allowed.argsOK {F : Foreign} {h0 h : Heap} {op : HOp} (hs : Stable F h0 h) (ha : Allowed F h0 op) :
    ArgsOK h op := by
  cases op with
  | add n xs cal =>
    exact ⟨fun x hx => Nat.lt_of_lt_of_le (ha.1 x hx) hs.1, fun k hk => Nat.lt_of_lt_of_le (ha.2 k hk).1 hs.2.2.1⟩
  | _ => trivial

theorem Allowed.absOp_eq {F : Foreign} {h0 h : Heap} {op : HOp} (hs : Stable F h0 h) (ha : Allowed F h0 op) :
    absOp h op = absOp h0 op := by
  cases op with
  | add n xs cal =>
    simp only [absOp]
    congr 1
    · apply List.map_congr_left
      intro x hx
      rw [hs.2.1 x.2 (ha.1 x hx)]
    · cases cal with
      | none => rfl
      | some k =>
        obtain ⟨h1, h2⟩ := ha.2 k rfl
        simp only [Option.map_some, Option.getD_some]
        exact hs.2.2.2 k h1 h2
  | _ => rfl

theorem absOp_of_not_call (h : Heap) {op : HOp} (hc : op.isCall = false) : absOp h op = .callerEdit := by
  cases op <;> first | rfl | cases hc

theorem Allowed.passed_not_foreign {F : Foreign} {h0 : Heap} {op : HOp} (ha : Allowed F h0 op) :
    ∀ k, op.passed = some k → k ∉ F.cals := by
  cases op with
  | add n xs cal => exact fun k hk => (ha.2 k hk).2
  | _ => intro k hk; simp [HOp.passed] at hk

theorem hstep_edit (w : World) (op : HOp) (hc : op.isCall = false) :
    hstep w op = .ok { w with heap := w.heap.edit op } := by
  cases op <;> first | rfl | cases hc

theorem hstep_writeCell (w : World) (i v : Nat) :
    (hstep w (.writeCell i v)).state = ⟨{ w.heap with cells := w.heap.cells.set i v }, w.laser⟩ := rfl

theorem hstep_setCal (w : World) (k c : Nat) :
    (hstep w (.setCal k c)).state = ⟨{ w.heap with cals := w.heap.cals.set k c }, w.laser⟩ := rfl

theorem edit_spec {F : Foreign} {h0 : Heap} (h : Heap) {op : HOp} (ha : Allowed F h0 op) (hc : op.isCall = false) :
    (h.edit op).cells = h.cells ∧ (h.edit op).cals.length = h.cals.length ∧
    (h.edit op).cfgs.length = h.cfgs.length ∧ (h.edit op).dicts.length = h.dicts.length ∧
    (∀ k, k ∉ F.cals → (h.edit op).calOf k = h.calOf k) ∧ (∀ k, k ∉ F.cfgs → (h.edit op).cfgOf k = h.cfgOf k) ∧
    (∀ k, k ∉ F.dicts → (h.edit op).dict k = h.dict k) := by
  have ne : ∀ {k j : Nat} {l : List Nat}, k ∈ l → j ∉ l → k ≠ j := fun hk hj e => hj (e ▸ hk)
  cases op with
  | setCal k c =>
    exact ⟨rfl, List.length_set, rfl, rfl, fun j hj => congrArg (·.getD 0) (List.getElem?_set_ne (ne ha hj)),
      fun _ _ => rfl, fun _ _ => rfl⟩
  | setCfg k c =>
    exact ⟨rfl, rfl, List.length_set, rfl, fun _ _ => rfl,
      fun j hj => congrArg (fun o : Option Cfg => o.getD ⟨0, none⟩) (List.getElem?_set_ne (ne ha hj)), fun _ _ => rfl⟩
  | setOffsets k c =>
    exact ⟨rfl, rfl, List.length_set, rfl, fun _ _ => rfl,
      fun j hj => congrArg (fun o : Option Cfg => o.getD ⟨0, none⟩) (List.getElem?_set_ne (ne ha hj)), fun _ _ => rfl⟩
  | writeOffsets o c => exact ⟨rfl, rfl, rfl, rfl, fun _ _ => rfl, fun _ _ => rfl, fun _ _ => rfl⟩
  | setDict k D =>
    exact ⟨rfl, rfl, rfl, List.length_set, fun _ _ => rfl, fun _ _ => rfl,
      fun j hj => congrArg (fun o : Option IdDict => o.getD []) (List.getElem?_set_ne (ne ha hj))⟩
  | writeCell i c => exact ha.elim
  | _ => cases hc

theorem stable_edit {F : Foreign} {h0 h : Heap} {op : HOp} (hs : Stable F h0 h) (ha : Allowed F h0 op)
    (hc : op.isCall = false) : Stable F h0 (h.edit op) := by
  obtain ⟨e1, e2, _, _, e5, _, _⟩ := edit_spec h ha hc
  obtain ⟨a1, a2, a3, a4⟩ := hs
  refine ⟨e1 ▸ a1, fun i hi => ?_, e2 ▸ a3, fun k hk hn => (e5 k hn).trans (a4 k hk hn)⟩
  exact (cell_congr e1 i).trans (a2 i hi)

theorem foreign_edit {F : Foreign} {h0 : Heap} {w : World} (hv : Valid w) (hs : Sep F w) {op : HOp}
    (ha : Allowed F h0 op) (hc : op.isCall = false) :
    view ⟨w.heap.edit op, w.laser⟩ = view w ∧ Valid ⟨w.heap.edit op, w.laser⟩ ∧ Sep F ⟨w.heap.edit op, w.laser⟩ := by
  obtain ⟨e1, e2, e3, e4, e5, e6, e7⟩ := edit_spec w.heap ha hc
  obtain ⟨b1, b2, b3, s1, s2, s3⟩ := hs
  have hd : (w.heap.edit op).dict w.laser.cal = w.heap.dict w.laser.cal := e7 _ s1
  refine ⟨State.ext' rfl ?_ ?_ (congrArg Cfg.scal (e6 _ s3)), ⟨e4 ▸ hv.dict_lt, ?_, e3 ▸ hv.cfg_lt, ?_⟩,
    e2 ▸ b1, e4 ▸ b2, e3 ▸ b3, s1, ?_, s3⟩
  · exact congrArg (fun f => w.laser.data.map f) (viewLayer_congr e1)
  · show viewDict _ (Heap.dict _ _) = _
    rw [hd]
    exact viewDict_congr fun e he => e5 _ (s2 e he)
  · rw [hd, e2]
    exact hv.cal_lt
  · rw [e1]
    exact hv.data_ok
  · rw [hd]
    exact s2

structure Tracked (F : Foreign) (h0 : Heap) (w : World) : Prop where
  valid : Valid w
  sep : Sep F w
  stable : Stable F h0 w.heap

/-- `absOp h0`, not `absOp w.heap`: the arguments still hold what they held at `h0` (`Allowed.absOp_eq`) -/
theorem hstep_tracked {F : Foreign} {h0 : Heap} {w w1 : World} {op : HOp} (t : Tracked F h0 w)
    (ha : Allowed F h0 op) (hs : hstep w op = .ok w1) :
    step (view w) (absOp h0 op) = some (view w1) ∧ Tracked F h0 w1 := by
  cases hc : op.isCall with
  | true =>
    obtain ⟨h1, h2, hk⟩ := hstep_spec w t.valid op (Allowed.argsOK t.stable ha) hc
    rw [Allowed.absOp_eq t.stable ha, hs] at h1
    rw [hs] at h2 hk
    exact ⟨by rw [← stepE_toOption, ← h1]; rfl,
      h2, t.sep.of_keeps hk (Allowed.passed_not_foreign ha), t.stable.of_ext hk.ext⟩
  | false =>
    obtain ⟨e2, e4, e5⟩ := foreign_edit t.valid t.sep ha hc
    cases (hstep_edit w op hc).symm.trans hs
    rw [absOp_of_not_call h0 hc, e2]
    exact ⟨rfl, e4, e5, stable_edit t.stable ha hc⟩

theorem history_view_from (F : Foreign) (h0 : Heap) : ∀ (ops : List HOp) (w w' : World), Tracked F h0 w →
    (∀ op ∈ ops, Allowed F h0 op) → hrun w ops = some w' →
    run (view w) (ops.map (absOp h0)) = some (view w') ∧ Tracked F h0 w'
  | [], w, w', t, _, hr => by cases hr; exact ⟨rfl, t⟩
  | op :: r, w, w', t, hall, hr => by
    rw [hrun] at hr
    cases hs : hstep w op with
    | fail e w1 => rw [hs] at hr; cases hr
    | ok w1 =>
      rw [hs] at hr
      obtain ⟨h1, t1⟩ := hstep_tracked t (hall op List.mem_cons_self) hs
      rw [List.map_cons, run, h1]
      exact history_view_from F h0 r w1 w' t1 (fun o ho => hall o (List.mem_cons_of_mem _ ho)) hr

end Pew.LaserEdit
