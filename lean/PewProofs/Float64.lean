import PewProofs.Rounding
import Mathlib.Tactic.Positivity

/-! `fl`, the nearest float64 (`PewModel/Srr.lean`): relative error `2⁻⁵³`, sign -/
namespace Pew

theorem scale2_eq_div_zpow (a : Rat) (k : Int) : scale2 a k = a / (2 : ℚ) ^ k := by
  rw [← natPow_ite_eq_zpow]
  unfold scale2
  split
  · rfl
  · rw [div_div_eq_mul_div, div_one]

/-- the rounding step of `fl` after scaling: the significand `a·s` is at least `2⁵²`, `n` is within 1/2 of it, and
scaling back by `s' = 1/s` leaves a relative error of `2⁻⁵³` -/
theorem scaled_round_err {a s s' n : Rat} (hs' : 0 < s') (hinv : s * s' = 1) (h52 : 2 ^ 52 ≤ a * s)
    (herr : |n - a * s| ≤ 1 / 2) : |n * s' - a| ≤ a / 2 ^ 53 := by
  have e : n * s' - a = (n - a * s) * s' := by rw [sub_mul, mul_assoc, hinv, mul_one]
  have h : s' ≤ a / 2 ^ 52 := by
    rw [le_div_iff₀ (by norm_num)]
    calc s' * 2 ^ 52 ≤ s' * (a * s) := mul_le_mul_of_nonneg_left h52 hs'.le
      _ = a := by rw [mul_comm a, ← mul_assoc, mul_comm s', hinv, one_mul]
  rw [e, abs_mul, abs_of_pos hs']
  calc |n - a * s| * s' ≤ 1 / 2 * (a / 2 ^ 52) := mul_le_mul herr h hs'.le (by norm_num)
    _ = a / 2 ^ 53 := by ring

theorem fl_relerr (x : Rat) : |fl x - x| ≤ |x| / 2 ^ 53 := by
  unfold fl
  by_cases hx : x = 0
  · simp [hx]
  rw [if_neg hx]
  extract_lets a e0 e k q r
  have habs : a = |x| := by
    simp only [a]
    split_ifs with h
    · exact (abs_of_neg h).symm
    · exact (abs_of_nonneg (not_lt.mp h)).symm
  -- how the exponent `k` was found plays no part: a significand in [2⁵², 2⁵³) gives `scaled_round_err`, otherwise `fl x = x`
  clear_value k
  simp only [r, q, habs, scale2_eq_div_zpow, zpow_neg, div_inv_eq_mul, div_eq_mul_inv |x|]
  have hp : (0 : ℚ) < 2 ^ k := zpow_pos two_pos k
  split
  · rename_i hq
    have hb := scaled_round_err hp (inv_mul_cancel₀ hp.ne') (le_of_eq_of_le (by norm_num) hq.1)
      (roundHalfEven_err (|x| * (2 ^ k)⁻¹))
    split_ifs with hneg
    · rw [abs_of_neg hneg] at *
      rwa [← abs_neg, neg_sub', neg_neg]
    · rwa [abs_of_nonneg (not_lt.mp hneg)] at *
  · simp only [sub_self, abs_zero]
    positivity

theorem fl_zero : fl 0 = 0 := by simp [fl]

theorem fl_pos (x : Rat) (hx : 0 < x) : 0 < fl x := by
  have h := (abs_le.mp (fl_relerr x)).1
  rw [abs_of_pos hx] at h
  linarith [div_lt_self hx (by norm_num : (1 : Rat) < 2 ^ 53)]

theorem fl_neg_iff (x : Rat) : fl x < 0 ↔ x < 0 := by
  constructor
  · intro hf
    by_contra hx
    rcases eq_or_lt_of_le (not_lt.mp hx) with rfl | hx
    · rw [fl_zero] at hf; exact lt_irrefl _ hf
    · exact lt_asymm hf (fl_pos x hx)
  · intro hx
    have h := (abs_le.mp (fl_relerr x)).2
    rw [abs_of_neg hx] at h
    linarith [div_lt_self (neg_pos.mpr hx) (by norm_num : (1 : Rat) < 2 ^ 53)]

end Pew
