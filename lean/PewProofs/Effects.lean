import PewModel.Effects
import PewProofs.Lists

/-! # C19 — the relation between concrete and abstract states, and the lemmas under `sound`

Abstraction of an object is its first component (parameter index, or `np +` allocation site).  An abstract state with
`top = true` stands for every concrete state, so what is covered is said of the other states only.
`Rel` / `WRel` are that relation, `Le` the order on abstract states under which both are monotone.  A raise anywhere leaves a
state that the analysis of the WHOLE statement must cover: `WRel.ana` (the analysis only adds to `w`, `r`, `heap`) is what pays
for it. -/
namespace Pew.Effects

def absE (e : Edge) : AEdge := (e.1.1, e.2.1, e.2.2.1)

structure WCov (np : Nat) (σ : St) (a : A) : Prop where
  w : ∀ o ∈ σ.written, o.1 < np → o.1 ∈ a.w
  r : ∀ o ∈ σ.returned, o.1 ∈ a.r
  heap : ∀ e ∈ σ.heap, absE e ∈ a.heap

structure Cov (np : Nat) (σ : St) (a : A) : Prop extends WCov np σ a where
  env : ∀ x o, σ.env x = some o → o.1 ∈ a.raw x
  objs : ∀ o ∈ σ.objs, o.1 ∈ a.alloc

/-- the part of the relation that holds whether or not the execution completed (the analysis never forgets it) -/
def WRel (np : Nat) (σ : St) (a : A) : Prop := a.top = false → WCov np σ a

def Rel (np : Nat) (σ : St) (a : A) : Prop := a.top = false → Cov np σ a

theorem Rel.wrel {np σ a} (h : Rel np σ a) : WRel np σ a := fun ht => (h ht).toWCov

theorem Rel.top {np σ} : Rel np σ topA := nofun

theorem WRel.congr {np σ} {a b : A} (h : WRel np σ a) (ht : b.top = a.top) (hw : b.w = a.w) (hr : b.r = a.r)
    (hh : b.heap = a.heap) : WRel np σ b := fun hb =>
  have c := h (ht ▸ hb)
  ⟨hw ▸ c.w, hr ▸ c.r, hh ▸ c.heap⟩

theorem mem_dedup {α : Type} [BEq α] [LawfulBEq α] {l m : List α} {x : α} : x ∈ (l ++ m).eraseDups ↔ x ∈ l ∨ x ∈ m := by
  rw [List.mem_eraseDups, List.mem_append]

theorem mem_insertNat {k x : Nat} {l : List Nat} : x ∈ insertNat k l ↔ x = k ∨ x ∈ l := by
  unfold insertNat
  split
  · next h => exact ⟨.inr, fun h' => h'.elim (fun e => e ▸ List.contains_iff_mem.mp h) id⟩
  · exact List.mem_cons

theorem mem_unionL {α : Type} [BEq α] [LawfulBEq α] {a b : List α} {x : α} : x ∈ unionL a b ↔ x ∈ a ∨ x ∈ b := by
  unfold unionL
  rw [List.mem_append, List.mem_filter]
  refine ⟨Or.imp_right And.left, fun h => ?_⟩
  by_cases ha : x ∈ a
  · exact .inl ha
  · exact h.imp_right fun hb => ⟨hb, by simpa using ha⟩

theorem lookup_filter {β : Type} (p : Var → Bool) {y : Var} (hy : p y = true) (l : List (Var × β)) :
    (l.filter (fun q => p q.1)).lookup y = l.lookup y := by
  induction l with
  | nil => rfl
  | cons q r ih =>
    obtain ⟨z, v⟩ := q
    cases hz : p z with
    | true => simp only [List.filter_cons, hz, if_true, List.lookup_cons, ih]
    | false =>
      have hyz : (y == z) = false := beq_false_of_ne fun e => by rw [e, hz] at hy; cases hy
      simp only [List.filter_cons, hz, Bool.false_eq_true, if_false, List.lookup_cons, hyz, ih]

theorem raw_set_self (a : A) (x : Var) (ps : List Nat) : (a.set x ps).raw x = ps.eraseDups := by
  simp only [A.raw, A.set, List.lookup_cons_self, Option.getD_some]

theorem raw_set_ne (a : A) {x y : Var} (ps : List Nat) (h : y ≠ x) : (a.set x ps).raw y = a.raw y := by
  unfold A.raw A.set
  rw [List.lookup_cons, beq_false_of_ne h, lookup_filter (· != x) (bne_iff_ne.mpr h)]

theorem raw_kill (np : Nat) (a : A) {xs : List Var} {y : Var} (h : xs.contains y = false) :
    (ana np (.kill xs) a).raw y = a.raw y :=
  congrArg (·.getD []) (lookup_filter (fun v => !xs.contains v) (by rw [h]; rfl) a.env)

theorem raw_mem_vars {a : A} {x : Var} {o : Nat} (h : o ∈ a.raw x) : x ∈ a.vars := by
  apply Decidable.byContradiction
  intro hx
  have : a.env.lookup x = none :=
    List.lookup_eq_none_iff.mpr fun p hp => bne_iff_ne.mpr fun e => hx (e ▸ List.mem_map_of_mem hp)
  rw [A.raw, this] at h
  cases h

theorem raw_join {a b : A} {x : Var} {o : Nat} (h : o ∈ a.raw x ∨ o ∈ b.raw x) : o ∈ (joinA a b).raw x := by
  have hx : x ∈ (a.vars ++ b.vars).eraseDups := mem_dedup.mpr (h.imp raw_mem_vars raw_mem_vars)
  unfold A.raw joinA
  rw [Lists.lookup_map_self, if_pos hx, Option.getD_some, mem_dedup]
  exact h

structure Incl (a b : A) : Prop where
  top : a.top = false
  env : ∀ x, a.raw x ⊆ b.raw x
  alloc : a.alloc ⊆ b.alloc
  w : a.w ⊆ b.w
  r : a.r ⊆ b.r
  heap : a.heap ⊆ b.heap

def Le (a b : A) : Prop := b.top = false → Incl a b

theorem WRel.mono {np σ} {a b : A} (h : WRel np σ a) (hab : Le a b) : WRel np σ b := fun ht =>
  have s := hab ht
  have c := h s.top
  ⟨fun o ho hp => s.w (c.w o ho hp), fun o ho => s.r (c.r o ho), fun e he => s.heap (c.heap e he)⟩

theorem Rel.mono {np σ} {a b : A} (h : Rel np σ a) (hab : Le a b) : Rel np σ b := fun ht =>
  have s := hab ht
  have c := h s.top
  { toWCov := h.wrel.mono hab ht
    env := fun x o hx => s.env x (c.env x o hx)
    objs := fun o ho => s.alloc (c.objs o ho) }

theorem Le.alloc (k : Nat) (a : A) : Le a { a with alloc := insertNat k a.alloc } := fun ht =>
  ⟨ht, fun _ _ h => h, fun _ h => mem_insertNat.mpr (.inr h), fun _ h => h, fun _ h => h, fun _ h => h⟩

theorem Le.join_left (a b : A) : Le a (joinA a b) := fun ht =>
  ⟨(Bool.or_eq_false_iff.mp ht).1, fun _ _ h => raw_join (.inl h), fun _ h => mem_unionL.mpr (.inl h),
   fun _ h => mem_unionL.mpr (.inl h), fun _ h => mem_unionL.mpr (.inl h), fun _ h => mem_unionL.mpr (.inl h)⟩

theorem Le.join_right (a b : A) : Le b (joinA a b) := fun ht =>
  ⟨(Bool.or_eq_false_iff.mp ht).2, fun _ _ h => raw_join (.inr h), fun _ h => mem_unionL.mpr (.inr h),
   fun _ h => mem_unionL.mpr (.inr h), fun _ h => mem_unionL.mpr (.inr h), fun _ h => mem_unionL.mpr (.inr h)⟩

theorem Le.of_leA {a b : A} (h : leA a b = true) : Le a b := by
  intro ht
  simp only [leA, ht, Bool.false_or, Bool.and_eq_true, Bool.not_eq_eq_eq_not, List.all_eq_true,
    List.contains_iff_mem] at h
  obtain ⟨⟨⟨⟨⟨hat, hv⟩, hh⟩, hk⟩, hw⟩, hr⟩ := h
  exact ⟨hat, fun x o ho => hv x (raw_mem_vars ho) o ho, hk, hw, hr, hh⟩

theorem mem_targets {h : List AEdge} {os : List Nat} {l l' : Lbl} {o o' : Nat}
    (he : (o, l', o') ∈ h) (ho : o ∈ os) (hl : lmatch l l' = true) : o' ∈ targets h os l := by
  unfold targets
  rw [List.mem_filterMap]
  exact ⟨(o, l', o'), he, by simp [ho, hl]⟩

theorem mem_succs {h : List AEdge} {os : List Nat} {l : Lbl} {o o' : Nat}
    (he : (o, l, o') ∈ h) (ho : o ∈ os) : o' ∈ succs h os := by
  unfold succs
  rw [List.mem_filterMap]
  exact ⟨(o, l, o'), he, by simp [ho]⟩

theorem subset_closeN (h : List AEdge) (n : Nat) : ∀ {os : List Nat}, os ⊆ closeN h n os := by
  induction n with
  | zero => exact id
  | succ n ih =>
    intro os o ho
    have hm : o ∈ (os ++ succs h os).eraseDups := mem_dedup.mpr (.inl ho)
    rw [closeN]
    split
    · exact hm
    · exact ih hm

theorem closed_step {h : List AEdge} {c : List Nat} (hc : closedB h c = true) {o o' : Nat} {l : Lbl}
    (he : (o, l, o') ∈ h) (ho : o ∈ c) : o' ∈ c := by
  have := List.all_eq_true.mp hc (o, l, o') he
  simpa [ho] using this

theorem reach_closed {σ : St} {h : List AEdge} {c : List Nat} (hh : ∀ e ∈ σ.heap, absE e ∈ h)
    (hc : closedB h c = true) {o o' : Obj} (hr : Reach σ.heap o o') : o.1 ∈ c → o'.1 ∈ c := by
  induction hr with
  | refl o => exact id
  | step o l o₁ o₂ he _ ih => exact fun ho => ih (closed_step hc (hh _ he) ho)

theorem not_mem_report {np p : Nat} {a : A} (hp : p < np) (h : p ∉ a.report np) : a.top = false ∧ p ∉ a.w := by
  unfold A.report at h
  split at h
  · exact absurd (List.mem_range.mpr hp) h
  · next ht => exact ⟨Bool.eq_false_iff.mpr ht, h⟩

theorem not_mem_reportRet {np p : Nat} {a : A} (hp : p < np) (h : p ∉ a.reportRet np) :
    a.top = false ∧ ∃ c, p ∈ c ∧ closedB a.heap c = true ∧ ∀ o ∈ a.r, o ∉ c := by
  unfold A.reportRet at h
  split at h
  · exact absurd (List.mem_range.mpr hp) h
  · next ht =>
    have hf : a.reachesRet p = false :=
      Bool.eq_false_iff.mpr fun hq => h (List.mem_filter.mpr ⟨List.mem_range.mpr hp, hq⟩)
    simp only [A.reachesRet, Bool.or_eq_false_iff, Bool.not_eq_eq_eq_not, List.any_eq_false,
      List.contains_iff_mem] at hf
    exact ⟨Bool.eq_false_iff.mpr ht, _, subset_closeN _ _ (.head _), hf.1, hf.2⟩

/-! ### the two searches of `ana`: all that soundness uses of `closeN` and `iter` is that their result is checked -/

theorem ana_reach_cases (np : Nat) (x : Var) (ys : List Var) (a : A) :
    ana np (.bind x (.reach ys)) a = topA ∨
      ∃ c, closedB a.heap c = true ∧ ys.flatMap a.raw ⊆ c ∧ ana np (.bind x (.reach ys)) a = a.set x c := by
  by_cases hc : closedB a.heap (closeN a.heap (a.heap.length + 1) (ys.flatMap a.raw).eraseDups) = true
  · exact .inr ⟨_, hc, fun o ho => subset_closeN _ _ (List.mem_eraseDups.mpr ho), if_pos hc⟩
  · exact .inl (if_neg hc)

theorem ana_loop_cases (np : Nat) (b : Stmt) (a : A) :
    ana np (.loop b) a = topA ∨
      ∃ a', leA (ana np b a') a' = true ∧ leA a a' = true ∧ ana np (.loop b) a = a' := by
  rw [ana]
  cases iter (ana np b) 12 a with
  | none => exact .inl rfl
  | some a' =>
    by_cases hc : (leA (ana np b a') a' && leA a a') = true
    · exact .inr ⟨a', (Bool.and_eq_true_iff.mp hc).1, (Bool.and_eq_true_iff.mp hc).2, if_pos hc⟩
    · exact .inl (if_neg hc)

/-! ### `ana` never forgets a possibly-written parameter, a possibly-returned object or a heap edge -/

theorem WRel.ana (np : Nat) (s : Stmt) {σ : St} : ∀ {a : A}, WRel np σ a → WRel np σ (ana np s a) := by
  induction s with
  | skip => exact id
  | kill xs => exact fun h => h.congr rfl rfl rfl rfl
  | bind x src =>
    intro a h
    cases src with
    | reach ys =>
      rcases ana_reach_cases np x ys a with e | ⟨c, _, _, e⟩ <;> rw [e]
      · exact Rel.top.wrel
      · exact h.congr rfl rfl rfl rfl
    | _ => exact h.congr rfl rfl rfl rfl
  | write x =>
    exact fun h ht => { h ht with w := fun o ho hp => mem_dedup.mpr (.inr ((h ht).w o ho hp)) }
  | ret x =>
    exact fun h ht => { h ht with r := fun o ho => mem_dedup.mpr (.inr ((h ht).r o ho)) }
  | store x l y =>
    exact fun h ht => { h ht with heap := fun e he => mem_dedup.mpr (.inr ((h ht).heap e he)) }
  | seq s t ihs iht => exact fun h => iht (ihs h)
  | branch s t ihs _ => exact fun h => (ihs h).mono (Le.join_left _ _)
  | loop b _ =>
    intro a h
    rcases ana_loop_cases np b a with e | ⟨a', _, hle, e⟩ <;> rw [e]
    · exact Rel.top.wrel
    · exact h.mono (Le.of_leA hle)

/-- the conclusion of `sound` — completed: `Rel`; completed or raised: `WRel` — for a state known to be related -/
theorem Rel.done {np σ a} {d : Bool} (h : Rel np σ a) : (d = true → Rel np σ a) ∧ WRel np σ a := ⟨fun _ => h, h.wrel⟩

theorem Rel.raised {np σ a} (h : Rel np σ a) (s : Stmt) :
    (false = true → Rel np σ (ana np s a)) ∧ WRel np σ (ana np s a) := ⟨nofun, WRel.ana np s h.wrel⟩

theorem Cov.mem_roots {np σ a} (c : Cov np σ a) {ys : List Var} {y : Var} {o : Obj} (hy : y ∈ ys)
    (ho : σ.env y = some o) : o.1 ∈ ys.flatMap a.raw := List.mem_flatMap.mpr ⟨y, hy, c.env y o ho⟩

theorem Rel.bind {np σ a} {x : Var} {o : Obj} {ps : List Nat} (h : Rel np σ a) (ho : a.top = false → o.1 ∈ ps) :
    Rel np { σ with env := upd σ.env x o } (a.set x ps) := by
  refine fun ht => { h ht with env := fun y o' hy => ?_ }
  by_cases hyx : y = x
  · cases (if_pos hyx).symm.trans hy
    rw [hyx, raw_set_self]
    exact List.mem_eraseDups.mpr (ho ht)
  · rw [raw_set_ne a ps hyx]
    exact (h ht).env y o' ((if_neg hyx).symm.trans hy)

theorem Rel.alloc {np σ a} {x : Var} {k : Nat} {ps : List Nat} (h : Rel np σ a) (hk : k ∈ ps) :
    Rel np { σ with env := upd σ.env x (k, σ.next), next := σ.next + 1, objs := (k, σ.next) :: σ.objs }
      { a.set x ps with alloc := insertNat k a.alloc } := fun ht =>
  have c := (h.bind (x := x) (o := (k, σ.next)) fun _ => hk).mono (Le.alloc k _) ht
  { c with objs := List.forall_mem_cons.mpr ⟨mem_insertNat.mpr (.inl rfl), c.objs⟩ }

/-- `P` holds between iterations, `Q` whenever the loop is left, also by a raise -/
theorem loop_inv (np : Nat) (b : Stmt) (P Q : St → Prop)
    (hbody : ∀ σ σ₁, P σ → Exec np b σ true σ₁ → P σ₁)
    (hraise : ∀ σ σ₁, P σ → Exec np b σ false σ₁ → Q σ₁)
    (hPQ : ∀ σ, P σ → Q σ) :
    ∀ σ d σ', Exec np (.loop b) σ d σ' → P σ → (d = true → P σ') ∧ Q σ' := by
  intro σ d σ' h
  generalize hs : Stmt.loop b = s at h
  induction h with
  | raise s σ => exact fun hp => ⟨nofun, hPQ _ hp⟩
  | loopDone b' σ => exact fun hp => ⟨fun _ => hp, hPQ _ hp⟩
  | loopStep b' σ σ₁ d σ₂ h1 _ _ ih2 =>
    cases hs
    exact fun hp => ih2 rfl (hbody _ _ hp h1)
  | loopRaise b' σ σ₁ h1 =>
    cases hs
    exact fun hp => ⟨nofun, hraise _ _ hp h1⟩
  | _ => cases hs

/-! ## call histories and `retProg` are executions -/

theorem exec_choice {np : Nat} {ms : List Stmt} {m : Stmt} (hm : m ∈ ms) {σ σ' : St} {d : Bool}
    (h : Exec np m σ d σ') : Exec np (choice ms) σ d σ' := by
  induction hm with
  | head r => exact .branchL _ _ _ _ _ h
  | tail a _ ih => exact .branchR _ _ _ _ _ ih

theorem calls_exec {np : Nat} {ms : List Stmt} {σ σ' : St} {d : Bool} (h : Calls np ms σ d σ') :
    Exec np (.loop (choice ms)) σ d σ' := by
  induction h with
  | done σ => exact .loopDone _ _
  | call m σ σ₁ d σ₂ hm h1 _ ih => exact .loopStep _ _ _ _ _ (exec_choice hm h1) ih
  | raised m σ σ₁ hm h1 => exact .loopRaise _ _ _ (exec_choice hm h1)

theorem hist_exec {np : Nat} {c : Stmt} {ms : List Stmt} {σ σ' : St} {d : Bool} (h : Hist np c ms σ d σ') :
    Exec np (history c ms) σ d σ' := by
  cases h
  next h1 => exact .seqRaise _ _ _ _ h1
  next σ₁ h1 h2 => exact .seq _ _ _ _ _ _ h1 (calls_exec h2)

theorem exec_retProg {np : Nat} {c : Stmt} {x t : Var} {σ σ₁ : St} {o o' : Obj} (hc : Exec np c σ true σ₁)
    (hx : σ₁.env x = some o) (hr : Reach σ₁.heap o o') :
    ∃ σ₂, Exec np (retProg c x t) σ true σ₂ ∧ o' ∈ σ₂.returned :=
  ⟨_, .seq _ _ _ _ _ _ hc (.seq _ _ _ _ _ _ (.bindReach t [x] x o o' σ₁ (.head _) hx hr) (.ret t o' _ (if_pos rfl))),
    .head _⟩

end Pew.Effects
