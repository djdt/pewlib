import PewModel.Filters
import PewProofs.Lists
import Mathlib.Tactic.Linarith
import Mathlib.Algebra.Order.BigOperators.Group.List

/-! Lemmas about the mechanism of `PewModel.Filters`.  The window of a padded line (`slice i (2h+1) (pad1 π h x)`) is
the one notion with lemmas of its own in one dimension; the window of a padded image (`win2`) takes them along a row
and then along a column.  The filters are treated for images only — every stage is `mapIdx2` over the pixels — and
a line is the image of one row.  The pad statistics are parameters throughout, `meanCells*`
and `medianCells*` being the instances `mean`, `median` by `rfl`. -/
namespace Pew.Filters

theorem half_odd (h : Nat) : (2 * h + 1) / 2 = h := by omega

theorem slice_length {α} (i b : Nat) (l : List α) : (slice i b l).length = min b (l.length - i) := by
  simp [slice]

theorem getElem?_slice {α} (i b k : Nat) (l : List α) :
    (slice i b l)[k]? = if k < b then l[i + k]? else none :=
  Lists.getElem?_window l i b k

theorem padEnds_length {α} (h : Nat) (a c : α) (x : List α) :
    (padEnds h a c x).length = x.length + 2 * h := by
  simp [padEnds]; omega

theorem getElem?_padEnds {α} (h : Nat) (a c : α) (x : List α) (k : Nat) :
    (padEnds h a c x)[k]? =
      if k < h then some a else if k < h + x.length then x[k - h]?
      else if k < h + x.length + h then some c else none := by
  unfold padEnds
  simp only [List.getElem?_append, List.getElem?_replicate, List.length_append, List.length_replicate]
  by_cases h1 : k < h
  · have : k < h + x.length := by omega
    simp [h1, this]
  · by_cases h2 : k < h + x.length
    · simp [h1, h2]
    · have e : k - (h + x.length) = k - h - x.length := by omega
      by_cases h3 : k < h + x.length + h
      · have : k - h - x.length < h := by omega
        simp [h1, h2, h3, e, this]
      · have : ¬ k - h - x.length < h := by omega
        simp [h1, h2, h3, e, this]

theorem slice_padEnds_interior {α} (h b i : Nat) (a c : α) (x : List α)
    (hi : h ≤ i) (hb : i - h + b ≤ x.length) :
    slice i b (padEnds h a c x) = slice (i - h) b x := by
  apply List.ext_getElem?
  intro k
  rw [getElem?_slice, getElem?_slice]
  split
  · rw [getElem?_padEnds]
    have h1 : ¬ (i + k < h) := by omega
    have h2 : i + k < h + x.length := by omega
    simp only [h1, h2, if_true, if_false]
    congr 1; omega
  · rfl

theorem slice_add {α} (j a c : Nat) (l : List α) :
    slice j (a + c) l = slice j a l ++ slice (j + a) c l := by
  unfold slice
  rw [List.take_add, List.drop_drop]

theorem slice_one {α} (k : Nat) (l : List α) (hk : k < l.length) : slice k 1 l = [l[k]] := by
  unfold slice
  rw [List.drop_eq_getElem_cons hk]
  rfl

theorem slice_length_of_le {α} (i b : Nat) (l : List α) (h : i + b ≤ l.length) :
    (slice i b l).length = b :=
  Lists.length_window l i b h

theorem slice_centre {α} (h i : Nat) (l : List α) (hi : h ≤ i) (hn : i < l.length) :
    slice (i - h) (2 * h + 1) l = slice (i - h) h l ++ l[i] :: slice (i + 1) h l := by
  have e : 2 * h + 1 = h + (1 + h) := by omega
  rw [e, slice_add, slice_add]
  have e2 : i - h + h = i := by omega
  rw [e2, slice_one i l hn]
  rfl

theorem eraseIdx_centre {α} (A B : List α) (a : α) (h : Nat) (hA : A.length = h) :
    (A ++ a :: B).eraseIdx h = A ++ B := by
  rw [List.eraseIdx_append_of_length_le (by omega)]
  simp [hA]

theorem modify_centre {α} (A B : List α) (a : α) (f : α → α) (h : Nat) (hA : A.length = h) :
    (A ++ a :: B).modify h f = A ++ f a :: B := by
  subst hA
  induction A with
  | nil => rfl
  | cons c A ih => simp [ih]

theorem slice_map {α β} (f : α → β) (i b : Nat) (l : List α) :
    slice i b (l.map f) = (slice i b l).map f := by
  simp [slice]

theorem mem_slice_iff {α} (a b : Nat) (l : List α) (v : α) :
    v ∈ slice a b l ↔ ∃ m, a ≤ m ∧ m < a + b ∧ l[m]? = some v := by
  rw [List.mem_iff_getElem?]
  constructor
  · rintro ⟨k, hk⟩
    rw [getElem?_slice] at hk
    by_cases hkb : k < b
    · rw [if_pos hkb] at hk
      exact ⟨a + k, by omega, by omega, hk⟩
    · rw [if_neg hkb] at hk; cases hk
  · rintro ⟨m, h1, h2, h3⟩
    refine ⟨m - a, ?_⟩
    rw [getElem?_slice, if_pos (by omega)]
    have : a + (m - a) = m := by omega
    rw [this]; exact h3

theorem mem_of_mem_slice {α} (a b : Nat) (l : List α) (v : α) (h : v ∈ slice a b l) : v ∈ l := by
  unfold slice at h
  exact List.mem_of_mem_drop (List.mem_of_mem_take h)

theorem slice_eq_map_range {α} (a b : Nat) (l : List α) (f : Nat → α) (h : ∀ k < b, l[a + k]? = some (f k)) :
    slice a b l = (List.range b).map f := by
  apply List.ext_getElem?
  intro k
  rw [getElem?_slice, List.getElem?_map]
  split
  · rw [List.getElem?_range ‹_›]; exact h k ‹_›
  · rw [List.getElem?_eq_none (by rw [List.length_range]; omega)]; rfl

theorem map_slice_slice_eq {α} (a b c d : Nat) (l : List (List α)) (f : Nat → Nat → α) (hl : a + b ≤ l.length)
    (h : ∀ r < b, ∀ k < d, (l[a + r]?).bind (fun q => q[c + k]?) = some (f r k)) :
    (slice a b l).map (slice c d) = (List.range b).map fun r => (List.range d).map (f r) := by
  rw [slice_eq_map_range a b l (fun r => (l[a + r]?).getD []), List.map_map]
  · refine List.map_congr_left fun r hr => slice_eq_map_range _ _ _ _ fun k hk => ?_
    have hr := List.mem_range.mp hr
    have := h r hr k hk
    show ((l[a + r]?).getD [])[c + k]? = _
    rw [List.getElem?_eq_getElem (by omega : a + r < l.length)] at this ⊢
    exact this
  · intro r hr
    rw [List.getElem?_eq_getElem (by omega : a + r < l.length)]
    rfl

/-! ### every stage of the mechanism is a map over the pixels with their indices

`List.zipWith` over a row and the table of its windows is `List.mapIdx` over the row; over the rows of a
rectangular image it is `mapIdx2`.  Shapes, indexing and "the cells carry the input" are then facts about `mapIdx2`. -/

theorem mapIdx_eq_self {α} (f : Nat → α → α) (l : List α) (h : ∀ i (hi : i < l.length), f i l[i] = l[i]) :
    l.mapIdx f = l := by
  apply List.ext_getElem List.length_mapIdx
  intro i _ h2
  rw [List.getElem_mapIdx]
  exact h i h2

theorem map_mapIdx {α β γ} (g : β → γ) (f : Nat → α → β) (l : List α) :
    (l.mapIdx f).map g = l.mapIdx fun i a => g (f i a) := by
  apply List.ext_getElem?
  intro i
  rw [List.getElem?_map, List.getElem?_mapIdx, List.getElem?_mapIdx, Option.map_map]
  rfl

theorem zipWith_map_range {α β γ} (f : α → β → γ) (x : List α) (w : Nat → β) :
    List.zipWith f x ((List.range x.length).map w) = x.mapIdx fun i a => f a (w i) := by
  refine (List.mapIdx_eq_iff.mpr fun i => ?_).symm
  rw [List.getElem?_zipWith, List.getElem?_map]
  cases h : x[i]? with
  | none => rfl
  | some a => rw [List.getElem?_range (List.getElem?_eq_some_iff.mp h).1]; rfl

theorem zip3With_eq_zipWith {α β γ δ} (f : α → β → γ → δ) (a : List α) (b : List β) (c : List γ) :
    zip3With f a b c = List.zipWith (fun a (p : β × γ) => f a p.1 p.2) a (b.zip c) := by
  induction a generalizing b c with
  | nil => rfl
  | cons x a ih =>
    cases b with
    | nil => rfl
    | cons y b =>
      cases c with
      | nil => rfl
      | cons z c => exact congrArg (f x y z :: ·) (ih b c)

theorem zip3With_map_range {α β γ δ} (f : α → β → γ → δ) (x : List α) (u : Nat → β) (v : Nat → γ) :
    zip3With f x ((List.range x.length).map u) ((List.range x.length).map v)
      = x.mapIdx fun i a => f a (u i) (v i) := by
  rw [zip3With_eq_zipWith, List.zip_map', zipWith_map_range]

def mapIdx2 {α β} (f : Nat → Nat → α → β) (x : List (List α)) : List (List β) :=
  x.mapIdx fun i r => r.mapIdx (f i)

theorem mapIdx2_shape {α β} (f : Nat → Nat → α → β) (x : List (List α)) (n1 : Nat)
    (hrect : ∀ r ∈ x, r.length = n1) :
    (mapIdx2 f x).length = x.length ∧ ∀ r ∈ mapIdx2 f x, r.length = n1 := by
  refine ⟨List.length_mapIdx, fun r hr => ?_⟩
  obtain ⟨i, hi, rfl⟩ := List.mem_mapIdx.mp hr
  rw [List.length_mapIdx]
  exact hrect _ (List.getElem_mem hi)

theorem mapIdx2_eq_self {α} (f : Nat → Nat → α → α) (x : List (List α))
    (h : ∀ i j (hi : i < x.length) (hj : j < x[i].length), f i j x[i][j] = x[i][j]) : mapIdx2 f x = x :=
  mapIdx_eq_self _ _ fun i hi => mapIdx_eq_self _ _ fun j hj => h i j hi hj

theorem map_mapIdx2 {α β γ} (g : β → γ) (f : Nat → Nat → α → β) (x : List (List α)) :
    (mapIdx2 f x).map (fun r => r.map g) = mapIdx2 (fun i j a => g (f i j a)) x := by
  simp only [mapIdx2, map_mapIdx]

theorem zipWith2_map_range {α β γ} (g : α → β → γ) (x : List (List α)) (n1 : Nat)
    (hrect : ∀ r ∈ x, r.length = n1) (W : Nat → Nat → β) :
    List.zipWith (fun row wrow => List.zipWith g row wrow) x
        ((List.range x.length).map fun i => (List.range n1).map (W i))
      = mapIdx2 (fun i j a => g a (W i j)) x := by
  rw [zipWith_map_range, mapIdx2]
  refine List.mapIdx_eq_mapIdx_iff.mpr fun i hi => ?_
  rw [← hrect _ (List.getElem_mem hi), zipWith_map_range]

theorem zip3With2_map_range {α β γ δ} (g : α → β → γ → δ) (x : List (List α)) (n1 : Nat)
    (hrect : ∀ r ∈ x, r.length = n1) (U : Nat → Nat → β) (V : Nat → Nat → γ) :
    zip3With (fun row urow vrow => zip3With g row urow vrow) x
        ((List.range x.length).map fun i => (List.range n1).map (U i))
        ((List.range x.length).map fun i => (List.range n1).map (V i))
      = mapIdx2 (fun i j a => g a (U i j) (V i j)) x := by
  rw [zip3With_map_range, mapIdx2]
  refine List.mapIdx_eq_mapIdx_iff.mpr fun i hi => ?_
  rw [← hrect _ (List.getElem_mem hi), zip3With_map_range]

theorem getElem?_bind_map {α β} (f : α → β) (a : List (List α)) (i j : Nat) :
    ((a.map (fun r => r.map f))[i]?).bind (fun r => r[j]?) = ((a[i]?).bind (fun r => r[j]?)).map f := by
  rw [List.getElem?_map]
  cases a[i]? with
  | none => rfl
  | some r => simp

theorem pad1_length (stat : List Rat → Rat) (h : Nat) (x : List Rat) :
    (pad1 stat h x).length = x.length + 2 * h := padEnds_length _ _ _ _

theorem slice_pad1_interior (stat : List Rat → Rat) (h i : Nat) (x : List Rat)
    (hi : h ≤ i) (hn : i + h < x.length) :
    slice i (2 * h + 1) (pad1 stat h x) = slice (i - h) (2 * h + 1) x :=
  slice_padEnds_interior h (2 * h + 1) i _ _ x hi (by omega)

theorem at1_eq (x : List Rat) (i : Nat) (hi : i < x.length) : at1 x i = x[i] := by
  simp [at1, List.getD, hi]

theorem at2_eq (x : List (List Rat)) (i j : Nat) (hi : i < x.length) (hj : j < x[i].length) :
    at2 x i j = x[i][j] := by
  simp [at2, List.getD, hi, hj]

theorem mapIdx2_at {β} (f : Nat → Nat → Rat → β) (x : List (List Rat)) (n1 i j : Nat)
    (hrect : ∀ r ∈ x, r.length = n1) (hi : i < x.length) (hj : j < n1) :
    ((mapIdx2 f x)[i]?).bind (fun r => r[j]?) = some (f i j (at2 x i j)) := by
  have hlen : j < x[i].length := by rw [hrect _ (List.getElem_mem hi)]; exact hj
  rw [mapIdx2, List.getElem?_mapIdx, List.getElem?_eq_getElem hi, Option.map_some, Option.bind_some,
    List.getElem?_mapIdx, List.getElem?_eq_getElem hlen, Option.map_some, at2_eq x i j hi hlen]

theorem colStat_length (stat : List Rat → Rat) (n1 : Nat) (rows : List (List Rat)) :
    (colStat stat n1 rows).length = n1 := by simp [colStat]

theorem pad2_length (stat : List Rat → Rat) (h0 h1 : Nat) (x : List (List Rat)) :
    (pad2 stat h0 h1 x).length = x.length + 2 * h0 := by
  simp [pad2, padEnds_length]

theorem headD_length_of_forall {α} (l : List (List α)) (m : Nat) (hpos : 0 < l.length)
    (hl : ∀ r ∈ l, r.length = m) : (l.headD []).length = m := by
  cases l with
  | nil => cases hpos
  | cons a l => exact hl a (by simp)

theorem padEnds_colStat_row_length (stat : List Rat → Rat) (h0 n1 : Nat) (x A B : List (List Rat))
    (hrect : ∀ r ∈ x, r.length = n1) :
    ∀ q ∈ padEnds h0 (colStat stat n1 A) (colStat stat n1 B) x, q.length = n1 := by
  intro q hq
  simp only [padEnds, List.mem_append, List.mem_replicate] at hq
  rcases hq with (⟨_, rfl⟩ | hq) | ⟨_, rfl⟩
  · exact colStat_length _ _ _
  · exact hrect q hq
  · exact colStat_length _ _ _

theorem pad2_row_length (stat : List Rat → Rat) (h0 h1 n1 : Nat) (x : List (List Rat))
    (hrect : ∀ r ∈ x, r.length = n1) (hne : x ≠ []) :
    ∀ r ∈ pad2 stat h0 h1 x, r.length = n1 + 2 * h1 := by
  intro r hr
  simp only [pad2, List.mem_map, headD_length_of_forall x n1 (List.length_pos_iff.mpr hne) hrect] at hr
  obtain ⟨q, hq, rfl⟩ := hr
  rw [pad1_length, padEnds_colStat_row_length stat h0 n1 x _ _ hrect q hq]

abbrev win2 (π : List Rat → Rat) (h0 h1 : Nat) (x : List (List Rat)) (i j : Nat) : List (List Rat) :=
  window2 i j (2 * h0 + 1) (2 * h1 + 1) (pad2 π h0 h1 x)

theorem windows2_pad2 (π : List Rat → Rat) (h0 h1 n1 : Nat) (x : List (List Rat))
    (hrect : ∀ r ∈ x, r.length = n1) :
    windows2 (2 * h0 + 1) (2 * h1 + 1) (pad2 π h0 h1 x) =
      (List.range x.length).map fun i => (List.range n1).map fun j =>
        win2 π h0 h1 x i j := by
  rw [windows2, pad2_length, show x.length + 2 * h0 + 1 - (2 * h0 + 1) = x.length by omega]
  by_cases hne : x = []
  · subst hne; rfl
  · rw [headD_length_of_forall _ _ (by rw [pad2_length]; have := List.length_pos_iff.mpr hne; omega)
        (pad2_row_length π h0 h1 n1 x hrect hne),
      show n1 + 2 * h1 + 1 - (2 * h1 + 1) = n1 by omega]

theorem windows2_pad2_map {β} (g : List (List Rat) → β) (π : List Rat → Rat) (h0 h1 n1 : Nat)
    (x : List (List Rat)) (hrect : ∀ r ∈ x, r.length = n1) :
    (windows2 (2 * h0 + 1) (2 * h1 + 1) (pad2 π h0 h1 x)).map (fun r => r.map g) =
      (List.range x.length).map fun i => (List.range n1).map fun j =>
        g (win2 π h0 h1 x i j) := by
  simp only [windows2_pad2 π h0 h1 n1 x hrect, List.map_map, Function.comp_def]

theorem cellsG2_eq {β} (π : List Rat → Rat) (g : Rat → List (List Rat) → β) (h0 h1 n1 : Nat)
    (x : List (List Rat)) (hrect : ∀ r ∈ x, r.length = n1) :
    cellsG2 π g (2 * h0 + 1) (2 * h1 + 1) x =
      mapIdx2 (fun i j xi => g xi (win2 π h0 h1 x i j)) x := by
  rw [cellsG2, half_odd, half_odd, windows2_pad2 π h0 h1 n1 x hrect, zipWith2_map_range g x n1 hrect]

theorem win2_interior (stat : List Rat → Rat) (h0 h1 i j n1 : Nat) (x : List (List Rat))
    (hrect : ∀ r ∈ x, r.length = n1)
    (hi : h0 ≤ i) (hn : i + h0 < x.length) (hj : h1 ≤ j) (hm : j + h1 < n1) :
    win2 stat h0 h1 x i j
      = (slice (i - h0) (2 * h0 + 1) x).map (slice (j - h1) (2 * h1 + 1)) := by
  unfold win2 window2 pad2
  rw [slice_map, slice_padEnds_interior h0 (2 * h0 + 1) i _ _ x hi (by omega), List.map_map]
  refine List.map_congr_left fun r hr => slice_pad1_interior stat h1 j r hj ?_
  rw [hrect r (mem_of_mem_slice _ _ _ _ hr)]
  exact hm

theorem maskCentre2_interior (h0 h1 i j n1 : Nat) (x : List (List Rat))
    (hrect : ∀ r ∈ x, r.length = n1)
    (hi : h0 ≤ i) (hn : i + h0 < x.length) (hj : h1 ≤ j) (hm : j + h1 < n1) :
    maskCentre2 h0 h1 ((slice (i - h0) (2 * h0 + 1) x).map (slice (j - h1) (2 * h1 + 1)))
      = others2 h0 h1 x i j := by
  have hlt : i < x.length := by omega
  have hlen : x[i].length = n1 := hrect _ (List.getElem_mem hlt)
  have hg : x.getD i [] = x[i] := by simp [List.getD, hlt]
  unfold maskCentre2 others2
  rw [slice_centre h0 i x hi hlt, List.map_append, List.map_cons,
    modify_centre _ _ _ _ h0 (by rw [List.length_map]; exact slice_length_of_le _ _ _ (by omega)),
    slice_centre h1 j x[i] hj (by omega),
    eraseIdx_centre _ _ _ h1 (slice_length_of_le _ _ _ (by omega)), hg]
  simp

def diffsP2 (π : List Rat → Rat) (b0 b1 : Nat) (x : List (List Rat)) : List (List Rat) :=
  List.zipWith (fun row mrow => List.zipWith (fun xi m => absR (xi - m)) row mrow) x
    ((windows2 b0 b1 (pad2 π (b0 / 2) (b1 / 2) x)).map (fun r => r.map (fun w => median w.flatten)))

theorem diffsP2_eq (π : List Rat → Rat) (h0 h1 n1 : Nat) (x : List (List Rat)) (hrect : ∀ r ∈ x, r.length = n1) :
    diffsP2 π (2 * h0 + 1) (2 * h1 + 1) x = mapIdx2 (fun i j xi =>
      absR (xi - median (win2 π h0 h1 x i j).flatten)) x := by
  rw [diffsP2, half_odd, half_odd, windows2_pad2_map _ π h0 h1 n1 x hrect, zipWith2_map_range _ x n1 hrect]

theorem diffsP2_shape (π : List Rat → Rat) (h0 h1 n1 : Nat) (x : List (List Rat)) (hrect : ∀ r ∈ x, r.length = n1) :
    (diffsP2 π (2 * h0 + 1) (2 * h1 + 1) x).length = x.length ∧
    ∀ r ∈ diffsP2 π (2 * h0 + 1) (2 * h1 + 1) x, r.length = n1 := by
  rw [diffsP2_eq π h0 h1 n1 x hrect]
  exact mapIdx2_shape _ x n1 hrect

def medianCellAt2 (π1 π2 : List Rat → Rat) (h0 h1 : Nat) (x : List (List Rat)) (i j : Nat) (xi : Rat) : Cell :=
  { x := xi
    d := absR (xi - median (win2 π1 h0 h1 x i j).flatten)
    s := median (win2 π2 h0 h1 (diffsP2 π1 (2 * h0 + 1) (2 * h1 + 1) x) i j).flatten * madK
    repl := median (win2 π1 h0 h1 x i j).flatten }

theorem medianCellsP2_eq (π1 π2 : List Rat → Rat) (h0 h1 n1 : Nat) (x : List (List Rat))
    (hrect : ∀ r ∈ x, r.length = n1) :
    medianCellsP2 π1 π2 (2 * h0 + 1) (2 * h1 + 1) x = mapIdx2 (medianCellAt2 π1 π2 h0 h1 x) x := by
  obtain ⟨dl, dr⟩ := diffsP2_shape π1 h0 h1 n1 x hrect
  -- the `let`s of `medianCellsP2` unfolded, so that `half_odd` can rewrite
  show zip3With _ x
    ((windows2 _ _ (pad2 π1 ((2 * h0 + 1) / 2) ((2 * h1 + 1) / 2) x)).map _)
    ((windows2 _ _ (pad2 π2 ((2 * h0 + 1) / 2) ((2 * h1 + 1) / 2) (diffsP2 π1 (2 * h0 + 1) (2 * h1 + 1) x))).map _) = _
  rw [half_odd, half_odd, windows2_pad2_map _ π1 h0 h1 n1 x hrect, windows2_pad2_map _ π2 h0 h1 n1 _ dr, dl,
    zip3With2_map_range _ x n1 hrect]
  rfl

theorem diffsP2_interior (π : List Rat → Rat) (h0 h1 n1 : Nat) (x : List (List Rat)) (hrect : ∀ r ∈ x, r.length = n1)
    (r c : Nat) (hr0 : h0 ≤ r) (hr1 : r + h0 < x.length) (hc0 : h1 ≤ c) (hc1 : c + h1 < n1) :
    ((diffsP2 π (2 * h0 + 1) (2 * h1 + 1) x)[r]?).bind (fun q => q[c]?) = some (diffAt2 h0 h1 x r c) := by
  rw [diffsP2_eq π h0 h1 n1 x hrect, mapIdx2_at _ x n1 r c hrect (by omega) (by omega),
    win2_interior π h0 h1 r c n1 x hrect hr0 hr1 hc0 hc1]
  rfl

theorem rollingMean2_eq_mapIdx2 (h0 h1 n1 : Nat) (t : Option Rat) (x : List (List Rat))
    (hrect : ∀ r ∈ x, r.length = n1) :
    rollingMean2 (2 * h0 + 1) (2 * h1 + 1) t x = mapIdx2 (fun i j xi =>
      (meanCell xi (win2 mean h0 h1 x i j).flatten (maskCentre2 h0 h1 (win2 mean h0 h1 x i j))).outSq t) x := by
  rw [rollingMean2, show meanCells2 (2 * h0 + 1) (2 * h1 + 1) x = _ from cellsG2_eq mean _ h0 h1 n1 x hrect,
    map_mapIdx2, half_odd, half_odd]

theorem rollingMedian2_eq_mapIdx2 (h0 h1 n1 : Nat) (t : Option Rat) (x : List (List Rat))
    (hrect : ∀ r ∈ x, r.length = n1) :
    rollingMedian2 (2 * h0 + 1) (2 * h1 + 1) t x
      = mapIdx2 (fun i j xi => (medianCellAt2 median median h0 h1 x i j xi).outLin t) x := by
  rw [rollingMedian2, show medianCells2 (2 * h0 + 1) (2 * h1 + 1) x = _ from
    medianCellsP2_eq median median h0 h1 n1 x hrect, map_mapIdx2]

theorem mean_map_nonneg (f : Rat → Rat) (hf : ∀ w, 0 ≤ f w) (l : List Rat) : 0 ≤ mean (l.map f) :=
  div_nonneg (List.sum_nonneg fun v hv => by obtain ⟨w, _, rfl⟩ := List.mem_map.mp hv; exact hf w) (Nat.cast_nonneg _)

theorem mean_in_range (L U : Rat) (l : List Rat) (hne : l ≠ []) (h : ∀ v ∈ l, L ≤ v ∧ v ≤ U) :
    L ≤ mean l ∧ mean l ≤ U := by
  have hpos : (0 : Rat) < (l.length : Rat) := by
    have : 0 < l.length := List.length_pos_iff.mpr hne
    exact_mod_cast this
  have h1 := List.card_nsmul_le_sum l L fun v hv => (h v hv).1
  have h2 := List.sum_le_card_nsmul l U fun v hv => (h v hv).2
  rw [nsmul_eq_mul, mul_comm] at h1 h2
  unfold mean
  constructor
  · rw [le_div_iff₀ hpos]; exact h1
  · rw [div_le_iff₀ hpos]; exact h2

theorem sort_mem (l : List Rat) (v : Rat) : v ∈ sort l ↔ v ∈ l :=
  (List.mergeSort_perm l _).mem_iff

theorem sort_length (l : List Rat) : (sort l).length = l.length :=
  (List.mergeSort_perm l _).length_eq

theorem sort_getD_mem (l : List Rat) (k : Nat) (hk : k < l.length) : (sort l).getD k 0 ∈ l := by
  have hk' : k < (sort l).length := by rw [sort_length]; exact hk
  rw [List.getD_eq_getElem?_getD, List.getElem?_eq_getElem hk']
  exact (sort_mem l _).mp (List.getElem_mem hk')

theorem median_in_range (L U : Rat) (l : List Rat) (hne : l ≠ []) (h : ∀ v ∈ l, L ≤ v ∧ v ≤ U) :
    L ≤ median l ∧ median l ≤ U := by
  have hpos : 0 < l.length := List.length_pos_iff.mpr hne
  unfold median
  simp only
  split
  · exact h _ (sort_getD_mem l _ (by omega))
  · have h1 := h _ (sort_getD_mem l (l.length / 2 - 1) (by omega))
    have h2 := h _ (sort_getD_mem l (l.length / 2) (by omega))
    exact ⟨by linarith [h1.1, h2.1], by linarith [h1.2, h2.2]⟩

theorem minL_le (l : List Rat) (v : Rat) (hv : v ∈ l) : minL l ≤ v := by
  cases l with
  | nil => cases hv
  | cons a l => exact (List.min?_eq_some_iff.mp (rfl : (a :: l).min? = some (minL (a :: l)))).2 v hv

theorem le_maxL (l : List Rat) (v : Rat) (hv : v ∈ l) : v ≤ maxL l := by
  cases l with
  | nil => cases hv
  | cons a l => exact (List.max?_eq_some_iff.mp (rfl : (a :: l).max? = some (maxL (a :: l)))).2 v hv

/-! ### every value of a window, real or padded, has a property that the real pixels of the window have -/

/-- the mean and the median keep "within given bounds" for any `N`; an arithmetic that gets the mean of up to
`N` copies of `c` right keeps "equal to `c`" -/
def Keeps (P : Rat → Prop) (N : Nat) (stat : List Rat → Rat) : Prop :=
  ∀ l : List Rat, l ≠ [] → l.length ≤ N → (∀ v ∈ l, P v) → P (stat l)

theorem keeps_mean (L U : Rat) (N : Nat) : Keeps (fun v => L ≤ v ∧ v ≤ U) N mean :=
  fun l hne _ h => mean_in_range L U l hne h

theorem keeps_median (L U : Rat) (N : Nat) : Keeps (fun v => L ≤ v ∧ v ≤ U) N median :=
  fun l hne _ h => median_in_range L U l hne h

theorem Keeps.const {c : Rat} {N : Nat} {stat : List Rat → Rat} (h : Keeps (fun v => c ≤ v ∧ v ≤ c) N stat) :
    Keeps (· = c) N stat := fun l hne hl hall =>
  have := h l hne hl fun v hv => by rw [hall v hv]; exact ⟨le_refl c, le_refl c⟩
  le_antisymm this.2 this.1

theorem Keeps.sublist {P : Rat → Prop} {N : Nat} {ρ : List Rat → Rat} (hρ : Keeps P N ρ) (part all : List Rat)
    (hsub : part.Sublist all) (hne : part ≠ []) (hlen : all.length ≤ N) (hall : ∀ v ∈ all, P v) : P (ρ part) :=
  hρ part hne (hsub.length_le.trans hlen) fun v hv => hall v (hsub.subset hv)

/-- Entry `m` of the padded line, `m` in the window of pixel `i`: a real pixel of that window, or the statistic
of real pixels of that window (the `h` edge values all lie in it when a pad value does). -/
theorem pad1_keeps (P : Rat → Prop) (N : Nat) (stat : List Rat → Rat) (hstat : Keeps P N stat) (h i : Nat)
    (x : List Rat) (hN : h ≤ N) (hi : i < x.length)
    (hreal : ∀ k w, x[k]? = some w → i - h ≤ k → k ≤ i + h → P w)
    (m : Nat) (v : Rat) (hm : i ≤ m) (hm' : m ≤ i + 2 * h) (hv : (pad1 stat h x)[m]? = some v) : P v := by
  rw [pad1, getElem?_padEnds] at hv
  by_cases h1 : m < h
  · rw [if_pos h1] at hv
    rw [← Option.some.inj hv]
    refine hstat _ (List.ne_nil_of_length_pos (by rw [List.length_take]; omega))
      (by rw [List.length_take]; omega) fun w hw => ?_
    obtain ⟨k, hk, rfl⟩ := List.mem_take_iff_getElem.mp hw
    exact hreal k _ (List.getElem?_eq_getElem _) (by omega) (by omega)
  · rw [if_neg h1] at hv
    by_cases h2 : m < h + x.length
    · rw [if_pos h2] at hv
      exact hreal _ v hv (by omega) (by omega)
    · rw [if_neg h2] at hv
      by_cases h3 : m < h + x.length + h
      · rw [if_pos h3] at hv
        rw [← Option.some.inj hv]
        refine hstat _ (List.ne_nil_of_length_pos (by rw [List.length_drop]; omega))
          (by rw [List.length_drop]; omega) fun w hw => ?_
        obtain ⟨k, hk, rfl⟩ := List.mem_drop_iff_getElem.mp hw
        exact hreal _ _ (List.getElem?_eq_getElem _) (by omega) (by omega)
      · rw [if_neg h3] at hv; cases hv

theorem mem_realWin2 (h0 h1 i j : Nat) (x : List (List Rat)) (p k : Nat) (row : List Rat) (w : Rat)
    (hp : x[p]? = some row) (hk : row[k]? = some w)
    (h1' : i - h0 ≤ p) (h2 : p < i + h0 + 1) (h3 : j - h1 ≤ k) (h4 : k < j + h1 + 1) :
    w ∈ realWin2 h0 h1 x i j := by
  unfold realWin2
  rw [List.mem_flatten]
  refine ⟨slice (j - h1) (j + h1 + 1 - (j - h1)) row, ?_, ?_⟩
  · rw [List.mem_map]
    exact ⟨row, (mem_slice_iff _ _ _ _).mpr ⟨p, h1', by omega, hp⟩, rfl⟩
  · exact (mem_slice_iff _ _ _ _).mpr ⟨k, h3, by omega, hk⟩

theorem forall_realWin2 (P : Rat → Prop) (h0 h1 i j : Nat) (x : List (List Rat)) (h : ∀ r ∈ x, ∀ v ∈ r, P v) :
    ∀ v ∈ realWin2 h0 h1 x i j, P v := by
  intro v hv
  obtain ⟨R, hR, hvR⟩ := List.mem_flatten.mp hv
  obtain ⟨r, hr, rfl⟩ := List.mem_map.mp hR
  exact h r (mem_of_mem_slice _ _ _ _ hr) v (mem_of_mem_slice _ _ _ _ hvR)

theorem maskCentre2_sublist (h0 h1 : Nat) (W : List (List Rat)) : (maskCentre2 h0 h1 W).Sublist W.flatten := by
  unfold maskCentre2
  induction W generalizing h0 with
  | nil => simp
  | cons r W ih =>
    cases h0 with
    | zero => simpa using (List.eraseIdx_sublist r h1).append (List.Sublist.refl W.flatten)
    | succ a => simpa using (List.Sublist.refl r).append (ih a)

/-- the first row `r` of the window keeps a value: the mask leaves it alone unless it is the centre row (`h0 = 0`),
which loses one -/
theorem maskCentre2_ne_nil (h0 h1 : Nat) (r : List Rat) (W : List (List Rat))
    (hr : 2 ≤ r.length ∨ (1 ≤ h0 ∧ 1 ≤ r.length)) : maskCentre2 h0 h1 (r :: W) ≠ [] := by
  intro h
  have := congrArg List.length h
  cases h0 with
  | zero =>
    simp [maskCentre2, List.length_eraseIdx] at this
    obtain ⟨e, -⟩ := this
    split at e <;> omega
  | succ a =>
    simp [maskCentre2] at this
    rw [this.1] at hr
    simp at hr

theorem column_padEnds_colStat (stat : List Rat → Rat) (h0 n1 : Nat) (x : List (List Rat)) (k : Nat) (hk : k < n1) :
    column (padEnds h0 (colStat stat n1 (x.take h0)) (colStat stat n1 (x.drop (x.length - h0))) x) k
      = pad1 stat h0 (column x k) := by
  simp [column, padEnds, pad1, colStat, hk, List.map_take, List.map_drop]

theorem getElem?_column (rows : List (List Rat)) (k m : Nat) (q : List Rat) (w : Rat) (hq : rows[m]? = some q)
    (hw : q[k]? = some w) : (column rows k)[m]? = some w := by
  rw [column, List.getElem?_map, hq, Option.map_some, List.getD_eq_getElem?_getD, hw]
  rfl

theorem win2_keeps (P : Rat → Prop) (N : Nat) (stat : List Rat → Rat) (hstat : Keeps P N stat)
    (h0 h1 n1 i j : Nat) (x : List (List Rat)) (hrect : ∀ r ∈ x, r.length = n1) (hN0 : h0 ≤ N) (hN1 : h1 ≤ N)
    (hi : i < x.length) (hj : j < n1) (hreal : ∀ v ∈ realWin2 h0 h1 x i j, P v) :
    ∀ v ∈ (win2 stat h0 h1 x i j).flatten, P v := by
  have hn1 : (x.headD []).length = n1 := headD_length_of_forall x n1 (by omega) hrect
  intro v hv
  obtain ⟨R, hR, hvR⟩ := List.mem_flatten.mp hv
  unfold win2 window2 pad2 at hR
  rw [hn1, List.mem_map] at hR
  obtain ⟨Pm, hPm, rfl⟩ := hR
  obtain ⟨m, hm1, hm2, hm3⟩ := (mem_slice_iff _ _ _ _).mp hPm
  rw [List.getElem?_map] at hm3
  obtain ⟨q, hq, rfl⟩ := Option.map_eq_some_iff.mp hm3
  have hql : q.length = n1 := padEnds_colStat_row_length stat h0 n1 x _ _ hrect q (List.mem_of_getElem? hq)
  obtain ⟨k', hk1, hk2, hk3⟩ := (mem_slice_iff _ _ _ _).mp hvR
  -- `pad1_keeps` twice: along the row `q` (row `m` of the image padded on axis 0), and for each real entry of it along
  -- its column: `q[k]` is entry `m` of column `k` of `x` padded as a line (a corner pad is a statistic of statistics)
  refine pad1_keeps P N stat hstat h1 j q hN1 (by omega) (fun k w hk a b => ?_) k' v hk1 (by omega) hk3
  have hkn : k < n1 := by have := (List.getElem?_eq_some_iff.mp hk).1; omega
  have hcol := getElem?_column _ k m q w hq hk
  rw [column_padEnds_colStat stat h0 n1 x k hkn] at hcol
  refine pad1_keeps P N stat hstat h0 i (column x k) hN0 (by rw [column, List.length_map]; exact hi)
    (fun p u hp c d => hreal u ?_) m w hm1 (by omega) hcol
  rw [column, List.getElem?_map] at hp
  obtain ⟨r, hr, rfl⟩ := Option.map_eq_some_iff.mp hp
  have hkr : k < r.length := by rw [hrect r (List.mem_of_getElem? hr)]; exact hkn
  refine mem_realWin2 h0 h1 i j x p k r _ hr ?_ c (by omega) a (by omega)
  simp [List.getD, hkr]

theorem win2_stat_keeps (P : Rat → Prop) (N : Nat) (π ρ : List Rat → Rat) (hπ : Keeps P N π)
    (hρ : Keeps P N ρ) (h0 h1 n1 i j : Nat) (x : List (List Rat)) (hrect : ∀ r ∈ x, r.length = n1)
    (hh : 1 ≤ h0 ∨ 1 ≤ h1) (hN : (2 * h0 + 1) * (2 * h1 + 1) ≤ N) (hi : i < x.length) (hj : j < n1)
    (hreal : ∀ v ∈ realWin2 h0 h1 x i j, P v) :
    P (ρ (win2 π h0 h1 x i j).flatten) ∧
    P (ρ (maskCentre2 h0 h1 (win2 π h0 h1 x i j))) := by
  have hN0 := Nat.le_mul_of_pos_right (2 * h0 + 1) (show 0 < 2 * h1 + 1 by omega)
  have hN1 := Nat.le_mul_of_pos_left (2 * h1 + 1) (show 0 < 2 * h0 + 1 by omega)
  have hw := win2_keeps P N π hπ h0 h1 n1 i j x hrect (by omega) (by omega) hi hj hreal
  have hl : (win2 π h0 h1 x i j).flatten.length ≤ N := by
    rw [List.length_flatten]
    refine ((List.sum_le_card_nsmul _ (2 * h1 + 1) fun n hn => ?_).trans (Nat.mul_le_mul_right _ ?_)).trans hN
    · obtain ⟨r, hr, rfl⟩ := List.mem_map.mp hn
      obtain ⟨q, _, rfl⟩ := List.mem_map.mp hr
      rw [slice_length]; exact Nat.min_le_left _ _
    · rw [List.length_map, win2, window2, List.length_map, slice_length]; exact Nat.min_le_left _ _
  -- the first row of the window has `2·h1 + 1` values; by `hh` one of them survives the mask
  have hPi : i < (pad2 π h0 h1 x).length := by rw [pad2_length]; omega
  have hlen := pad2_row_length π h0 h1 n1 x hrect (by intro h; simp [h] at hi) _ (List.getElem_mem hPi)
  have hs : (slice j (2 * h1 + 1) (pad2 π h0 h1 x)[i]).length = 2 * h1 + 1 :=
    slice_length_of_le _ _ _ (by omega)
  have hW : win2 π h0 h1 x i j = slice j (2 * h1 + 1) (pad2 π h0 h1 x)[i]
      :: (((pad2 π h0 h1 x).drop (i + 1)).take (2 * h0)).map (slice j (2 * h1 + 1)) := by
    rw [win2, window2, slice, List.drop_eq_getElem_cons hPi, List.take_succ_cons, List.map_cons]
  rw [hW] at hw hl ⊢
  exact ⟨hρ _ (List.ne_nil_of_length_pos (by rw [List.flatten_cons, List.length_append]; omega)) hl hw,
    hρ.sublist _ _ (maskCentre2_sublist h0 h1 _) (maskCentre2_ne_nil h0 h1 _ _ (by omega)) hl hw⟩

theorem allEq_spec (l : List Rat) (h : allEq l = true) : ∀ v ∈ l, v = l.headD 0 := by
  cases l with
  | nil => intro v hv; cases hv
  | cons a l =>
    simp only [allEq, List.all_eq_true, beq_iff_eq] at h
    intro v hv
    rcases List.mem_cons.mp hv with rfl | hv
    · rfl
    · exact h v hv

theorem at2_mem_realWin2 (h0 h1 n1 i j : Nat) (x : List (List Rat)) (hrect : ∀ r ∈ x, r.length = n1)
    (hi : i < x.length) (hj : j < n1) : at2 x i j ∈ realWin2 h0 h1 x i j := by
  have hlen : x[i].length = n1 := hrect _ (List.getElem_mem hi)
  rw [at2_eq x i j hi (by omega)]
  exact mem_realWin2 h0 h1 i j x i j x[i] _ (List.getElem?_eq_getElem hi)
    (List.getElem?_eq_getElem (by omega)) (by omega) (by omega) (by omega) (by omega)

theorem mustBeUnchanged_spec (t : Option Rat) (d : List Rat) (h : mustBeUnchanged t d = true) :
    t = none ∨ ∀ v ∈ d, v = d.headD 0 := by
  cases t with
  | none => exact .inl rfl
  | some t => exact .inr (allEq_spec d (by simpa [mustBeUnchanged] using h))

theorem Cell.out_keeps (P : Rat → Prop) (c : Cell) (t : Option Rat) (hx : P c.x) (hr : P c.repl) :
    P (c.outSq t) ∧ P (c.outLin t) := by
  unfold Cell.outSq Cell.outLin
  constructor <;> split <;> assumption

theorem rolling2_keeps (P : Rat → Prop) (h0 h1 n1 : Nat) (t : Option Rat) (x : List (List Rat)) (i j : Nat)
    (hmean : Keeps P ((2 * h0 + 1) * (2 * h1 + 1)) mean) (hmedian : Keeps P ((2 * h0 + 1) * (2 * h1 + 1)) median)
    (hrect : ∀ r ∈ x, r.length = n1) (hh : 1 ≤ h0 ∨ 1 ≤ h1) (hi : i < x.length) (hj : j < n1)
    (hreal : ∀ v ∈ realWin2 h0 h1 x i j, P v) :
    (∃ o, ((rollingMean2 (2 * h0 + 1) (2 * h1 + 1) t x)[i]?).bind (fun r => r[j]?) = some o ∧ P o) ∧
    (∃ o, ((rollingMedian2 (2 * h0 + 1) (2 * h1 + 1) t x)[i]?).bind (fun r => r[j]?) = some o ∧ P o) := by
  have hx := hreal _ (at2_mem_realWin2 h0 h1 n1 i j x hrect hi hj)
  constructor
  · refine ⟨_, by rw [rollingMean2_eq_mapIdx2 h0 h1 n1 t x hrect, mapIdx2_at _ x n1 i j hrect hi hj], ?_⟩
    exact (Cell.out_keeps P _ t hx
      (win2_stat_keeps P _ mean mean hmean hmean h0 h1 n1 i j x hrect hh (le_refl _) hi hj hreal).2).1
  · refine ⟨_, by rw [rollingMedian2_eq_mapIdx2 h0 h1 n1 t x hrect, mapIdx2_at _ x n1 i j hrect hi hj], ?_⟩
    exact (Cell.out_keeps P _ t hx
      (win2_stat_keeps P _ median median hmedian hmedian h0 h1 n1 i j x hrect hh (le_refl _) hi hj hreal).1).2

theorem const_repl2 (π ρ : List Rat → Rat) (N h0 h1 n1 : Nat) (x : List (List Rat)) (c : Rat)
    (hrect : ∀ r ∈ x, r.length = n1) (hh : 1 ≤ h0 ∨ 1 ≤ h1) (hN : (2 * h0 + 1) * (2 * h1 + 1) ≤ N)
    (hπ : Keeps (· = c) N π) (hρ : Keeps (· = c) N ρ) (hc : ∀ r ∈ x, ∀ v ∈ r, v = c)
    (i j : Nat) (hi : i < x.length) (hj : j < x[i].length) :
    ρ (win2 π h0 h1 x i j).flatten = x[i][j] ∧ ρ (maskCentre2 h0 h1 (win2 π h0 h1 x i j)) = x[i][j] := by
  rw [hc _ (List.getElem_mem hi) _ (List.getElem_mem hj)]
  exact win2_stat_keeps (· = c) N π ρ hπ hρ h0 h1 n1 i j x hrect hh hN hi
    (by rw [← hrect _ (List.getElem_mem hi)]; exact hj) (forall_realWin2 _ h0 h1 i j x hc)

theorem rollingG2_const (π μm : List Rat → Rat) (dec : Rat → List (List Rat) → Bool) (N h0 h1 n1 : Nat)
    (x : List (List Rat)) (c : Rat) (hrect : ∀ r ∈ x, r.length = n1) (hh : 1 ≤ h0 ∨ 1 ≤ h1)
    (hN : (2 * h0 + 1) * (2 * h1 + 1) ≤ N) (hπ : Keeps (· = c) N π) (hμ : Keeps (· = c) N μm)
    (hc : ∀ r ∈ x, ∀ v ∈ r, v = c) : rollingG2 π μm dec (2 * h0 + 1) (2 * h1 + 1) x = x := by
  rw [rollingG2, cellsG2_eq π _ h0 h1 n1 x hrect, half_odd, half_odd]
  refine mapIdx2_eq_self _ _ fun i j hi hj => ?_
  split
  · exact (const_repl2 π μm N h0 h1 n1 x c hrect hh hN hπ hμ hc i j hi hj).2
  · rfl

theorem rollingMedian2_const (h0 h1 n1 : Nat) (t : Option Rat) (x : List (List Rat)) (c : Rat)
    (hrect : ∀ r ∈ x, r.length = n1) (hh : 1 ≤ h0 ∨ 1 ≤ h1) (hc : ∀ r ∈ x, ∀ v ∈ r, v = c) :
    rollingMedian2 (2 * h0 + 1) (2 * h1 + 1) t x = x := by
  rw [rollingMedian2_eq_mapIdx2 h0 h1 n1 t x hrect]
  exact mapIdx2_eq_self _ _ fun i j hi hj => (Cell.out_keeps (· = x[i][j]) _ t rfl
    (const_repl2 median median _ h0 h1 n1 x c hrect hh (le_refl _) (keeps_median c c _).const
      (keeps_median c c _).const hc i j hi hj).1).2

theorem others2_abs2 (h0 h1 : Nat) (x : List (List Rat)) (i j : Nat) :
    others2 h0 h1 (abs2 x) i j = (others2 h0 h1 x i j).map absR := by
  have hg : (x.map fun r => r.map absR).getD i [] = (x.getD i []).map absR := by
    simp only [List.getD_eq_getElem?_getD, List.getElem?_map]
    cases x[i]? <;> rfl
  simp only [others2, abs2, hg, slice_map, List.map_append, List.map_flatten, List.map_map, Function.comp_def]

/-! ### a line is the image of one row

`b0 = 1`, `h0 = 0` (as `F64.meanCells1` is defined): the filters, their cells and the specifications of a line `x` are
those of `[x]`, and what is proved for images holds for lines. -/

theorem rect_row (x : List Rat) : ∀ r ∈ [x], r.length = x.length := fun _ hr => by rw [List.mem_singleton.mp hr]

theorem pad2_row (π : List Rat → Rat) (h : Nat) (x : List Rat) : pad2 π 0 h [x] = [pad1 π h x] := rfl

theorem windows2_row (b : Nat) (p : List Rat) : windows2 1 b [p] = [(windows1 b p).map fun w => [w]] := by
  simp [windows2, windows1, window2, slice]

theorem windows2_row_map {β} (g : List (List Rat) → β) (π : List Rat → Rat) (b : Nat) (x : List Rat) :
    (windows2 1 b (pad2 π (1 / 2) (b / 2) [x])).map (fun r => r.map g)
      = [(windows1 b (pad1 π (b / 2) x)).map fun w => g [w]] := by
  rw [pad2_row, windows2_row]
  simp only [List.map_cons, List.map_nil, List.map_map, Function.comp_def]

theorem cellsG2_row {β} (π : List Rat → Rat) (g : Rat → List (List Rat) → β) (b : Nat) (x : List Rat) :
    cellsG2 π g 1 b [x] = [cellsG1 π (fun xi w => g xi [w]) b x] := by
  rw [cellsG2, pad2_row, windows2_row]
  simp only [cellsG1, List.zipWith_cons_cons, List.zipWith_nil_right, List.zipWith_map_right]

theorem maskCentre2_row (h : Nat) (w : List Rat) : maskCentre2 0 h [w] = w.eraseIdx h := by
  simp [maskCentre2]

theorem meanCellsP2_row (π : List Rat → Rat) (b : Nat) (x : List Rat) :
    meanCellsP2 π 1 b [x] = [meanCellsP1 π b x] := by
  simp [meanCellsP2, meanCellsP1, cellsG2_row, maskCentre2_row]

theorem rollingG2_row (π μm : List Rat → Rat) (dec : Rat → List Rat → Bool) (b : Nat) (x : List Rat) :
    rollingG2 π μm (fun xi w => dec xi w.flatten) 1 b [x] = [rollingG1 π μm dec b x] := by
  simp [rollingG2, rollingG1, cellsG2_row, maskCentre2_row]

theorem rollingMean2_row (b : Nat) (t : Option Rat) (x : List Rat) :
    rollingMean2 1 b t [x] = [rollingMean1 b t x] := by
  rw [rollingMean2, show meanCells2 1 b [x] = _ from meanCellsP2_row mean b x]
  rfl

theorem medianCellsP2_row (π1 π2 : List Rat → Rat) (b : Nat) (x : List Rat) :
    medianCellsP2 π1 π2 1 b [x] = [medianCellsP1 π1 π2 b x] := by
  simp only [medianCellsP2, medianCellsP1, windows2_row_map, List.zipWith_cons_cons, List.zipWith_nil_right, zip3With,
    List.flatten_singleton]

theorem rollingMedian2_row (b : Nat) (t : Option Rat) (x : List Rat) :
    rollingMedian2 1 b t [x] = [rollingMedian1 b t x] := by
  rw [rollingMedian2, show medianCells2 1 b [x] = _ from medianCellsP2_row median median b x]
  rfl

theorem realWin2_row (h : Nat) (x : List Rat) (i : Nat) : realWin2 0 h [x] 0 i = realWin1 h x i := by
  simp [realWin2, realWin1, slice]

theorem nbhd2_row (h : Nat) (x : List Rat) (k : Nat) : nbhd2 0 h [x] 0 k = slice (k - h) (2 * h + 1) x := by
  simp [nbhd2, slice]

theorem others2_row (h : Nat) (x : List Rat) (i : Nat) :
    others2 0 h [x] 0 i = slice (i - h) h x ++ slice (i + 1) h x := by
  simp [others2, slice]

theorem specMeanCell2_row (h : Nat) (x : List Rat) (i : Nat) (hi : h ≤ i) (hn : i < x.length) :
    specMeanCell2 0 h [x] 0 i = specMeanCell1 h x i := by
  simp only [specMeanCell2, specMeanCell1, nbhd2_row, others2_row, slice_centre h i x hi hn,
    show at2 [x] 0 i = at1 x i from rfl, at1_eq x i hn]

theorem specMedianCell2_row (h : Nat) (x : List Rat) (i : Nat) :
    specMedianCell2 0 h [x] 0 i = specMedianCell1 h x i := by
  simp only [specMedianCell2, specMedianCell1, diffAt2, diffAt1, medAt2, medAt1, nbhd2_row, Nat.mul_zero, Nat.zero_add,
    List.range_one, List.map_cons, List.map_nil, List.flatten_singleton, Nat.sub_zero]
  rfl

def mediansP1 (π : List Rat → Rat) (b : Nat) (x : List Rat) : List Rat :=
  (windows1 b (pad1 π (b / 2) x)).map median

def diffsP1 (π : List Rat → Rat) (b : Nat) (x : List Rat) : List Rat :=
  List.zipWith (fun xi m => absR (xi - m)) x (mediansP1 π b x)

def madsP1 (π1 π2 : List Rat → Rat) (b : Nat) (x : List Rat) : List Rat :=
  (windows1 b (pad1 π2 (b / 2) (diffsP1 π1 b x))).map (fun w => median w * madK)

theorem windows1_length (b : Nat) (p : List Rat) : (windows1 b p).length = p.length + 1 - b := by
  simp [windows1]

theorem madsP1_length (π1 π2 : List Rat → Rat) (h : Nat) (x : List Rat) : (madsP1 π1 π2 (2 * h + 1) x).length = x.length := by
  simp only [madsP1, diffsP1, mediansP1, List.length_map, windows1_length, pad1_length, List.length_zipWith, half_odd]
  omega

end Pew.Filters
