import PewModel.Calib
import Mathlib.Tactic.Ring
import Mathlib.Algebra.Order.Field.Basic
import Mathlib.Algebra.Order.Field.Rat
import Mathlib.Data.List.Perm.Basic

/-! C06, weighted least squares over ℚ. Every expansion of a weighted sum into the moments `Sw … Swyy` is proved the same
way: collect the right side into one sum by linearity of `S`, compare the summands by `ring`. -/
namespace Pew.Calib

@[simp] theorem S_nil (f : Pt → Rat) : S f [] = 0 := rfl
@[simp] theorem S_cons (f : Pt → Rat) (p : Pt) (l : List Pt) : S f (p :: l) = f p + S f l := rfl

theorem S_add (f g : Pt → Rat) (l : List Pt) : S (fun p => f p + g p) l = S f l + S g l := by
  induction l with
  | nil => exact (add_zero _).symm
  | cons p r ih => rw [S_cons, S_cons, S_cons, ih, add_add_add_comm]

theorem S_sub (f g : Pt → Rat) (l : List Pt) : S (fun p => f p - g p) l = S f l - S g l := by
  induction l with
  | nil => exact (sub_zero _).symm
  | cons p r ih => rw [S_cons, S_cons, S_cons, ih, sub_add_sub_comm]

theorem S_mul_left (c : Rat) (f : Pt → Rat) (l : List Pt) : S (fun p => c * f p) l = c * S f l := by
  induction l with
  | nil => exact (mul_zero _).symm
  | cons p r ih => rw [S_cons, S_cons, ih, mul_add]

theorem S_congr {f g : Pt → Rat} (l : List Pt) (h : ∀ p, f p = g p) : S f l = S g l := by
  rw [funext h]

theorem S_one (l : List Pt) : S (fun _ => 1) l = l.length := by
  induction l with
  | nil => exact Nat.cast_zero.symm
  | cons p r ih => rw [S_cons, ih, List.length_cons, Nat.cast_succ, add_comm]

theorem S_nonneg {f : Pt → Rat} (l : List Pt) (h : ∀ p ∈ l, 0 ≤ f p) : 0 ≤ S f l := by
  induction l with
  | nil => exact le_refl _
  | cons p r ih =>
    exact add_nonneg (h p List.mem_cons_self) (ih fun q hq => h q (List.mem_cons_of_mem _ hq))

/-- the model writes a weighted square both ways (`rsqMech`, `sxx`) -/
theorem S_mul_self (f : Pt → Rat) (l : List Pt) : S (fun p => p.w * f p * f p) l = S (fun p => p.w * f p ^ 2) l :=
  S_congr l fun p => by rw [sq, mul_assoc]

theorem S_sq_nonneg (f : Pt → Rat) (l : List Pt) (hw : ∀ p ∈ l, 0 ≤ p.w) : 0 ≤ S (fun p => p.w * f p ^ 2) l :=
  S_nonneg l fun p hp => mul_nonneg (hw p hp) (sq_nonneg _)

theorem S_perm (f : Pt → Rat) {l₁ l₂ : List Pt} (h : l₁.Perm l₂) : S f l₁ = S f l₂ := by
  induction h with
  | nil => rfl
  | cons a _ ih => rw [S_cons, S_cons, ih]
  | swap a b l => exact add_left_comm _ _ _
  | trans _ _ ih₁ ih₂ => exact ih₁.trans ih₂

theorem S_pos_of_mem {f : Pt → Rat} (l : List Pt) (h : ∀ p ∈ l, 0 ≤ f p) (q : Pt) (hq : q ∈ l)
    (hpos : 0 < f q) : 0 < S f l := by
  induction l with
  | nil => exact absurd hq List.not_mem_nil
  | cons a r ih =>
    have hr := fun p hp => h p (List.mem_cons_of_mem _ hp)
    rcases List.mem_cons.mp hq with rfl | hq'
    · exact add_pos_of_pos_of_nonneg hpos (S_nonneg r hr)
    · exact add_pos_of_nonneg_of_pos (h a List.mem_cons_self) (ih hr hq')

theorem S_pos_exists {f : Pt → Rat} (l : List Pt) (hpos : 0 < S f l) : ∃ q ∈ l, 0 < f q := by
  induction l with
  | nil => exact absurd hpos (lt_irrefl _)
  | cons a r ih =>
    by_cases ha : 0 < f a
    · exact ⟨a, List.mem_cons_self, ha⟩
    · obtain ⟨q, hq, h⟩ := ih (hpos.trans_le (add_le_of_nonpos_left (not_lt.mp ha)))
      exact ⟨q, List.mem_cons_of_mem _ hq, h⟩

/-- Lagrange's identity, every ordered pair of rows counted -/
theorem two_D_eq (l : List Pt) : 2 * D l = S (fun p => p.w * S (fun q => q.w * (q.x - p.x) ^ 2) l) l := by
  have hq : ∀ p : Pt, S (fun q => q.w * (q.x - p.x) ^ 2) l = Swxx l - 2 * p.x * Swx l + p.x ^ 2 * Sw l := fun p => by
    simp only [Sw, Swx, Swxx, ← S_mul_left, ← S_sub, ← S_add]
    exact S_congr l fun q => by ring
  have hp : ∀ a b c : Rat,
      S (fun p => p.w * (a - 2 * p.x * b + p.x ^ 2 * c)) l = a * Sw l - 2 * b * Swx l + c * Swxx l := fun a b c => by
    simp only [Sw, Swx, Swxx, ← S_mul_left, ← S_sub, ← S_add]
    exact S_congr l fun p => by ring
  rw [S_congr l fun p => congrArg (p.w * ·) (hq p), hp, D]
  ring

/-- `Sw` times the normalisation factor of `np.cov(aweights=w)` -/
theorem covNorm_pos (l : List Pt) (hw : ∀ p ∈ l, 0 ≤ p.w) {p q : Pt} (hp : p ∈ l) (hq : q ∈ l) (hne : q ≠ p)
    (hpw : 0 < p.w) (hqw : 0 < q.w) : 0 < Sw l * Sw l - Sww l := by
  -- leave one row out: `Σ_r (Σ_{t ≠ r} w_t) · w_r`
  have h : Sw l * Sw l - Sww l = S (fun r => (Sw l - r.w) * r.w) l := by
    simp only [Sww, sub_mul, S_sub, S_mul_left]; rfl
  have hr : ∀ r ∈ l, Sw l - r.w = Sw (l.erase r) := fun r hr =>
    sub_eq_of_eq_add' (S_perm _ (List.perm_cons_erase hr))
  have hnn : ∀ r ∈ l, ∀ t ∈ l.erase r, 0 ≤ t.w := fun r _ t ht => hw t (List.mem_of_mem_erase ht)
  rw [h]
  refine S_pos_of_mem l (fun r hr' => mul_nonneg ?_ (hw r hr')) p hp (mul_pos ?_ hpw)
  · rw [hr r hr']; exact S_nonneg _ (hnn r hr')
  · rw [hr p hp]; exact S_pos_of_mem _ (hnn p hp) q ((List.mem_erase_of_ne hne).mpr hq) hqw

theorem Sw_pos_of_D_pos (l : List Pt) (hw : ∀ p ∈ l, 0 ≤ p.w) (hD : 0 < D l) : 0 < Sw l := by
  refine lt_of_le_of_ne (S_nonneg l hw) fun h => ?_
  rw [D, ← h, zero_mul, zero_sub, neg_pos] at hD
  exact absurd hD (not_lt.mpr (sq_nonneg _))

theorem gradient_mul_D (l : List Pt) (hD : D l ≠ 0) : gradient l * D l = N l := div_mul_cancel₀ _ hD

theorem intercept_eq_mean (l : List Pt) : intercept l = meanY l - gradient l * meanX l := by
  rw [meanX, meanY, intercept, sub_div, mul_div_assoc]

theorem normal_eq1 (l : List Pt) (hS : Sw l ≠ 0) :
    Swy l - gradient l * Swx l - intercept l * Sw l = 0 :=
  sub_eq_zero.mpr (div_mul_cancel₀ _ hS).symm

theorem normal_eq2 (l : List Pt) (hD : D l ≠ 0) (hS : Sw l ≠ 0) :
    Swxy l - gradient l * Swxx l - intercept l * Swx l = 0 := by
  apply mul_left_cancel₀ hS
  calc _ = N l - gradient l * D l + Swx l * (Swy l - gradient l * Swx l - intercept l * Sw l) := by rw [N, D]; ring
    _ = Sw l * 0 := by rw [normal_eq1 l hS, gradient_mul_D l hD, sub_self, mul_zero, mul_zero, add_zero]

theorem quad_nonneg (u v : Rat) (l : List Pt) (hw : ∀ p ∈ l, 0 ≤ p.w) :
    0 ≤ u ^ 2 * Swxx l + 2 * u * v * Swx l + v ^ 2 * Sw l := by
  calc 0 ≤ S (fun p => p.w * (u * p.x + v) ^ 2) l := S_sq_nonneg _ l hw
    _ = _ := by
      simp only [Sw, Swx, Swxx, ← S_mul_left, ← S_add]
      exact S_congr l fun p => by ring

/-- Pythagoras for the weighted cost, about any line `g·x + c`; the last two terms are its normal equations -/
theorem cost_shift (g c a b : Rat) (l : List Pt) :
    cost a b l = cost g c l + S (fun p => p.w * ((a - g) * p.x + (b - c)) ^ 2) l
      - 2 * (a - g) * (Swxy l - g * Swxx l - c * Swx l) - 2 * (b - c) * (Swy l - g * Swx l - c * Sw l) := by
  simp only [cost, Sw, Swx, Swy, Swxx, Swxy, ← S_mul_left, ← S_sub, ← S_add]
  exact S_congr l fun p => by ring

theorem cost_excess (l : List Pt) (hD : D l ≠ 0) (hS : Sw l ≠ 0) (a b : Rat) :
    cost a b l = cost (gradient l) (intercept l) l
      + S (fun p => p.w * ((a - gradient l) * p.x + (b - intercept l)) ^ 2) l := by
  rw [cost_shift (gradient l) (intercept l) a b, normal_eq1 l hS, normal_eq2 l hD hS, mul_zero, mul_zero, sub_zero,
    sub_zero]

theorem centred_mean (u v : Pt → Rat) {a b : Rat} (l : List Pt) (hS : Sw l ≠ 0)
    (ha : a * Sw l = S (fun p => p.w * u p) l) (hb : b * Sw l = S (fun p => p.w * v p) l) :
    S (fun p => p.w * (u p - a) * (v p - b)) l =
      (Sw l * S (fun p => p.w * u p * v p) l - S (fun p => p.w * u p) l * S (fun p => p.w * v p) l) / Sw l := by
  have h : S (fun p => p.w * (u p - a) * (v p - b)) l = S (fun p => p.w * u p * v p) l
      - a * S (fun p => p.w * v p) l - b * S (fun p => p.w * u p) l + a * b * Sw l := by
    simp only [Sw, ← S_mul_left, ← S_sub, ← S_add]
    exact S_congr l fun p => by ring
  rw [h, eq_div_iff hS, ← ha, ← hb]
  ring

theorem sxy_eq (l : List Pt) (hS : Sw l ≠ 0) : sxy l = N l / Sw l :=
  centred_mean (·.x) (·.y) l hS (div_mul_cancel₀ _ hS) (div_mul_cancel₀ _ hS)

theorem sxx_eq (l : List Pt) (hS : Sw l ≠ 0) : sxx l = D l / Sw l := by
  rw [D, sq]
  exact (S_mul_self _ l).symm.trans (centred_mean (·.x) (·.x) l hS (div_mul_cancel₀ _ hS) (div_mul_cancel₀ _ hS))

theorem syy_eq (l : List Pt) (hS : Sw l ≠ 0) : syy l = Dy l / Sw l := by
  rw [Dy, sq]
  exact (S_mul_self _ l).symm.trans (centred_mean (·.y) (·.y) l hS (div_mul_cancel₀ _ hS) (div_mul_cancel₀ _ hS))

/-- total = residual + explained: `cost_excess` at the horizontal line through the centroid -/
theorem syy_decomp (l : List Pt) (hD : D l ≠ 0) (hS : Sw l ≠ 0) :
    syy l = cost (gradient l) (intercept l) l + gradient l ^ 2 * sxx l := by
  have hc : meanY l - intercept l = gradient l * meanX l := by rw [intercept_eq_mean, sub_sub_cancel]
  rw [sxx, syy, ← S_mul_left]
  refine (S_congr l fun p => ?_).trans ((cost_excess l hD hS 0 (meanY l)).trans (congrArg _ (S_congr l fun p => ?_)))
  · ring
  · rw [hc]; ring

theorem cost_opt (l : List Pt) (hD : D l ≠ 0) (hS : Sw l ≠ 0) :
    Sw l * D l * cost (gradient l) (intercept l) l = D l * Dy l - N l ^ 2 := by
  have hx : Sw l * sxx l = D l := by rw [sxx_eq l hS, mul_div_cancel₀ _ hS]
  have hy : Sw l * syy l = Dy l := by rw [syy_eq l hS, mul_div_cancel₀ _ hS]
  -- `Sw · D` times `syy = cost + g² · sxx`, read with `Sw · syy = Dy`, `Sw · sxx = D`, `g · D = N`; `hx` enters as the
  -- zero term `g² · D · (Sw · sxx − D)`, which leaves `ring` a polynomial identity
  rw [← gradient_mul_D l hD, ← hy, syy_decomp l hD hS]
  calc _ = D l * (Sw l * cost (gradient l) (intercept l) l) + gradient l ^ 2 * D l * (Sw l * sxx l - D l) := by
        rw [hx, sub_self, mul_zero, add_zero, mul_left_comm, mul_assoc]
    _ = _ := by ring

/-- the upper bound is the weighted Cauchy–Schwarz inequality `N² ≤ D · Dy`: their difference is `Sw · D` times the
optimal cost -/
theorem specRsq_bounds (l : List Pt) (hw : ∀ p ∈ l, 0 ≤ p.w) (hD : 0 < D l) (hDy : 0 < Dy l) :
    0 ≤ specRsq l ∧ specRsq l ≤ 1 := by
  have hS := Sw_pos_of_D_pos l hw hD
  refine ⟨div_nonneg (sq_nonneg _) (mul_pos hD hDy).le, (div_le_one (mul_pos hD hDy)).mpr ?_⟩
  rw [← sub_nonneg, ← cost_opt l hD.ne' hS.ne']
  exact mul_nonneg (mul_nonneg hS.le hD.le) (S_sq_nonneg _ l hw)

/-- `weighted_rsq` in closed form: the normalisation `fact` of the covariance matrix cancels -/
theorem rsqMech_eq (l : List Pt) (hS : Sw l ≠ 0) (hf : Sw l - Sww l / Sw l ≠ 0) :
    rsqMech l = if D l = 0 ∨ Dy l = 0 then none else some (min 1 (specRsq l)) := by
  -- the centred sums `rsqMech` spells out are `sxx`, `syy`, `sxy` unfolded (up to `S_mul_self`)
  have hx := (S_mul_self (fun p => p.x - Swx l / Sw l) l).trans (sxx_eq l hS)
  have hy := (S_mul_self (fun p => p.y - Swy l / Sw l) l).trans (syy_eq l hS)
  rw [rsqMech, hx, hy, show S (fun p => p.w * (p.x - Swx l / Sw l) * (p.y - Swy l / Sw l)) l = _ from sxy_eq l hS, specRsq]
  generalize Sw l - Sww l / Sw l = f at hf ⊢
  have hz : ∀ d : Rat, d / Sw l / f = 0 ↔ d = 0 := fun d => by
    rw [div_eq_zero_iff, div_eq_zero_iff, or_iff_left hf, or_iff_left hS]
  have h : N l / Sw l / f * (N l / Sw l / f) / (D l / Sw l / f * (Dy l / Sw l / f)) = N l ^ 2 / (D l * Dy l) := by
    rw [div_div, div_div, div_div, div_mul_div_comm, div_mul_div_comm,
      div_div_div_cancel_right₀ (mul_self_ne_zero.mpr (mul_ne_zero hS hf)), sq]
  rw [h]
  exact if_congr (or_congr (hz _) (hz _)) rfl rfl

end Pew.Calib
