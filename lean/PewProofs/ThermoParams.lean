import PewProofs.ThermoExport

/-! # C03 — parameters and the decimal mark

The parameters are a function of the image of the Time channel (`paramsOf_specImg`), so `readParams` on an export
follows from the reader theorems. `load` reads with the decimal mark it detects: on an export that is the mark the
file was written with, or no exported value holds a comma and the mark does not matter (`detect_export`). -/
namespace Pew.Thermo

/-- the `match` that `diffRow` and `specScantime` both write out -/
def dsub (a b : V) : V := match a, b with | some p, some q => some (q - p) | _, _ => none

theorem diffRow_range' (f : Nat → V) : ∀ (m s0 : Nat),
    diffRow ((List.range' s0 m).map f) = (List.range' s0 (m - 1)).map (fun s => dsub (f s) (f (s + 1)))
  | 0, _ => rfl
  | 1, _ => rfl
  | m + 2, s0 => by
    have ih := diffRow_range' f (m + 1) (s0 + 1)
    simp only [List.range'_succ, List.map_cons] at ih ⊢
    simp only [diffRow, Nat.add_one_sub_one] at ih ⊢
    rw [ih]
    rfl

theorem diffRow_range (f : Nat → V) (m : Nat) :
    diffRow ((List.range m).map f) = (List.range (m - 1)).map (fun s => dsub (f s) (f (s + 1))) := by
  rw [List.range_eq_range', List.range_eq_range']
  exact diffRow_range' f m 0

theorem paramsOf_specImg (x : Ext V) (comma : Bool) (a : Acq) (ct : Nat) (hk : 0 < a.elements.length) :
    paramsOf (specImg x comma a ct) = some (specParams x comma a ct) := by
  unfold paramsOf specImg specParams
  obtain ⟨k, hk'⟩ : ∃ k, a.elements.length = k + 1 := ⟨a.elements.length - 1, by omega⟩
  simp only [hk', List.range_succ_eq_map, List.map_cons]
  congr 3
  unfold specScantime
  rw [List.flatMap_map]
  congr 1
  have : ∀ i : Nat, diffRow ((List.range a.nscans).map fun s => x.parse (fixDec comma (a.value i s 0 ct)))
      = (List.range (a.nscans - 1)).map fun s =>
          match x.parse (fixDec comma (a.value i s 0 ct)), x.parse (fixDec comma (a.value i (s + 1) 0 ct)) with
          | some p, some q => some (q - p)
          | _, _ => none := by
    intro i
    rw [diffRow_range]
    rfl
  simp only [this]
  rfl

theorem readParams_true (x : Ext V) (comma : Bool) (t : Table) :
    readParams x true comma t = (readRows x comma "Time" t).bind paramsOf := by
  -- `rfl` here lets the unifier unfold `readRows`
  rw [readParams, if_pos rfl]

theorem readParams_false (x : Ext V) (comma : Bool) (t : Table) :
    readParams x false comma t = (readCols x comma "Time" t).bind paramsOf := by
  rw [readParams, if_neg Bool.false_ne_true]

theorem RowsOK.readParams {x : Ext V} {sh : Nat → String} {a : Acq} {ct : Nat} (h : RowsOK x sh a ct)
    (htime : a.chan ct = "Time") (comma : Bool) :
    Thermo.readParams x true comma (renderRows sh a) = some (specParams x comma a ct) := by
  rw [readParams_true, ← htime, h.readRows comma]
  exact paramsOf_specImg x comma a ct h.nelements

theorem ColsOK.readParams {x : Ext V} {sh : Nat → String} {comma : Bool} {a : Acq} {ct : Nat} (h : ColsOK x sh comma a ct)
    (htime : a.chan ct = "Time") : Thermo.readParams x false comma (renderCols sh a) = some (specParams x comma a ct) := by
  rw [readParams_false, ← htime, h.readCols]
  exact paramsOf_specImg x comma a ct h.nelements

/-! ## exports without a Time channel: the parameters cannot be read (`load` hands back `{}`) -/

theorem readParams_rows_noTime (x : Ext V) (sh : Nat → String) (comma : Bool) (a : Acq)
    (h : a.chanIdx "Time" = none) :
    readParams x true comma (renderRows sh a) = none := by
  rw [readParams_true, readRows_absent x sh comma a "Time" fun c hc ht =>
    chanIdx_none a "Time" h c hc (eq_of_trunc_eq ht (by decide))]
  rfl

theorem readParams_cols_noTime (x : Ext V) (sh : Nat → String) (comma : Bool) (a : Acq)
    (h : ColsAbsent sh a "Time") :
    readParams x false comma (renderCols sh a) = none := by
  rw [readParams_false, readCols_absent x sh comma a "Time" h]
  rfl

theorem hasSubC_comma : ∀ (s : List Char), hasSubC [','] s = s.any (fun c => c == ',')
  | [] => rfl
  | c :: t => by
    simp only [hasSubC, List.isPrefixOf, List.any_cons, hasSubC_comma t]
    have : (',' == c) = (c == ',') := by
      by_cases hc : c = ','
      · subst hc; rfl
      · have h1 : (',' == c) = false := beq_false_of_ne (fun e => hc e.symm)
        have h2 : (c == ',') = false := beq_false_of_ne hc
        rw [h1, h2]
    rw [this]
    simp

theorem fixDec_noComma (b : Bool) (s : String) (h : hasSub "," s = false) : fixDec b s = s := by
  cases b with
  | false => rfl
  | true =>
    simp only [fixDec, if_true]
    have hc : s.toList.any (fun c => c == ',') = false := by
      have : hasSub "," s = hasSubC [','] s.toList := rfl
      rw [this, hasSubC_comma] at h
      exact h
    have : s.toList.map (fun c => if c == ',' then '.' else c) = s.toList := by
      rw [List.any_eq_false] at hc
      conv => rhs; rw [← List.map_id s.toList]
      apply List.map_congr_left
      intro c hcm
      have := hc c hcm
      simp [this]
    rw [this, String.ofList_toList]

theorem specImg_congr {α : Type} (x : Ext α) {b b' : Bool} {a a' : Acq} {c c' : Nat}
    (hs : a'.samples.length = a.samples.length) (hm : a'.nscans = a.nscans) (he : a'.elements = a.elements)
    (h : ∀ i, i < a.samples.length → ∀ s, s < a.nscans → ∀ e, e < a.elements.length →
      x.parse (fixDec b' (a'.value i s e c')) = x.parse (fixDec b (a.value i s e c))) :
    specImg x b' a' c' = specImg x b a c := by
  unfold specImg
  rw [he, hs, hm]
  congr 1
  exact List.map_congr_left fun e he => List.map_congr_left fun i hi => List.map_congr_left fun s hs =>
    h i (List.mem_range.mp hi) s (List.mem_range.mp hs) e (List.mem_range.mp he)

theorem any_any_false {t : Table} {p : String → Bool} :
    t.any (fun r => r.any p) = false ↔ ∀ r ∈ t, ∀ f ∈ r, p f = false := by
  simp only [List.any_eq_false, Bool.not_eq_true]

theorem detectComma_false (delim : Char) (t : Table) (h : ∀ r ∈ t, ∀ f ∈ r, hasSub "," f = false) :
    detectComma delim t = false := by
  unfold detectComma
  rw [any_any_false.mpr h, Bool.and_false]

theorem detect_export {a : Acq} {t : Table} (ht : IsExport a t) (delim : Char) (dec : Bool)
    (hdec : dec = true → delim = ';') (hnodec : dec = false → ∀ q ∈ t, ∀ f ∈ q, hasSub "," f = false) :
    detectComma delim t = dec ∨ ∀ c, c < a.channels.length →
      ∀ i, i < a.samples.length → ∀ s, s < a.nscans → ∀ e, e < a.elements.length → hasSub "," (a.value i s e c) = false := by
  have hfree : (∀ q ∈ t, ∀ f ∈ q, hasSub "," f = false) → ∀ c, c < a.channels.length →
      ∀ i, i < a.samples.length → ∀ s, s < a.nscans → ∀ e, e < a.elements.length → hasSub "," (a.value i s e c) = false :=
    fun h _ hc _ hi _ hs _ he =>
      let ⟨q, hq, hf⟩ := ht.values hi hs he hc
      h q hq _ hf
  cases dec with
  | false => exact Or.inr (hfree (hnodec rfl))
  | true =>
    cases hd : detectComma delim t with
    | true => exact Or.inl rfl
    | false =>
      -- the first conjunct of `detectComma` holds (first line `"" :: g :: r`, delimiter `;`): `hd` is about the commas alone
      obtain ⟨g, r, rest, rfl⟩ := ht.form
      simp only [detectComma, hdec rfl, BEq.rfl, Bool.true_and] at hd
      exact Or.inr (hfree (any_any_false.mp hd))

theorem specImg_detect {α : Type} {a : Acq} {t : Table} (ht : IsExport a t) (x : Ext α) (delim : Char) (dec : Bool)
    (hdec : dec = true → delim = ';') (hnodec : dec = false → ∀ q ∈ t, ∀ f ∈ q, hasSub "," f = false)
    {ci : Nat} (hci : ci < a.channels.length) : specImg x (detectComma delim t) a ci = specImg x dec a ci := by
  rcases detect_export ht delim dec hdec hnodec with h | h
  · rw [h]
  · exact specImg_congr x rfl rfl rfl fun i hi s hs e he => by
      rw [fixDec_noComma _ _ (h ci hci i hi s hs e he), fixDec_noComma _ _ (h ci hci i hi s hs e he)]

theorem specParams_detect {a : Acq} {t : Table} (ht : IsExport a t) (x : Ext V) (delim : Char) (dec : Bool)
    (hdec : dec = true → delim = ';') (hnodec : dec = false → ∀ q ∈ t, ∀ f ∈ q, hasSub "," f = false)
    {ct : Nat} (hct : ct < a.channels.length) (hk : 0 < a.elements.length) :
    specParams x (detectComma delim t) a ct = specParams x dec a ct :=
  -- the parameters are a function of the image of the Time channel
  Option.some.inj <| by
    rw [← paramsOf_specImg x _ a ct hk, ← paramsOf_specImg x _ a ct hk, specImg_detect ht x delim dec hdec hnodec hct]

end Pew.Thermo
