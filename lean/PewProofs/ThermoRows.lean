import PewProofs.Thermo

/-! # C03 — the samples-in-rows reader on an export: `gather` over the columns of the requested channel
(`readRows_renderRows`), hence `specImg` under `RowsOK` -/
namespace Pew.Thermo

/-- hypotheses for reading channel `ci` back from the samples-in-rows export -/
structure RowsOK {α : Type} (x : Ext α) (sh : Nat → String) (a : Acq) (ci : Nat) : Prop where
  nscans : 0 < a.nscans
  nelements : 0 < a.elements.length
  distinct : a.elements.Nodup
  /-- labels fit the 32-character name field -/
  labels : ∀ e ∈ a.elements, trunc 32 e = e
  chanIdx : ci < a.channels.length
  /-- the channel row is compared after truncation to 7 characters: the requested channel is recognisable -/
  chans : ∀ c, c < a.channels.length → (trunc 7 (a.chan c) == a.chan ci) = (c == ci)
  /-- scan numbers survive `str` → 16-character field → `int` -/
  scans : ∀ s, s < a.nscans → x.readInt (trunc 16 (sh s)) = some (s : Int)

theorem RowsOK.of_eq {α : Type} {x : Ext α} {sh : Nat → String} {a a' : Acq} {ci : Nat} (h : RowsOK x sh a ci)
    (hm : a'.nscans = a.nscans) (he : a'.elements = a.elements) (hc : a'.channels = a.channels) :
    RowsOK x sh a' ci := by
  cases a; cases a'
  subst hm he hc
  exact ⟨h.1, h.2, h.3, h.4, h.5, h.6, h.7⟩

def blankHdr : Hdr := { run := "", scan := "", name := "", type := "" }

/-- the column of the line terminators: the last field of every rendered line -/
def eolHdr : Hdr := { run := "\n", scan := "\n", name := "\n", type := "\n" }

def hdrOf (sh : Nat → String) (a : Acq) (x : Nat × Nat × Nat) : Hdr :=
  { run := "MainRuns", scan := sh x.1, name := a.elem x.2.1, type := a.chan x.2.2 }

theorem colOk_eol (chan : String) : colOk chan eolHdr = false := by
  have : (trunc 8 "\n" == "MainRuns") = false := by decide +kernel
  simp [colOk, eolHdr, this]

theorem colOk_blank (chan : String) : colOk chan blankHdr = false := by
  have : (trunc 8 "" == "MainRuns") = false := by decide +kernel
  simp [colOk, blankHdr, this]

theorem trunc8_mainruns : (trunc 8 "MainRuns" == "MainRuns") = true := by decide +kernel

theorem zipHdr_map {β : Type} (f1 f2 f3 f4 : β → String) (r1 r2 r3 r4 : Row) : ∀ (l : List β),
    zipHdr (l.map f1 ++ r1) (l.map f2 ++ r2) (l.map f3 ++ r3) (l.map f4 ++ r4)
      = l.map (fun x => { run := f1 x, scan := f2 x, name := f3 x, type := f4 x }) ++ zipHdr r1 r2 r3 r4
  | [] => rfl
  | a :: t => by
    simp only [List.map_cons, List.cons_append, zipHdr]
    rw [zipHdr_map f1 f2 f3 f4 r1 r2 r3 r4 t]

def rowsSel (m k ci : Nat) : List (Nat × Nat × Nat) :=
  (List.range m).flatMap fun s => (List.range k).map fun e => (s, e, ci)

theorem mem_rowsSel {m k ci : Nat} {x : Nat × Nat × Nat} : x ∈ rowsSel m k ci ↔ x.1 < m ∧ x.2.1 < k ∧ x.2.2 = ci := by
  unfold rowsSel
  simp only [List.mem_flatMap, List.mem_range, List.mem_map]
  constructor
  · rintro ⟨s, hs, e, he, rfl⟩; exact ⟨hs, he, rfl⟩
  · rintro ⟨h1, h2, h3⟩; exact ⟨x.1, h1, x.2.1, h2, by rw [← h3]⟩

theorem mem_enumRows {m k C : Nat} {x : Nat × Nat × Nat} : x ∈ enumRows m k C ↔ x.1 < m ∧ x.2.1 < k ∧ x.2.2 < C := by
  unfold enumRows
  simp only [List.mem_flatMap, List.mem_range, List.mem_map]
  constructor
  · rintro ⟨s, hs, e, he, c, hc, rfl⟩; exact ⟨hs, he, hc⟩
  · rintro ⟨h1, h2, h3⟩; exact ⟨x.1, h1, x.2.1, h2, x.2.2, h3, rfl⟩

theorem enumRows_filter (m k C ci : Nat) (h : ci < C) (p : Nat × Nat × Nat → Bool)
    (hp : ∀ y ∈ enumRows m k C, p y = (y.2.2 == ci)) : (enumRows m k C).filter p = rowsSel m k ci := by
  rw [List.filter_congr hp]
  -- of the channels of one (scan, element) the filter keeps `[ci]`; a `flatMap` of singletons is a `map`
  simp only [enumRows, rowsSel, List.filter_flatMap, List.filter_map, Function.comp_def, filter_range_eq C ci h, List.map_cons,
    List.map_nil, ← List.map_eq_flatMap]

theorem rowsSel_filter_elem (m k ci ei : Nat) (h : ei < k) :
    (rowsSel m k ci).filter (fun y => y.2.1 == ei) = (List.range m).map (fun s => (s, ei, ci)) := by
  simp only [rowsSel, List.filter_flatMap, List.filter_map, Function.comp_def, filter_range_eq k ei h, List.map_cons,
    List.map_nil, ← List.map_eq_flatMap]

theorem colOk_hdrOf (sh : Nat → String) (a : Acq) (chan : String) (x : Nat × Nat × Nat) :
    colOk chan (hdrOf sh a x) = (trunc 7 (a.chan x.2.2) == chan) := by
  simp [colOk, hdrOf, trunc8_mainruns]

theorem filter_hdrs {ι : Type} (chan : String) (H : ι → Hdr) (cells : List ι) :
    (blankHdr :: blankHdr :: (cells.map H ++ [eolHdr])).filter (colOk chan) = (cells.filter fun y => colOk chan (H y)).map H := by
  simp only [List.filter_cons, colOk_blank, colOk_eol, Bool.false_eq_true, if_false, List.filter_append, List.filter_nil,
    List.append_nil, List.filter_map, Function.comp_def]

theorem filter_row {ι β : Type} (chan : String) (H : ι → Hdr) (v : ι → String) (g : String × Hdr → β) (f0 f1 z : String)
    (cells : List ι) :
    (((f0 :: f1 :: (cells.map v ++ [z])).zip (blankHdr :: blankHdr :: (cells.map H ++ [eolHdr]))).filter
      fun p => colOk chan p.2).map g = (cells.filter fun y => colOk chan (H y)).map fun y => g (v y, H y) := by
  rw [List.zip_cons_cons, List.zip_cons_cons, zip_map_append_single]
  simp only [List.filter_cons, colOk_blank, colOk_eol, Bool.false_eq_true, if_false, List.filter_append, List.filter_nil,
    List.append_nil, List.filter_map, List.map_map, Function.comp_def]

theorem any_hdrs {ι : Type} (H : ι → Hdr) (cells : List ι) (y : ι) (hy : y ∈ cells)
    (hrun : (trunc 8 (H y).run == "MainRuns") = true) :
    (blankHdr :: blankHdr :: (cells.map H ++ [eolHdr])).any (fun h => trunc 8 h.run == "MainRuns") = true := by
  simp only [List.any_cons, List.any_append, List.any_map, Bool.or_eq_true]
  exact Or.inr (Or.inr (Or.inl (List.any_eq_true.mpr ⟨y, hy, hrun⟩)))

theorem gfLines_rows (comma : Bool) {ι : Type} (cells : List ι) (name : Nat → String) (v : Nat → ι → String) (n : Nat) :
    gfLinesWith gfSplit comma ((List.range n).map fun i => name i :: "<Identifier>" :: (cells.map (v i) ++ ["\n"]))
      = (List.range n).map fun i => lstrip (fixDec comma (name i)) :: "<Identifier>" ::
          (cells.map (fun y => fixDec comma (v i y)) ++ [""]) := by
  apply gfLines_map
  · intro i _
    simp only [List.map_cons, List.map_append, List.map_map, List.map_nil, fixDec_ident, fixDec_eol]
    exact gfSplit_line _ ("<Identifier>" :: cells.map _)
  · intro i _; rfl

theorem firstApp_rowsSel (a : Acq) (hnd : a.elements.Nodup) (m ci : Nat) (hm : 0 < m) :
    firstApp ((rowsSel m a.elements.length ci).map fun y => a.elem y.2.1) = a.elements := by
  have : (rowsSel m a.elements.length ci).map (fun y => a.elem y.2.1) = (List.range m).flatMap (fun _ => a.elements) := by
    unfold rowsSel
    rw [List.map_flatMap]
    congr 1
    funext s
    rw [List.map_map]
    exact Lists.map_getD_range a.elements ""
  rw [this, firstApp_blocks a.elements hnd m hm]

/-- for ANY requested channel: `gather` over the columns whose channel field, cut to 7 characters, is the requested
name (none, one channel's, or several channels' columns) -/
theorem readRows_renderRows {α : Type} (x : Ext α) (sh : Nat → String) (comma : Bool) (a : Acq) (chan : String)
    {sel : List (Nat × Nat × Nat)}
    (hsel : (enumRows a.nscans a.elements.length a.channels.length).filter (fun y => trunc 7 (a.chan y.2.2) == chan) = sel)
    (hsc : ∀ y ∈ sel, x.readInt (trunc 16 (sh y.1)) = some (y.1 : Int)) :
    readRows x comma chan (renderRows sh a) =
      gather a.samples.length (fun y => trunc 32 (a.elem y.2.1)) (fun y => (y.1 : Int))
        (fun i y => x.parse (fixDec comma (a.value i y.1 y.2.1 y.2.2))) sel := by
  unfold renderRows readRows readRowsWith
  simp only [List.cons_append, List.nil_append, List.getD_cons_zero, List.getD_cons_succ, List.length_cons, List.length_append,
    List.length_map, List.length_nil, Nat.max_self, List.drop_succ_cons, List.drop_zero]
  rw [bcast_self _ _ (by simp), bcast_self _ _ (by simp)]
  simp only [List.length_cons, List.length_append, List.length_map, List.length_nil,
    BEq.rfl, Bool.and_self, Bool.not_true, Bool.false_eq_true, if_false]
  simp only [zipHdr]
  rw [zipHdr_map]
  -- the header records are folded before `filter_hdrs` / `any_hdrs` can fire; left to unification, the header function
  -- makes `whnf` evaluate `trunc 8 "MainRuns"` against a metavariable, which is very slow
  show readRowsHWith gfSplit x comma chan (blankHdr :: blankHdr :: (List.map (hdrOf sh a) _ ++ [eolHdr])) _ = _
  unfold readRowsHWith gather
  rw [gfLines_rows]
  simp only [filter_hdrs, filter_row, List.map_map, Function.comp_def, colOk_hdrOf, hsel]
  by_cases hne : sel = []
  · subst hne
    simp only [List.map_nil, List.isEmpty_nil, if_true, ite_self]
  · obtain ⟨y0, hy0⟩ := List.exists_mem_of_ne_nil _ hne
    -- not `hsel ▸ hy0`: that unfolds the reader
    rw [← hsel] at hy0
    rw [any_hdrs (hdrOf sh a) _ y0 (List.mem_filter.mp hy0).1 trunc8_mainruns]
    simp only [hdrOf, allSome_map (fun y : Nat × Nat × Nat => x.readInt (trunc 16 (sh y.1))) (fun y => (y.1 : Int)) _ hsc,
      List.isEmpty_iff, List.map_eq_nil_iff, hne, Bool.false_eq_true, if_false, Bool.not_true, List.any_map]
    -- no sample row ends before a selected column: each holds one value per member of `sel`
    rw [if_neg (by simp)]
    simp only [List.filter_map, List.length_map, List.map_map, Function.comp_def]
    rfl

theorem RowsOK.readRows {α : Type} {x : Ext α} {sh : Nat → String} {a : Acq} {ci : Nat} (h : RowsOK x sh a ci) (comma : Bool) :
    Thermo.readRows x comma (a.chan ci) (renderRows sh a) = some (specImg x comma a ci) := by
  rw [readRows_renderRows x sh comma a _
    (enumRows_filter _ _ _ ci h.chanIdx _ fun y hy => h.chans _ (mem_enumRows.mp hy).2.2)
    fun y hy => h.scans _ (mem_rowsSel.mp hy).1]
  exact gather_cells x comma _ h.nscans h.nelements h.distinct ⟨mem_rowsSel, firstApp_rowsSel a h.distinct _ ci h.nscans, rowsSel_filter_elem _ _ ci⟩
    fun y hy => h.labels _ (elem_mem a _ (mem_rowsSel.mp hy).2.1)

theorem readRows_absent {α : Type} (x : Ext α) (sh : Nat → String) (comma : Bool) (a : Acq) (chan : String)
    (h : ∀ c, c < a.channels.length → trunc 7 (a.chan c) ≠ chan) :
    readRows x comma chan (renderRows sh a) = none :=
  readRows_renderRows x sh comma a chan
    (List.filter_eq_nil_iff.mpr fun y hy => by simpa using h _ (mem_enumRows.mp hy).2.2) fun _ hy => nomatch hy

theorem readRowsWith_congr {α : Type} {split split' : Row → Row} (x : Ext α) (comma : Bool) (chan : String) {t t' : Table}
    (hh : ∀ i, i < 4 → t'.getD i [""] = t.getD i [""])
    (hb : gfLinesWith split' comma (t'.drop 4) = gfLinesWith split comma (t.drop 4)) :
    readRowsWith split' x comma chan t' = readRowsWith split x comma chan t := by
  unfold readRowsWith readRowsHWith
  simp only [hh 0 (by omega), hh 1 (by omega), hh 2 (by omega), hh 3 (by omega), hb]

end Pew.Thermo
