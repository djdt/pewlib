import PewProofs.AgilentLists
import PewProofs.MergeSort

/-! C02, the CSV import: a well-formed export read line by line gives the table `tableOf`; a line of the image is
`csvCols` of that table for mechanism and specification alike, with its cells and its shape; the header's names after the
renaming from the method file, whose element sort returns any strictly ascending permutation. -/
namespace Pew.Agilent

theorem validLines_past (n : Nat) (data foot : List Name)
    (hdata : ∀ l ∈ data, countCommas l = n)
    (hfoot : ∀ l ∈ foot, countCommas l ≠ n ∧ startsWithTime l = false) :
    validLines true n (data ++ foot) = data := by
  induction data with
  | nil =>
    simp only [List.nil_append]
    induction foot with
    | nil => rfl
    | cons f fs ih =>
      have hf := hfoot f (by simp)
      rw [validLines]
      have h1 : (true && countCommas f == n) = false := by simp [hf.1]
      rw [h1, hf.2]
      exact ih (fun l hl => hfoot l (by simp [hl]))
  | cons d ds ih =>
    rw [List.cons_append, validLines]
    have h1 : (true && countCommas d == n) = true := by simp [hdata d (by simp)]
    rw [h1]
    simp only [if_true]
    rw [ih (fun l hl => hdata l (by simp [hl]))]

theorem validLines_pre (pre rest : List Name) (hpre : ∀ l ∈ pre, startsWithTime l = false) :
    validLines false 0 (pre ++ rest) = validLines false 0 rest := by
  induction pre with
  | nil => rfl
  | cons p ps ih =>
    rw [List.cons_append, validLines]
    rw [hpre p (by simp)]
    exact ih (fun l hl => hpre l (by simp [hl]))

theorem validLines_header {header : Name} (rest : List Name) (hh : startsWithTime header = true) :
    validLines false 0 (header :: rest) = header :: validLines true (countCommas header) rest := by
  rw [validLines]
  simp only [Bool.false_and, Bool.false_eq_true, if_false, hh, if_true]

theorem splitOn_eq : splitOn = Lists.splitOn := by
  funext c s
  induction s with
  | nil => rfl
  | cons x xs ih =>
    rw [splitOn, Lists.splitOn, ih]
    cases h : Lists.splitOn c xs with
    | nil => exact absurd h (Lists.splitOn_ne_nil c xs)
    | cons f fs => rfl

theorem splitOn_ne_nil (c : Char) (s : Name) : splitOn c s ≠ [] :=
  splitOn_eq ▸ Lists.splitOn_ne_nil c s

theorem splitOn_nocomma (f : Name) (h : ',' ∉ f) : splitOn ',' f = [f] :=
  splitOn_eq ▸ Lists.splitOn_of_not_mem ',' h

theorem splitOn_append_comma (f rest : Name) (h : ',' ∉ f) :
    splitOn ',' (f ++ ',' :: rest) = f :: splitOn ',' rest :=
  splitOn_eq ▸ Lists.splitOn_append ',' rest h

theorem joinFields_eq : joinFields = Lists.join ',' := by
  funext fs
  induction fs with
  | nil => rfl
  | cons f fs ih =>
    cases fs with
    | nil => rfl
    | cons g gs => rw [joinFields, Lists.join, ih]; exact nofun

theorem splitOn_joinFields (fs : List Name) (hne : fs ≠ []) (h : ∀ f ∈ fs, ',' ∉ f) :
    splitOn ',' (joinFields fs) = fs :=
  splitOn_eq ▸ joinFields_eq ▸ Lists.splitOn_join ',' hne h

theorem count_joinFields (fs : List Name) (hne : fs ≠ []) (h : ∀ f ∈ fs, ',' ∉ f) :
    countCommas (joinFields fs) = fs.length - 1 := by
  induction fs with
  | nil => exact absurd rfl hne
  | cons f rest ih =>
    cases rest with
    | nil =>
      simp only [joinFields, countCommas, List.length_singleton]
      exact List.count_eq_zero.mpr (h f (by simp))
    | cons g gs =>
      have := ih (by simp) (fun x hx => h x (by simp [hx]))
      simp only [joinFields, countCommas] at this ⊢
      rw [List.count_append, List.count_cons_self, this, List.count_eq_zero.mpr (h f (by simp))]
      simp

theorem strip_line {c : CsvFile} (W : CsvWF c) (fs : List Name) (hfs : fs ∈ c.header :: c.rows) :
    stripChars (fun ch => ch = ' ' || ch = '\r' || ch = '\n') (joinFields fs ++ c.eol) = joinFields fs := by
  obtain ⟨hne, h1, h2⟩ := W.ends fs hfs
  -- `stripChars p` unfolds to `Lists.strip p` and `lineWs` to the splitter's test: `exact` sees through both
  exact Lists.strip_append W.eol_blank (fun _ hc => (List.head_eq_iff_head?_eq_some hne).mpr hc ▸ h1)
    (fun _ hc => (List.getLast_eq_iff_getLast?_eq_some hne).mpr hc ▸ h2)

theorem CsvWF.length_eq {c : CsvFile} (W : CsvWF c) {fs : List Name} (hfs : fs ∈ c.header :: c.rows) :
    fs.length = c.header.length ∧ fs ≠ [] := by
  have hl : fs.length = c.header.length := by
    rcases List.mem_cons.mp hfs with rfl | h
    · rfl
    · exact W.width fs h
  exact ⟨hl, fun e => W.header_ne (List.length_eq_zero_iff.mp (hl ▸ e ▸ rfl))⟩

theorem fields_line {c : CsvFile} (W : CsvWF c) (fs : List Name) (hfs : fs ∈ c.header :: c.rows) :
    fields (joinFields fs ++ c.eol) = fs := by
  rw [fields, strip_line W fs hfs]
  exact splitOn_joinFields fs (W.length_eq hfs).2 (W.nocomma fs hfs)

theorem count_line {c : CsvFile} (W : CsvWF c) (fs : List Name) (hfs : fs ∈ c.header :: c.rows) :
    countCommas (joinFields fs ++ c.eol) = c.header.length - 1 := by
  have h1 := count_joinFields fs (W.length_eq hfs).2 (W.nocomma fs hfs)
  have h2 : countCommas c.eol = 0 := List.count_eq_zero.mpr fun h => by
    have := W.eol_blank ',' h
    simp [lineWs] at this
  unfold countCommas at *
  rw [List.count_append, h1, h2, (W.length_eq hfs).1]; rfl

theorem validLines_lines {c : CsvFile} (W : CsvWF c) :
    validLines false 0 c.lines = (c.header :: c.rows).map fun fs => joinFields fs ++ c.eol := by
  have hlines : c.lines = c.pre.map (· ++ c.eol) ++ (joinFields c.header ++ c.eol) ::
      ((c.rows.map (fun r => joinFields r ++ c.eol)) ++ c.foot.map (· ++ c.eol)) := by
    simp [CsvFile.lines, List.map_append, List.map_map, Function.comp_def]
  rw [hlines, validLines_pre _ _ (List.forall_mem_map.mpr W.pre), validLines_header _ W.head, count_line W c.header List.mem_cons_self,
    validLines_past _ _ _ (List.forall_mem_map.mpr fun r hr => count_line W r (List.mem_cons_of_mem _ hr))
      (List.forall_mem_map.mpr W.foot)]
  rfl

def tableOf (c : CsvFile) : Table :=
  { names := c.header.map validName, rows := c.rows.map (fun r => r.filterMap parseDec) }

theorem CsvWF.isSome_parse {c : CsvFile} (W : CsvWF c) {r : List Name} (hr : r ∈ c.rows) : ∀ f ∈ r, (parseDec f).isSome :=
  fun f hf => Option.isSome_iff_exists.mpr (W.parse r hr f hf)

theorem tableOf_width {c : CsvFile} (W : CsvWF c) : ∀ row ∈ (tableOf c).rows, row.length = c.header.length := by
  intro row hrow
  obtain ⟨x, hx, rfl⟩ := List.mem_map.mp hrow
  rw [Lists.length_filterMap_of_isSome (W.isSome_parse hx), W.width x hx]

theorem tableOf_cell {c : CsvFile} (W : CsvWF c) (r j : Nat) :
    ((tableOf c).rows[r]?).bind (·[j]?) = ((c.rows[r]?).bind (·[j]?)).bind parseDec := by
  rw [tableOf, List.getElem?_map]
  cases hr : c.rows[r]? with
  | none => rfl
  | some row => exact Lists.getElem?_filterMap_of_isSome (W.isSome_parse (List.mem_of_getElem? hr)) j

theorem readCsv_lines {c : CsvFile} (W : CsvWF c) : readCsv c.lines = some (tableOf c) := by
  unfold readCsv
  rw [validLines_lines W, List.map_cons]
  simp only
  rw [fields_line W c.header List.mem_cons_self]
  -- no data line is blank
  have hfilter : (c.rows.map (fun r => joinFields r ++ c.eol)).filter
      (fun l => !(stripChars (fun ch => ch = ' ' || ch = '\r' || ch = '\n') l).isEmpty)
      = c.rows.map (fun r => joinFields r ++ c.eol) := by
    refine List.filter_eq_self.mpr (List.forall_mem_map.mpr fun r hr => ?_)
    rw [strip_line W r (List.mem_cons_of_mem _ hr)]
    obtain ⟨hne, _, _⟩ := W.ends r (List.mem_cons_of_mem _ hr)
    cases hj : joinFields r with
    | nil => exact absurd hj hne
    | cons a as => rfl
  rw [hfilter, List.map_map]
  have hrows : allSome (c.rows.map ((fun l => allSome ((fields l).map parseDec)) ∘ (fun r => joinFields r ++ c.eol)))
      = some (tableOf c).rows :=
    allSome_map_of_forall _ _ _ fun r hr => by
      simp only [Function.comp]
      rw [fields_line W r (List.mem_cons_of_mem _ hr)]
      exact allSome_map_eq_filterMap (W.isSome_parse hr)
  rw [hrows]
  simp only
  rw [List.all_eq_true.mpr fun x hx => decide_eq_true (by rw [tableOf_width W x hx, List.length_map])]
  rfl

theorem filterMap_id_map_option {β γ δ : Type} (l : List β) (g : β → Option γ) (h : γ → δ) :
    (l.map (fun f => (g f).map h)).filterMap id = (l.filterMap g).map h := by
  rw [List.filterMap_map, List.map_filterMap]; rfl

/-- The three per-line lemmas `readLine_of_wf`, `shapeOk_tableOf`, `csvLineSpec_eq_csvCols` take the hypothesis on a data
file in the shape their callers hold it (the four-part bundle `hfiles f hf` of `csv_pixel`); the parts a lemma does not
use are the variables `Q`, `P`. -/
theorem readLine_of_wf {csv : Option CsvFile} {P : CsvFile → Prop} (h : ∀ c, csv = some c → CsvWF c ∧ P c) :
    readLine csv = some (csv.map tableOf) := by
  cases csv with
  | none => rfl
  | some c => rw [readLine, readCsv_lines (h c rfl).1]; rfl

theorem shapeOk_tableOf {ncol nscan : Nat} {csv : Option CsvFile} {Q P : CsvFile → Prop}
    (h : ∀ c, csv = some c → Q c ∧ c.header.length = ncol ∧ c.rows.length = nscan ∧ P c) :
    shapeOk nscan ncol (csv.map tableOf) = true := by
  cases csv with
  | none => rfl
  | some c => obtain ⟨_, h1, h2, _⟩ := h c rfl; simp [shapeOk, tableOf, h1, h2]

theorem csvLineSpec_eq_csvCols {ncol nscan : Nat} {csv : Option CsvFile} {P : CsvFile → Prop}
    (h : ∀ c, csv = some c → CsvWF c ∧ c.header.length = ncol ∧ c.rows.length = nscan ∧ P c) :
    csvLineSpec ncol nscan csv = some (csvCols ncol nscan (csv.map tableOf)) := by
  cases csv with
  | none => rfl
  | some c =>
    obtain ⟨W, h1, h2, _⟩ := h c rfl
    unfold csvLineSpec csvCols transpose csvRows
    simp only [Option.map_some, tableOf, List.length_map, h2, if_true]
    refine allSome_map_of_forall _ _ _ fun j hj => ?_
    rw [List.map_map]
    refine allSome_map_of_forall _ _ _ fun r hr => ?_
    -- field `j` of a row parses to entry `j` of the parsed row
    have hlen : j < (r.filterMap parseDec).length := by
      rw [Lists.length_filterMap_of_isSome (W.isSome_parse hr), W.width r hr, h1]
      exact List.mem_range.mp hj
    rw [Function.comp, ← Lists.getElem?_filterMap_of_isSome (W.isSome_parse hr),
      List.getD_eq_getElem?_getD, List.getElem?_eq_getElem hlen, Option.getD_some]

theorem csvCols_shape (ncol nscan : Nat) (t : Option Table) :
    (csvCols ncol nscan t).length = ncol ∧ ∀ col ∈ csvCols ncol nscan t, col.length = nscan := by
  cases t with
  | none => exact ⟨List.length_replicate, fun col h => List.eq_of_mem_replicate h ▸ List.length_replicate⟩
  | some t =>
    refine ⟨by rw [csvCols, transpose, List.length_map, List.length_range], fun col h => ?_⟩
    obtain ⟨j, -, rfl⟩ := List.mem_map.mp h
    rw [List.length_map, csvRows]
    split
    · assumption
    · exact List.length_replicate

theorem csvCols_cell {ncol nscan j r : Nat} (hj : j < ncol) (t : Table) (hrows : ∀ row ∈ t.rows, row.length = ncol)
    (hn : t.rows.length = nscan) (hr : r < nscan) :
    ((csvCols ncol nscan (some t))[j]?).bind (fun col => col[r]?) = (t.rows[r]?).bind (fun row => row[j]?) := by
  subst hn
  have hlen : j < (t.rows[r]).length := by rw [hrows _ (List.getElem_mem hr)]; exact hj
  simp [csvCols, csvRows, transpose, hj, hr, List.getD, hlen]

theorem csvCols_tableOf_cell {ncol nscan : Nat} {c : CsvFile} (W : CsvWF c) (h1 : c.header.length = ncol)
    (h2 : c.rows.length = nscan) {j r : Nat} (hj : j < ncol) (hr : r < nscan) :
    ((csvCols ncol nscan (some (tableOf c)))[j]?).bind (·[r]?) = ((c.rows[r]?).bind (·[j]?)).bind parseDec := by
  rw [csvCols_cell hj (tableOf c) (h1 ▸ tableOf_width W) (by rw [tableOf, List.length_map, h2]) hr, tableOf_cell W]

theorem renameFields_full (t : Name) (rest ns : List Name) (h : ns.length = rest.length) :
    renameFields (t :: rest) ns = t :: ns := by
  show t :: (List.range rest.length).map (fun i => (ns[i]?).getD (rest.getD i [])) = t :: ns
  congr 1
  apply List.ext_getElem
  · rw [List.length_map, List.length_range, h]
  · intro i h1 h2
    rw [List.getElem_map, List.getElem_range, List.getElem?_eq_getElem h2]; rfl

theorem csvNames?_header {header : List Name} {ncol : Nat} {names : Option (List Name)}
    (hcol : header.length = ncol) (htime : (header.head?).map validName = some timeName)
    (hnames : ∀ ns, names = some ns → ns.length = ncol - 1) :
    csvNames? names (header.map validName) = timeName :: (match (generalizing := false) names with
      | none => (header.drop 1).map validName
      | some ns => ns) := by
  cases header with
  | nil => cases htime
  | cons t0 rest0 =>
    rw [List.map_cons, Option.some.inj htime]
    cases names with
    | none => rfl
    | some ns => exact renameFields_full _ _ _ (by rw [List.length_map, hnames ns rfl, ← hcol]; rfl)

def elemLe (a b : AcqElement) : Bool := decide (a.mz < b.mz ∨ (a.mz = b.mz ∧ a.selected ≤ b.selected))

theorem elemLe_trans (a b c : AcqElement) : elemLe a b = true → elemLe b c = true → elemLe a c = true := by
  simp only [elemLe, decide_eq_true_eq]; omega

theorem elemLe_total (a b : AcqElement) : (elemLe a b || elemLe b a) = true := by
  simp only [elemLe, Bool.or_eq_true, decide_eq_true_eq]; omega

theorem sortElements_of_perm_strict (es sorted : List AcqElement) (hp : es.Perm sorted)
    (hs : sorted.Pairwise (fun a b => a.mz < b.mz ∨ (a.mz = b.mz ∧ a.selected < b.selected))) :
    sortElements es = sorted := by
  apply Pew.MergeSort.eq_of_perm_strict elemLe_trans elemLe_total hp
  apply hs.imp
  intro a b h
  simp only [elemLe, decide_eq_true_eq, decide_eq_false_iff_not]
  omega

end Pew.Agilent
