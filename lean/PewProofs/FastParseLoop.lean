import PewModel.FastParse
/-! # C17 — the line loop on ANY list of lines, under any callback

The run under the always-True callback is the callback-free machine with the line lengths summed and an invocation
after every line `idxRun` names (`run_tt`); any other callback can only cut that run short (`run_cut`); the positions
handed over are ordered and behind the file position (`run_posInv`); lines no loop reacts to are all alike
(`runS_norm`). -/
namespace Pew.FastParse

abbrev runS (cb : Nat → Bool) (s : St) (ls : List (Line × Nat)) : St := ls.foldl (step cb) s

theorem step_aborted (cb : Nat → Bool) (s : St) (ln : Line × Nat) (h : s.aborted = true) : step cb s ln = s := by
  simp [step, h]

theorem step_tt (s : St) (ln : Line × Nat) (h : s.aborted = false) :
    step (fun _ => true) s ln
      = { core := stepCore s.core ln.1, pos := s.pos + ln.2,
          calls := s.calls ++ (if isCall s.core ln.1 then [s.pos + ln.2] else []), aborted := false } := by
  unfold step
  simp only [h, Bool.false_eq_true, if_false, if_true]
  split <;> simp

/-- indices (counted from `i`) of the lines of `L` at which the main loop starts a spectrum -/
def idxRun (c : Core) (i : Nat) : List Line → List Nat
  | [] => []
  | l :: r => (if isCall c l then [i] else []) ++ idxRun (stepCore c l) (i + 1) r

theorem idxRun_shift (c : Core) (i : Nat) (L : List Line) :
    idxRun c (i + 1) L = (idxRun c i L).map (· + 1) := by
  induction L generalizing c i with
  | nil => rfl
  | cons l r ih =>
    simp only [idxRun, List.map_append, ih]
    split <;> simp

theorem runS_tt (ls : List (Line × Nat)) (s : St) (h : s.aborted = false) :
    runS (fun _ => true) s ls =
      { core := (ls.map Prod.fst).foldl stepCore s.core, pos := s.pos + (ls.map Prod.snd).sum,
        calls := s.calls ++ (idxRun s.core 0 (ls.map Prod.fst)).map
          (fun i => s.pos + ((ls.map Prod.snd).take (i + 1)).sum),
        aborted := false } := by
  induction ls generalizing s with
  | nil => cases s; simp_all [idxRun]
  | cons ln r ih =>
    simp only [runS, List.foldl_cons, List.map_cons, idxRun]
    rw [step_tt s ln h]
    have := ih { core := stepCore s.core ln.1, pos := s.pos + ln.2,
                 calls := s.calls ++ (if isCall s.core ln.1 then [s.pos + ln.2] else []), aborted := false } rfl
    simp only [runS] at this
    rw [this, idxRun_shift]
    simp only [List.append_assoc, List.map_append, List.map_map, List.sum_cons, Nat.add_assoc, St.mk.injEq,
      true_and, and_true]
    split <;> simp [Function.comp_def]

theorem run_tt (ls : List (Line × Nat)) :
    run (fun _ => true) ls =
      { core := coreRun (ls.map Prod.fst), pos := (ls.map Prod.snd).sum,
        calls := (idxRun Core.init 0 (ls.map Prod.fst)).map (fun i => ((ls.map Prod.snd).take (i + 1)).sum),
        aborted := false } := by
  rw [show run (fun _ => true) ls = runS _ St.init ls from rfl, runS_tt ls St.init rfl]
  simp [St.init, coreRun]

theorem fastParse_congr {cb cb' : Nat → Bool} {ls ls' : List (Line × Nat)} (h : run cb ls = run cb' ls') :
    fastParse cb ls = fastParse cb' ls' := by
  unfold fastParse; rw [h]

theorem fastParse_tt (ls : List (Line × Nat)) :
    fastParse (fun _ => true) ls = finishCore (coreRun (ls.map Prod.fst)) := by
  rw [fastParse, run_tt]; rfl

theorem step_running (cb : Nat → Bool) (s : St) (ln : Line × Nat) (h : s.aborted = false) :
    step cb s ln =
      if isCall s.core ln.1 = true ∧ cb (s.pos + ln.2) = false then
        { s with pos := s.pos + ln.2, calls := s.calls ++ [s.pos + ln.2], aborted := true }
      else step (fun _ => true) s ln := by
  unfold step
  cases hc : isCall s.core ln.1 <;> cases hb : cb (s.pos + ln.2) <;> simp [h, hb]

/-- the state `s` under `cb` against the state `t` under the always-True callback after the same lines: the
same state while every invocation returned True; or the loop stopped at the first False, its last
invocation, having made an initial segment of the invocations -/
def Cut (cb : Nat → Bool) (s t : St) : Prop :=
  (s = t ∧ s.aborted = false ∧ ∀ p ∈ s.calls, cb p = true) ∨
  (s.aborted = true ∧ t.aborted = false ∧ s.calls <+: t.calls ∧
    ∃ pre p, s.calls = pre ++ [p] ∧ cb p = false ∧ ∀ q ∈ pre, cb q = true)

theorem step_cut (cb : Nat → Bool) (s t : St) (ln : Line × Nat) (h : Cut cb s t) :
    Cut cb (step cb s ln) (step (fun _ => true) t ln) := by
  rcases h with ⟨rfl, ha, hall⟩ | ⟨ha, hta, hpre, hex⟩
  · rw [step_running cb s ln ha, step_tt s ln ha]
    split
    · rename_i hc
      exact Or.inr ⟨rfl, rfl, by simp [hc.1], s.calls, _, rfl, hc.2, hall⟩
    · rename_i hc
      refine Or.inl ⟨rfl, rfl, fun p hp => ?_⟩
      rcases List.mem_append.1 hp with hp | hp
      · exact hall p hp
      · split at hp
        · rename_i hcall
          rw [List.mem_singleton.1 hp]
          exact Bool.not_eq_false _ ▸ fun hf => hc ⟨hcall, hf⟩
        · cases hp
  · rw [step_aborted cb s ln ha, step_tt t ln hta]
    exact Or.inr ⟨ha, rfl, hpre.trans (List.prefix_append _ _), hex⟩

theorem run_cut (cb : Nat → Bool) (ls : List (Line × Nat)) : Cut cb (run cb ls) (run (fun _ => true) ls) := by
  suffices ∀ s t, Cut cb s t → Cut cb (runS cb s ls) (runS (fun _ => true) t ls) from
    this _ _ (Or.inl ⟨rfl, rfl, nofun⟩)
  induction ls with
  | nil => exact fun _ _ h => h
  | cons ln r ih => exact fun s t h => ih _ _ (step_cut cb s t ln h)

theorem run_of_calls_true (cb : Nat → Bool) (ls : List (Line × Nat)) (hcb : ∀ p ∈ (run cb ls).calls, cb p = true) :
    run cb ls = run (fun _ => true) ls := by
  rcases run_cut cb ls with ⟨e, _⟩ | ⟨_, _, _, pre, p, hc, hp, _⟩
  · exact e
  · rw [hcb p (by simp [hc])] at hp
    cases hp

theorem run_calls_prefix_tt (cb : Nat → Bool) (ls : List (Line × Nat)) :
    (run cb ls).calls <+: (run (fun _ => true) ls).calls := by
  rcases run_cut cb ls with ⟨e, _⟩ | ⟨_, _, h, _⟩
  · exact e ▸ List.prefix_refl _
  · exact h

theorem fastParse_of_aborted (cb : Nat → Bool) (ls : List (Line × Nat)) (h : (run cb ls).aborted = true) :
    fastParse cb ls = .error .aborted := by
  simp [fastParse, h]

/-- positions: in the order `R` (`≤`; `<` when no line is empty), and never beyond the current file position -/
def PosInv (R : Nat → Nat → Prop) (s : St) : Prop := s.calls.Pairwise R ∧ ∀ p ∈ s.calls, p ≤ s.pos

theorem step_posInv (R : Nat → Nat → Prop) (cb : Nat → Bool) (s : St) (ln : Line × Nat)
    (hR : ∀ a, a ≤ s.pos → R a (s.pos + ln.2)) (h : PosInv R s) : PosInv R (step cb s ln) := by
  obtain ⟨h1, h2⟩ := h
  have happ : PosInv R { s with pos := s.pos + ln.2, calls := s.calls ++ [s.pos + ln.2] } := by
    refine ⟨List.pairwise_append.2 ⟨h1, by simp, fun a ha b hb => ?_⟩, fun p hp => ?_⟩
    · rw [List.mem_singleton.1 hb]
      exact hR a (h2 a ha)
    · rcases List.mem_append.1 hp with hp | hp
      · exact Nat.le_add_right_of_le (h2 p hp)
      · exact Nat.le_of_eq (List.mem_singleton.1 hp)
  unfold step
  split
  · exact ⟨h1, h2⟩
  · simp only
    split
    · split <;> exact happ
    · exact ⟨h1, fun p hp => Nat.le_add_right_of_le (h2 p hp)⟩

theorem run_posInv (R : Nat → Nat → Prop) (cb : Nat → Bool) (ls : List (Line × Nat))
    (hR : ∀ ln ∈ ls, ∀ a p, a ≤ p → R a (p + ln.2)) : PosInv R (run cb ls) := by
  suffices ∀ s, PosInv R s → PosInv R (runS cb s ls) from this _ ⟨.nil, nofun⟩
  induction ls with
  | nil => exact fun _ h => h
  | cons ln r ih =>
    exact fun s h => ih (fun ln' h' => hR ln' (List.mem_cons_of_mem _ h')) _
      (step_posInv R cb s ln (fun a ha => hR ln List.mem_cons_self a s.pos ha) h)

theorem stepCore_norm (s : Core) (l : Line) : stepCore s l.norm = stepCore s l := by
  cases l with
  | opn t id => cases t <;> rfl
  | cls t => cases t <;> rfl
  | _ => rfl

theorem isCall_norm (s : Core) (l : Line) : isCall s l.norm = isCall s l := by
  cases l with
  | opn t id => cases t <;> rfl
  | cls t => cases t <;> rfl
  | _ => rfl

theorem step_norm (cb : Nat → Bool) (s : St) (ln : Line × Nat) : step cb s (ln.1.norm, ln.2) = step cb s ln := by
  unfold step
  simp only [isCall_norm, stepCore_norm]

theorem runS_norm (cb : Nat → Bool) (ls : List (Line × Nat)) (s : St) :
    runS cb s (ls.map fun ln => (ln.1.norm, ln.2)) = runS cb s ls := by
  induction ls generalizing s with
  | nil => rfl
  | cons a r ih => exact (ih _).trans (congrArg (runS cb · r) (step_norm cb s a))

end Pew.FastParse
