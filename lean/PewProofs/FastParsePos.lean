import PewProofs.FastParse
import PewProofs.FastParseLoop
/-! # C17 — the file positions handed to the callback on a rendered document

Under the always-True callback the loop invokes after every line `idxRun` names (`run_tt` in `FastParseLoop`); on a
document that parses these are the lines `callLine` names (`idxRun_render`), so the positions are `callPositions`
(`run_tt_calls_eq_callPositions`).  The induction over the spectra yields the one-pass list `callLinesFast`
(`idxRun_renderSpectra`); `callLinesFast_eq` and `prefixSums_getD` tie the one-pass lists to `callLine` and
`callPositions`. -/
namespace Pew.FastParse

theorem idxRun_append (c : Core) (i : Nat) (A B : List Line) :
    idxRun c i (A ++ B) = idxRun c i A ++ idxRun (runC c A) (i + A.length) B := by
  induction A generalizing c i with
  | nil => simp [idxRun, runC]
  | cons l r ih =>
    simp only [List.cons_append, idxRun, ih, List.append_assoc, runC, List.foldl_cons, List.length_cons]
    congr 3
    omega

theorem isCall_top (c : Core) (hc : c.err = none) (hm : c.mode = .top) (l : Line) : isCall c l = startsSpectrum l := by
  cases hl : startsSpectrum l
  · simp [isCall, hl]
  · simp [isCall, hc, hm, startsSpectrum_not_list hl, hl]

theorem idxRun_inert (c : Core) (i : Nat) (L : List Line) (h : ∀ l ∈ L, isCall c l = false ∧ stepCore c l = c) :
    idxRun c i L = [] := by
  induction L generalizing i with
  | nil => rfl
  | cons l r ih =>
    obtain ⟨h1, h2⟩ := h l List.mem_cons_self
    rw [idxRun, h1, h2]
    exact ih _ fun l' hl' => h l' (List.mem_cons_of_mem _ hl')

def noSpec (L : List Line) : Bool := L.all (fun l => !startsSpectrum l)

/-! `List.all_nil/_cons/_append/_flatMap` restated for `noSpec`: with `noSpec` unfolded `simp` turns `all` into
membership quantifiers, which the `simp` call of `noSpec_head` does not close -/

theorem noSpec_nil : noSpec [] = true := rfl

theorem noSpec_cons (a : Line) (L : List Line) : noSpec (a :: L) = (!startsSpectrum a && noSpec L) := rfl

theorem noSpec_append (A B : List Line) : noSpec (A ++ B) = (noSpec A && noSpec B) := by
  simp [noSpec, List.all_append]

theorem noSpec_flatMap {α} (f : α → List Line) (l : List α) :
    noSpec (l.flatMap f) = l.all fun a => noSpec (f a) := by
  simp [noSpec, List.all_flatMap]

theorem idxRun_none (c : Core) (i : Nat) (L : List Line) (h : noSpec L = true) : idxRun c i L = [] := by
  induction L generalizing c i with
  | nil => rfl
  | cons l r ih =>
    simp only [noSpec, List.all_cons, Bool.and_eq_true, Bool.not_eq_true'] at h
    have : isCall c l = false := by simp [isCall, h.1]
    simp only [idxRun, this, Bool.false_eq_true, if_false, List.nil_append]
    exact ih _ _ h.2

theorem noSpec_items (cls : String → Bool) (l : List Item) : noSpec (renderItems cls l) = true := by
  simp only [noSpec, renderItems, List.all_map, List.all_eq_true]
  intro it _
  cases it <;> rfl

theorem noSpec_of_topInert (L : List Line) (h : ∀ l ∈ L, topInert l = true) : noSpec L = true :=
  List.all_eq_true.2 fun l hl => by
    have := h l hl
    simp only [topInert, Bool.and_eq_true] at this
    exact this.2

theorem noSpec_head (cls : String → Bool) (d : Doc) : noSpec (renderHead cls d) = true := by
  have hs := fun ss => noSpec_of_topInert _ (sects_inert cls ss)
  cases hd : d.decl <;> cases hsf : d.settingsFirst <;>
    simp [renderHead, renderGroups, renderSettingsList, renderGroup, renderSettings, hd, hsf, hs,
      noSpec_append, noSpec_flatMap, noSpec_items, noSpec_cons, noSpec_nil, startsSpectrum]

theorem noSpec_specBody (cls : String → Bool) (s : Spec) :
    noSpec (renderSpecBody cls s ++ [Line.cls .spectrum]) = true := by
  simp [renderSpecBody, renderScan, renderArr, noSpec_append, noSpec_flatMap, noSpec_items, noSpec_cons, noSpec_nil, startsSpectrum]

theorem idxRun_spec_block (cls : String → Bool) (c : Core) (hc : c.err = none) (hm : c.mode = .top) (i : Nat)
    (l : Line) (pre : List Line) (hl : startsSpectrum l = true) (hpre : ∀ l ∈ pre, specInert l = true) (s : Spec) :
    idxRun c i ((l :: pre) ++ renderSpecBody cls s ++ [Line.cls .spectrum]) = [i] := by
  rw [List.append_assoc, List.cons_append, idxRun, isCall_top c hc hm, hl, stepCore_startsSpectrum c hc hm l hl, idxRun_append,
    idxRun_inert _ _ pre fun l' hl' => ⟨by simp [isCall], run_spectrum_inert c hc _ l' (hpre l' hl')⟩,
    idxRun_none _ _ _ (noSpec_specBody cls s)]
  rfl

theorem idxRun_specs (cls : String → Bool) (ss : List Spec) (xs : List SpecInfo) (c : Core)
    (hc : c.err = none) (hm : c.mode = .top) (i : Nat) (hok : List.Forall₂ (FastSpec cls) ss xs) :
    idxRun c i (ss.flatMap (renderSpec cls)) = specStarts cls i ss := by
  induction hok generalizing c i with
  | nil => rfl
  | @cons s x ss' xs' h _ ih =>
    rw [List.flatMap_cons, idxRun_append,
      show idxRun c i (renderSpec cls s) = _ from idxRun_spec_block cls c hc hm i _ [] rfl (List.forall_mem_nil _) s,
      show runC c (renderSpec cls s) = _ from run_spec_block cls c hc hm _ [] rfl (List.forall_mem_nil _) s x h]
    rw [ih { c with spectra := c.spectra ++ [x] } hc hm]
    rfl

theorem idxRun_renderSpectra (cls : String → Bool) (d : Doc) (xs : List SpecInfo) (c : Core) (hc : c.err = none)
    (hm : c.mode = .top) (hne : d.spectra ≠ []) (hok : List.Forall₂ (FastSpec cls) d.spectra xs) :
    idxRun c (renderHead cls d).length (renderSpectra cls d) = callLinesFast cls d := by
  cases hsp : d.spectra with
  | nil => exact absurd hsp hne
  | cons s0 rest =>
    rw [hsp] at hok
    cases hok with
    | @cons _ x0 _ xs h0 hrest =>
      rw [renderSpectra_cons cls d s0 rest hsp, idxRun_append, idxRun_append, idxRun_append _ _ (List.flatMap _ _),
        run_top_inert c hc hm _ (by simp [topInert, startsGroupList, startsSettingsList, startsSpectrum]),
        run_spec_block cls c hc hm _ [_] rfl (List.forall_mem_singleton.2 rfl) s0 x0 h0,
        idxRun_none c _ _ (by simp [noSpec, startsSpectrum]),
        idxRun_spec_block cls c hc hm _ _ [_] rfl (List.forall_mem_singleton.2 rfl),
        idxRun_specs cls rest xs { c with spectra := c.spectra ++ [x0] } hc hm _ hrest,
        idxRun_none _ _ [Line.cls .spectrumList, Line.cls .other] (by simp [noSpec, startsSpectrum])]
      simp only [callLinesFast, hsp]
      rw [List.nil_append, List.append_nil, List.singleton_append, renderSpec]
      simp only [List.length_append, List.length_cons, List.length_nil]
      -- the lengths as variables: closing the index goal by unfolding `renderSpecBody` is slow to check
      generalize (renderSpecBody cls s0).length = n
      generalize (renderHead cls d).length = i
      congr 2
      omega

theorem specStarts_eq (cls : String → Bool) (i : Nat) (ss : List Spec) :
    specStarts cls i ss
      = (List.range ss.length).map (fun j => i + ((ss.take j).map (fun s => (renderSpec cls s).length)).sum) := by
  induction ss generalizing i with
  | nil => rfl
  | cons s r ih =>
    simp only [specStarts, List.length_cons, List.range_succ_eq_map, List.map_cons, List.take_zero,
      List.map_nil, List.sum_nil, Nat.add_zero, List.map_map, ih]
    congr 1
    apply List.map_congr_left
    intro j _
    simp only [Function.comp, List.take_succ_cons, List.map_cons, List.sum_cons]
    omega

theorem callLinesFast_eq (cls : String → Bool) (d : Doc) :
    callLinesFast cls d = (List.range d.spectra.length).map (callLine cls d) := by
  unfold callLinesFast
  cases hsp : d.spectra with
  | nil => rfl
  | cons s0 srest =>
    simp only [specStarts_eq, List.length_cons, List.range_succ_eq_map, List.map_cons, List.map_map]
    refine congrArg₂ _ (by simp [callLine]) (List.map_congr_left fun j _ => ?_)
    simp only [Function.comp, callLine, hsp, List.take_succ_cons, List.map_cons, List.sum_cons]
    simp
    omega

theorem prefixSums_getElem? (acc : Nat) (lens : List Nat) (i : Nat) :
    (prefixSums acc lens)[i]? = if i < lens.length then some (acc + (lens.take (i + 1)).sum) else none := by
  induction lens generalizing acc i with
  | nil => simp [prefixSums]
  | cons n r ih =>
    cases i with
    | zero => simp [prefixSums]
    | succ j =>
      simp only [prefixSums, List.getElem?_cons_succ, ih, List.length_cons, Nat.add_lt_add_iff_right,
        List.take_succ_cons, List.sum_cons]
      split <;> simp [Nat.add_assoc]

/-- what `callPositionsFast` looks up: past the end of the running totals the total itself is right -/
theorem prefixSums_getD (lens : List Nat) (i : Nat) :
    ((prefixSums 0 lens)[i]?).getD lens.sum = (lens.take (i + 1)).sum := by
  rw [prefixSums_getElem?, Nat.zero_add]
  split
  · rfl
  · rw [Option.getD_none, List.take_of_length_le (by omega)]

theorem flatMap_getElem_start {α β} (f : α → List β) (b : β) (ss : List α) (R : List β) (k : Nat)
    (hk : k < ss.length) (hf : ∀ s ∈ ss, (f s).head? = some b) :
    (ss.flatMap f ++ R)[((ss.take k).map (fun s => (f s).length)).sum]? = some b := by
  induction ss generalizing k with
  | nil => simp at hk
  | cons s r ih =>
    have hs := hf s (by simp)
    cases k with
    | zero =>
      cases hfs : f s with
      | nil => simp [hfs] at hs
      | cons y ys => simp [hfs] at hs ⊢; exact hs
    | succ j =>
      simp only [List.take_succ_cons, List.map_cons, List.sum_cons, List.flatMap_cons, List.append_assoc]
      rw [List.getElem?_append_right (Nat.le_add_right _ _), Nat.add_sub_cancel_left]
      exact ih j (by simpa using hk) (fun s' hs' => hf s' (by simp [hs']))

theorem idxRun_render {cls : String → Bool} {d : Doc} {m : Model} (h : FastDoc cls d m) :
    idxRun Core.init 0 (render cls d) = (List.range d.spectra.length).map (callLine cls d) := by
  obtain ⟨rest, hhead⟩ := run_renderHead h
  unfold render
  rw [idxRun_append, idxRun_append, idxRun_none _ _ _ (noSpec_head cls d),
    idxRun_none _ _ _ (noSpec_of_topInert _ (tail_inert cls d)), hhead, Nat.zero_add,
    idxRun_renderSpectra cls d m.spectra _ rfl rfl h.nonempty h.spectra, callLinesFast_eq]
  simp

theorem run_tt_calls_eq_callPositions {cls : String → Bool} {d : Doc} {m : Model} (h : FastDoc cls d m)
    (ls : List (Line × Nat)) (hls : ls.map Prod.fst = render cls d) :
    (run (fun _ => true) ls).calls = callPositions cls d (ls.map Prod.snd) := by
  rw [run_tt, hls, idxRun_render h, callPositions, List.map_map]; rfl

end Pew.FastParse
