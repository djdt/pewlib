import PewModel.Thermo
import PewProofs.Lists

/-! # C03 — what the two readers share

Both readers end in one computation, `gather`; over the cells of one channel in an order in which the labels first
appear as in `a.elements` it is `specImg` (`gather_cells`). -/
namespace Pew.Thermo

theorem filter_flatMap_outer {β γ : Type} (g : β → List γ) (p : γ → Bool) (q : β → Bool) :
    ∀ (l : List β), (∀ j ∈ l, ∀ x ∈ g j, p x = q j) → (l.flatMap g).filter p = (l.filter q).flatMap g
  | [], _ => rfl
  | a :: t, h => by
    have ih := filter_flatMap_outer g p q t (fun j hj => h j (List.mem_cons_of_mem _ hj))
    rw [List.flatMap_cons, List.filter_append, ih, List.filter_cons]
    have ha := h a List.mem_cons_self
    cases hq : q a with
    | true =>
      have : (g a).filter p = g a := List.filter_eq_self.mpr (fun x hx => by rw [ha x hx, hq])
      simp [this]
    | false =>
      have : (g a).filter p = [] := List.filter_eq_nil_iff.mpr (fun x hx => by rw [ha x hx, hq]; simp)
      simp [this]

theorem filter_range_eq (C ci : Nat) (h : ci < C) : (List.range C).filter (fun c => c == ci) = [ci] := by
  rw [List.filter_beq, List.count_range, if_pos h]; rfl

theorem allSome_map {β γ : Type} (g : β → Option γ) (f : β → γ) :
    ∀ (l : List β), (∀ x ∈ l, g x = some (f x)) → allSome (l.map g) = some (l.map f)
  | [], _ => rfl
  | a :: t, h => by
    simp only [List.map_cons, h a List.mem_cons_self, allSome,
      allSome_map g f t (fun x hx => h x (List.mem_cons_of_mem _ hx)), Option.map_some]

theorem zip_map_append_single {β γ δ : Type} (f : β → γ) (g : β → δ) (u : γ) (v : δ) (l : List β) :
    (l.map f ++ [u]).zip (l.map g ++ [v]) = l.map (fun x => (f x, g x)) ++ [(u, v)] := by
  induction l with
  | nil => rfl
  | cons a t ih => simp [ih]

theorem firstAppAux_skip (seen tail : List String) : ∀ (r : List String), (∀ x ∈ r, x ∈ seen) →
    firstAppAux seen (r ++ tail) = firstAppAux seen tail
  | [], _ => rfl
  | a :: t, h => by
    have ha : seen.contains a = true := by simpa using h a List.mem_cons_self
    simp only [List.cons_append, firstAppAux, ha, if_true]
    exact firstAppAux_skip seen tail t (fun x hx => h x (List.mem_cons_of_mem _ hx))

theorem firstAppAux_nodup (seen l rest : List String) (hn : l.Nodup) (hd : ∀ x ∈ l, x ∉ seen)
    (hr : ∀ x ∈ rest, x ∈ seen ∨ x ∈ l) : firstAppAux seen (l ++ rest) = l := by
  induction l generalizing seen with
  | nil => simpa [firstAppAux] using firstAppAux_skip seen [] rest (fun x hx => by simpa using hr x hx)
  | cons a t ih =>
    have ha : seen.contains a = false := by simpa using hd a List.mem_cons_self
    simp only [List.cons_append, firstAppAux, ha, Bool.false_eq_true, if_false]
    rw [List.nodup_cons] at hn
    congr 1
    apply ih (a :: seen) hn.2
    · intro x hx
      simp only [List.mem_cons, not_or]
      exact ⟨fun e => hn.1 (e ▸ hx), hd x (List.mem_cons_of_mem _ hx)⟩
    · intro x hx
      rcases hr x hx with h | h
      · exact Or.inl (List.mem_cons_of_mem _ h)
      · rcases List.mem_cons.mp h with h | h
        · exact Or.inl (by simp [h])
        · exact Or.inr h

theorem firstApp_blocks (l : List String) (hn : l.Nodup) (m : Nat) (hm : 0 < m) :
    firstApp ((List.range m).flatMap (fun _ => l)) = l := by
  obtain ⟨m, rfl⟩ : ∃ n, m = n + 1 := ⟨m - 1, by omega⟩
  rw [List.range_succ_eq_map, List.flatMap_cons]
  apply firstAppAux_nodup [] l _ hn (by simp)
  intro x hx
  obtain ⟨_, _, h⟩ := List.mem_flatMap.mp hx
  exact Or.inr h

theorem firstAppAux_runs (m : Nat) (hm : 0 < m) : ∀ (l seen : List String), l.Nodup → (∀ x ∈ l, x ∉ seen) →
    firstAppAux seen (l.flatMap (fun e => (List.range m).map (fun _ => e))) = l
  | [], _, _, _ => rfl
  | a :: t, seen, hn, hd => by
    obtain ⟨n, rfl⟩ : ∃ n, m = n + 1 := ⟨m - 1, by omega⟩
    rw [List.nodup_cons] at hn
    have ha : seen.contains a = false := by simpa using hd a List.mem_cons_self
    rw [List.flatMap_cons, show (List.range (n + 1)).map (fun _ => a) = a :: (List.range n).map (fun _ => a) by
      simp [List.range_succ_eq_map], List.cons_append]
    simp only [firstAppAux, ha, Bool.false_eq_true, if_false]
    -- the remaining copies of `a` are skipped
    rw [firstAppAux_skip (a :: seen) _ _ (by simp), firstAppAux_runs (n + 1) hm t (a :: seen) hn.2]
    intro x hx
    simp only [List.mem_cons, not_or]
    exact ⟨fun e => hn.1 (e ▸ hx), hd x (List.mem_cons_of_mem _ hx)⟩

theorem maxInt_spec {l : List Int} (hl : l ≠ []) : maxInt l ∈ l ∧ ∀ y ∈ l, y ≤ maxInt l := by
  cases l with
  | nil => exact absurd rfl hl
  -- `maxInt (x :: xs)` is by definition the `foldl` that `max?_cons'` gives for `(x :: xs).max?`
  | cons x xs => exact List.max?_eq_some_iff.mp List.max?_cons'

theorem maxInt_eq {ι : Type} (l : List ι) (f : ι → Nat) (m : Nat) (hlt : ∀ y ∈ l, f y < m)
    (hmem : ∃ y ∈ l, f y = m - 1) : maxInt (l.map fun y => (f y : Int)) + 1 = (m : Int) := by
  obtain ⟨y, hy, hym⟩ := hmem
  -- the maximum is the value at some member `z`, so below `m`, and at least the value `m - 1` at `y`
  obtain ⟨hmx, hle⟩ := maxInt_spec (l := l.map fun y => (f y : Int)) (List.ne_nil_of_mem (List.mem_map_of_mem hy))
  obtain ⟨z, hz, hzm⟩ := List.mem_map.mp hmx
  have := hlt z hz
  have := hle _ (List.mem_map_of_mem (f := fun y => (f y : Int)) hy)
  omega

theorem fitCols_self {α : Type} (w : Nat) (plane : List (List α)) : fitCols w w plane = some plane := by
  simp [fitCols]

theorem sameLen_of_all (l : Table) (N : Nat) (hne : l ≠ []) (h : ∀ r ∈ l, r.length = N) : sameLen l = some N := by
  cases l with
  | nil => contradiction
  | cons r t =>
    have hr := h r List.mem_cons_self
    have : t.all (fun q => q.length == r.length) = true := by
      rw [List.all_eq_true]; intro q hq; simp [h q (List.mem_cons_of_mem _ hq), hr]
    rw [hr] at this
    simp only [sameLen, hr, this, if_true]

theorem bcast_self (L : Nat) (r : Row) (h : r.length = L) : bcast L r = r := by
  unfold bcast
  by_cases h1 : r.length = 1
  · match r, h1 with
    | [f], _ =>
      subst h
      simp
  · have : (r.length == 1) = false := by simpa using h1
    simp [this]

theorem mapLast_append_single (g : String → String) (z : String) : ∀ (l : Row), mapLast g (l ++ [z]) = l ++ [g z]
  | [] => rfl
  | [a] => rfl
  | a :: b :: t => by
    have ih := mapLast_append_single g z (b :: t)
    simp only [List.cons_append] at ih ⊢
    simp only [mapLast, ih]

theorem rstrip_eol : rstrip "\n" = "" := by decide +kernel
theorem fixDec_eol (c : Bool) : fixDec c "\n" = "\n" := by cases c <;> decide +kernel
theorem fixDec_ident (c : Bool) : fixDec c "<Identifier>" = "<Identifier>" := by cases c <;> decide +kernel
theorem fixDec_main (c : Bool) : fixDec c "MainRuns" = "MainRuns" := by cases c <;> decide +kernel
theorem lstrip_main : lstrip "MainRuns" = "MainRuns" := by decide +kernel
theorem lstrip_empty : lstrip "" = "" := by decide +kernel

theorem gfSplit_blank : gfSplit ["\n"] = [] := by decide +kernel

theorem gfSplit_line (f : String) (mid : Row) :
    gfSplit (f :: (mid ++ ["\n"])) = lstrip f :: (mid ++ [""]) := by
  unfold gfSplit
  have hl : mapLast rstrip (lstrip f :: (mid ++ ["\n"])) = lstrip f :: (mid ++ [""]) := by
    have := mapLast_append_single rstrip "\n" (lstrip f :: mid)
    simpa [rstrip_eol] using this
  simp only [mapHead, hl]
  have : ((lstrip f :: (mid ++ [""])) == [""]) = false := by
    rw [beq_eq_false_iff_ne]
    intro he
    have := congrArg List.length he
    simp at this
  rw [this]
  simp

theorem gfLines_map {β : Type} (comma : Bool) (F G : β → Row) (L : List β)
    (h : ∀ y ∈ L, gfSplit ((F y).map (fixDec comma)) = G y) (hne : ∀ y ∈ L, (G y).isEmpty = false) :
    gfLinesWith gfSplit comma (L.map F) = L.map G := by
  unfold gfLinesWith
  rw [List.map_map]
  have : L.map ((fun r => gfSplit (r.map (fixDec comma))) ∘ F) = L.map G :=
    List.map_congr_left (fun y hy => h y hy)
  rw [this]
  apply List.filter_eq_self.mpr
  intro r hr
  obtain ⟨y, hy, rfl⟩ := List.mem_map.mp hr
  simp [hne y hy]

/-! ## NumPy's default `comments="#"` (the mechanism before e68affa) on lines without a `#` -/

theorem cutComment_id : ∀ (r : Row), (∀ g ∈ r, hasHash g = false) → cutComment r = r
  | [], _ => rfl
  | f :: t, h => by
    simp only [cutComment, h f List.mem_cons_self, Bool.false_eq_true, if_false]
    rw [cutComment_id t (fun g hg => h g (List.mem_cons_of_mem _ hg))]

theorem hasHash_fixDec (c : Bool) (s : String) : hasHash (fixDec c s) = hasHash s := by
  cases c with
  | false => rfl
  | true =>
    simp only [hasHash, fixDec, if_true, String.toList_ofList]
    induction s.toList with
    | nil => rfl
    | cons a t ih =>
      simp only [List.map_cons, List.contains_cons, ih]
      by_cases ha : a = ','
      · subst ha; simp
      · have : (a == ',') = false := beq_false_of_ne ha
        simp [this]

theorem gfSplitOld_eq (r : Row) (h : ∀ g ∈ r, hasHash g = false) : gfSplitOld r = gfSplit r := by
  unfold gfSplitOld
  rw [cutComment_id r h]

theorem gfLinesOld_eq (comma : Bool) (t : Table) (h : ∀ r ∈ t, ∀ g ∈ r, hasHash g = false) :
    gfLinesWith gfSplitOld comma t = gfLinesWith gfSplit comma t := by
  unfold gfLinesWith
  congr 1
  apply List.map_congr_left
  intro r hr
  apply gfSplitOld_eq
  intro g hg
  obtain ⟨g', hg', rfl⟩ := List.mem_map.mp hg
  rw [hasHash_fixDec]
  exact h r hr g' hg'


theorem eq_of_trunc_eq {n : Nat} {s t : String} (h : trunc n s = t) (hn : t.toList.length < n) : s = t := by
  subst h
  have hl : (s.toList.take n).length < n := by simpa [trunc, String.toList_ofList] using hn
  rw [trunc, List.take_of_length_le (by rw [List.length_take] at hl; omega), String.ofList_toList]

theorem elem_inj (a : Acq) (hn : a.elements.Nodup) (e ei : Nat) (he : e < a.elements.length) (hei : ei < a.elements.length) :
    (a.elem e == a.elem ei) = (e == ei) := by
  unfold Acq.elem
  have := List.getD_inj (fallback := "") he hei hn
  by_cases h : e = ei
  · subst h; simp
  · have hne : a.elements.getD e "" ≠ a.elements.getD ei "" := fun heq => h (this.mp heq)
    have h1 : (a.elements.getD e "" == a.elements.getD ei "") = false := beq_false_of_ne hne
    have h2 : (e == ei) = false := beq_false_of_ne h
    rw [h1, h2]

theorem elem_mem (a : Acq) (e : Nat) (he : e < a.elements.length) : a.elem e ∈ a.elements := by
  unfold Acq.elem
  simp [List.getD, List.getElem?_eq_getElem he]

theorem chan_mem (a : Acq) (c : Nat) (hc : c < a.channels.length) : a.chan c ∈ a.channels := by
  unfold Acq.chan
  simp [List.getD, List.getElem?_eq_getElem hc]

theorem sample_mem (a : Acq) (i : Nat) (hi : i < a.samples.length) : a.samples.getD i "" ∈ a.samples := by
  simp [List.getD, List.getElem?_eq_getElem hi]

theorem chanIdx_some (a : Acq) (name : String) (ci : Nat) (h : a.chanIdx name = some ci) :
    ci < a.channels.length ∧ a.chan ci = name := by
  unfold Acq.chanIdx at h
  simp only at h
  split at h
  · rename_i hlt
    cases h
    refine ⟨hlt, ?_⟩
    have := List.findIdx_getElem (w := hlt)
    simp only [beq_iff_eq] at this
    unfold Acq.chan
    simp [List.getD, List.getElem?_eq_getElem hlt, this]
  · cases h

theorem chanIdx_none (a : Acq) (name : String) (h : a.chanIdx name = none) :
    ∀ c, c < a.channels.length → a.chan c ≠ name := by
  unfold Acq.chanIdx at h
  simp only at h
  split at h
  · cases h
  · rename_i hge
    intro c hc heq
    have hall := List.not_of_lt_findIdx (p := (· == name)) (xs := a.channels) (i := c) (by omega)
    unfold Acq.chan at heq
    simp [List.getD, List.getElem?_eq_getElem hc] at heq
    simp [heq] at hall

theorem map_elems {β : Type} (a : Acq) (F : String → β) :
    a.elements.map F = (List.range a.elements.length).map (fun ei => F (a.elem ei)) := by
  have h := Lists.map_getD_range a.elements ""
  conv => lhs; rw [← h]
  rw [List.map_map]
  rfl

/-- the computation both readers end in; `sel`: the selected cells (the columns of the rows layout, the `MainRuns`
lines of the columns layout) -/
def gather {ι α : Type} (n : Nat) (name : ι → String) (scan : ι → Int) (val : Nat → ι → α) (sel : List ι) :
    Option (Img α) :=
  if sel.isEmpty then none else
  let names := firstApp (sel.map name)
  let w := maxInt (sel.map scan) + 1
  if w < 0 then none else
  match allSome (names.map fun e =>
      let mine := sel.filter fun y => name y == e
      fitCols w.toNat mine.length ((List.range n).map fun i => mine.map (val i))) with
  | none => none
  | some planes => some { names := names, planes := planes }

structure CellOrder (a : Acq) (ci : Nat) (sel : List (Nat × Nat × Nat)) : Prop where
  mem : ∀ {y}, y ∈ sel ↔ y.1 < a.nscans ∧ y.2.1 < a.elements.length ∧ y.2.2 = ci
  names : firstApp (sel.map fun y => a.elem y.2.1) = a.elements
  byElem : ∀ ei, ei < a.elements.length → sel.filter (fun y => y.2.1 == ei) = (List.range a.nscans).map fun s => (s, ei, ci)

theorem gather_cells {α : Type} (x : Ext α) (comma : Bool) {a : Acq} {ci : Nat} {sel : List (Nat × Nat × Nat)}
    (name : Nat × Nat × Nat → String) (hm : 0 < a.nscans) (hk : 0 < a.elements.length) (hnd : a.elements.Nodup)
    (h : CellOrder a ci sel) (hname : ∀ y ∈ sel, name y = a.elem y.2.1) :
    gather a.samples.length name (fun y => (y.1 : Int))
      (fun i y => x.parse (fixDec comma (a.value i y.1 y.2.1 y.2.2))) sel = some (specImg x comma a ci) := by
  have hne : sel ≠ [] := List.ne_nil_of_mem (h.mem.mpr ⟨hm, hk, rfl⟩ : (0, 0, ci) ∈ sel)
  have hw := maxInt_eq sel (·.1) a.nscans (fun y hy => (h.mem.mp hy).1)
    ⟨(a.nscans - 1, 0, ci), h.mem.mpr ⟨Nat.sub_one_lt (Nat.ne_of_gt hm), hk, rfl⟩, rfl⟩
  have hf : ∀ e, sel.filter (fun y => name y == e) = sel.filter (fun y => a.elem y.2.1 == e) :=
    fun e => List.filter_congr fun y hy => by rw [hname y hy]
  unfold gather
  simp only [List.map_congr_left hname, hf, List.isEmpty_iff, hne, h.names, hw, Int.toNat_natCast, if_false]
  rw [if_neg (Int.not_lt.mpr (Int.natCast_nonneg _)), map_elems, allSome_map _ (fun ei =>
    (List.range a.samples.length).map fun i => (List.range a.nscans).map fun s => x.parse (fixDec comma (a.value i s ei ci)))]
  · rfl
  · intro ei hei
    have hei := List.mem_range.mp hei
    rw [List.filter_congr fun y hy => elem_inj a hnd _ ei (h.mem.mp hy).2.1 hei, h.byElem ei hei]
    simp only [List.map_map, List.length_map, List.length_range, Function.comp_def]
    exact fitCols_self _ _

end Pew.Thermo
