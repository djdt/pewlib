import PewProofs.LaserEditDict

/-! The content level of C07.  `add`, `remove`, `rename` are one transformation of keyed lists each (a new key at the
end, a filter on keys, an injective substitution of keys), applied to every layer's fields and to the calibration dict;
under `Inv` each has a closed form (`add_eq`, `remove_eq`, `rename_eq`) whose condition is the specification's, and
refinement, the invariant and the entries afterwards are read off the result (`abs_*`, `inv_*`, `entry_*`). -/
namespace Pew.LaserEdit

def Layer.addField (n : Name) (l : Layer) (a : ArrIn) : Layer := { l with fields := l.fields ++ [(n, a.2)] }

def Layer.renamed (m : NameMap) (l : Layer) : Layer :=
  { l with fields := l.fields.map (fun e => (sub m e.1, e.2)) }

theorem Layer.keys_addField (n : Name) (l : Layer) (a : ArrIn) : keys (l.addField n a).fields = keys l.fields ++ [n] :=
  keys_append ..

theorem Layer.keys_drop (ns : List Name) (l : Layer) :
    keys (l.drop ns).fields = (keys l.fields).filter (fun k => decide (k ∉ ns)) :=
  keys_filter_key (fun k => decide (k ∉ ns)) l.fields

theorem Layer.keys_renamed (m : NameMap) (l : Layer) : keys (l.renamed m).fields = (keys l.fields).map (sub m) :=
  keys_mapKey ..

theorem Layer.get?_addField {n : Name} {l : Layer} (h : n ∉ keys l.fields) (a : ArrIn) (k : Name) :
    get? (l.addField n a).fields k = if k = n then some a.2 else get? l.fields k :=
  get?_concat h a.2 k

theorem Layer.get?_drop (ns : List Name) (l : Layer) (k : Name) :
    get? (l.drop ns).fields k = if k ∉ ns then get? l.fields k else none := by
  simp only [Layer.drop, get?_filter_key (fun k => decide (k ∉ ns)), decide_eq_true_eq]

theorem Layer.get?_renamed (m : NameMap) (l : Layer) {n : Name} (hn : n ∈ keys l.fields)
    (hinj : ∀ a ∈ keys l.fields, ∀ b ∈ keys l.fields, sub m a = sub m b → a = b) :
    get? (l.renamed m).fields (sub m n) = get? l.fields n :=
  get?_mapKey (sub m) l.fields hn hinj

theorem Layer.add_eq (l : Layer) (n : Name) (a : ArrIn) :
    l.add n a = if n ∉ keys l.fields ∧ a.1 = l.shape then some (l.addField n a) else none := by
  unfold Layer.add
  by_cases h0 : a.1 = l.shape <;> by_cases h1 : n ∈ keys l.fields <;> simp [h0, h1, Layer.addField]

theorem Layer.rename_eq (l : Layer) (m : NameMap) :
    l.rename m = if ((keys l.fields).map (sub m)).Nodup then some (l.renamed m) else none := by
  simp only [Layer.rename, keys_mapKey]; rfl

theorem ite_some_bind {α γ : Type} {p : Prop} [Decidable p] (a : α) (f : α → Option γ) :
    (if p then some a else none).bind f = if p then f a else none := by split <;> rfl

theorem addLayers_eq (n : Name) : ∀ (ls : List Layer) (ds : List ArrIn),
    addLayers n ls ds = if (∀ l ∈ ls, n ∉ keys l.fields) ∧ ds.map (·.1) = ls.map (·.shape)
      then some (List.zipWith (Layer.addField n) ls ds) else none := by
  intro ls
  induction ls with
  | nil =>
    intro ds
    cases ds with
    | nil => rfl
    | cons d t => rw [if_neg (fun h => nomatch h.2)]; rfl
  | cons l r ih =>
    intro ds
    cases ds with
    | nil => rw [if_neg (fun h => nomatch h.2)]; rfl
    | cons d t =>
      have : addLayers n (l :: r) (d :: t) = (l.add n d).bind fun l' => (addLayers n r t).map (l' :: ·) := by
        rw [addLayers]; cases l.add n d <;> cases addLayers n r t <;> rfl
      rw [this, Layer.add_eq, ih, ite_some_bind, Option.map_if, ← ite_and]
      refine if_congr ?_ rfl rfl
      rw [List.forall_mem_cons, List.map_cons, List.map_cons, List.cons.injEq, and_and_and_comm]

theorem renameLayers_eq (m : NameMap) : ∀ ls : List Layer,
    renameLayers m ls = if (∀ l ∈ ls, ((keys l.fields).map (sub m)).Nodup)
      then some (ls.map (Layer.renamed m)) else none := by
  intro ls
  induction ls with
  | nil => simp [renameLayers]
  | cons l r ih =>
    have : renameLayers m (l :: r) = (l.rename m).bind fun l' => (renameLayers m r).map (l' :: ·) := by
      rw [renameLayers]; cases l.rename m <;> cases renameLayers m r <;> rfl
    rw [this, Layer.rename_eq, ih, ite_some_bind, Option.map_if, ← ite_and]
    refine if_congr ?_ rfl rfl
    rw [List.forall_mem_cons]

theorem map_zipWith_left {α β γ δ : Type} (g : γ → δ) (k : α → δ) (f : α → β → γ) :
    ∀ (ls : List α) (ds : List β), ds.length = ls.length → (∀ l ∈ ls, ∀ d ∈ ds, g (f l d) = k l) →
      (List.zipWith f ls ds).map g = ls.map k := by
  intro ls
  induction ls with
  | nil => intro ds _ _; simp
  | cons l r ih =>
    intro ds hlen h
    cases ds with
    | nil => simp at hlen
    | cons d t =>
      rw [List.zipWith_cons_cons, List.map_cons, List.map_cons, h l (by simp) d (by simp),
        ih t (by simpa using hlen) (fun l hl d hd => h l (by simp [hl]) d (by simp [hd]))]

theorem map_zipWith_right {α β γ δ : Type} (g : γ → δ) (k : β → δ) (f : α → β → γ) (ls : List α) (ds : List β)
    (hlen : ds.length = ls.length) (h : ∀ l ∈ ls, ∀ d ∈ ds, g (f l d) = k d) :
    (List.zipWith f ls ds).map g = ds.map k := by
  rw [List.zipWith_comm]
  exact map_zipWith_left g k (fun d l => f l d) ds ls hlen.symm fun d hd l hl => h l hl d hd

theorem shapes_length {ds : List ArrIn} {ls : List Layer} (h : ds.map (·.1) = ls.map (·.shape)) :
    ds.length = ls.length := by
  simpa using congrArg List.length h

theorem elementsOf_zipWith (n : Name) (ls : List Layer) (ds : List ArrIn) (hne : ls ≠ [])
    (hlen : ds.length = ls.length) :
    elementsOf (List.zipWith (Layer.addField n) ls ds) = elementsOf ls ++ [n] := by
  cases ls with
  | nil => exact absurd rfl hne
  | cons l r =>
    cases ds with
    | nil => simp at hlen
    | cons d t => exact Layer.keys_addField n l d

theorem elementsOf_map {f : Layer → Layer} {T : List Name → List Name} (hf : ∀ l, keys (f l).fields = T (keys l.fields))
    (hT : T [] = []) (ls : List Layer) : elementsOf (ls.map f) = T (elementsOf ls) := by
  cases ls with
  | nil => exact hT.symm
  | cons l r => exact hf l

theorem Inv.ne (h : Inv s) : s.layers ≠ [] := h.1
theorem Inv.layer_keys {s : State} (h : Inv s) {l : Layer} (hl : l ∈ s.layers) : keys l.fields = s.elements :=
  h.2.1 l hl
theorem Inv.nodup {s : State} (h : Inv s) : s.elements.Nodup := h.2.2.1
theorem Inv.cal_nodup {s : State} (h : Inv s) : (keys s.cal).Nodup := h.2.2.2.1
theorem Inv.cal_iff {s : State} (h : Inv s) (n : Name) : n ∈ keys s.cal ↔ n ∈ s.elements := h.2.2.2.2 n

theorem Inv.perm {s : State} (h : Inv s) : (keys s.cal).Perm s.elements :=
  (List.perm_ext_iff_of_nodup h.cal_nodup h.nodup).2 h.cal_iff

theorem Inv.all_layers_iff {s : State} (h : Inv s) (P : List Name → Prop) :
    (∀ l ∈ s.layers, P (keys l.fields)) ↔ P s.elements := by
  constructor
  · intro hh
    obtain ⟨l, hl⟩ := List.exists_mem_of_ne_nil _ h.ne
    rw [← h.layer_keys hl]; exact hh l hl
  · intro hh l hl
    rw [h.layer_keys hl]; exact hh

theorem inv_of {s : State} {e : List Name} (hne : s.layers ≠ []) (hl : ∀ l ∈ s.layers, keys l.fields = e)
    (hnd : e.Nodup) (hc : (keys s.cal).Perm e) : Inv s := by
  obtain ⟨l, r, hlr⟩ := List.exists_cons_of_ne_nil hne
  have he : s.elements = e := by rw [State.elements, hlr]; exact hl l (by rw [hlr]; exact List.mem_cons_self)
  rw [← he] at hl hnd hc
  exact ⟨hne, hl, hnd, hc.nodup_iff.2 hnd, fun n => hc.mem_iff⟩

theorem inv_map {s : State} (h : Inv s) {f : Layer → Layer} {T : List Name → List Name}
    (hf : ∀ l, keys (f l).fields = T (keys l.fields)) {cal : Dict} (hnd : (T s.elements).Nodup)
    (hc : (keys cal).Perm (T s.elements)) : Inv { s with layers := s.layers.map f, cal := cal } :=
  inv_of (mt List.map_eq_nil_iff.1 h.ne) (List.forall_mem_map.2 fun l hl => by rw [hf, h.layer_keys hl]) hnd hc

theorem Spec.ext' {a b : Spec} (h1 : a.srr = b.srr) (h2 : a.shapes = b.shapes) (h3 : a.map = b.map)
    (h4 : a.cfg = b.cfg) : a = b := by
  cases a; cases b; exact Spec.mk.injEq .. ▸ ⟨h1, h2, h3, h4⟩

theorem State.ext' {a b : State} (h1 : a.srr = b.srr) (h2 : a.layers = b.layers) (h3 : a.cal = b.cal)
    (h4 : a.cfg = b.cfg) : a = b := by
  cases a; cases b; simp_all

@[simp] theorem abs_map_keys (s : State) : keys (abs s).map = s.elements := by
  simp [abs, keys_map_mk]

@[simp] theorem abs_shapes_length (s : State) : (abs s).shapes.length = s.layers.length := by
  simp [abs]

theorem entry_eq (s : State) (n : Name) :
    entry s n = if n ∈ s.elements then some (dataIn s.layers n, calIn s.cal n) else none :=
  get?_map_mk _ _ _

theorem entry_isSome_iff (s : State) (n : Name) : (entry s n).isSome ↔ n ∈ s.elements := by
  unfold entry
  rw [get?_isSome_iff, abs_map_keys]

theorem entry_eq_none_iff (s : State) (n : Name) : entry s n = none ↔ n ∉ s.elements := by
  unfold entry
  rw [get?_eq_none_iff, abs_map_keys]

abbrev State.added (s : State) (n : Name) (ds : List ArrIn) (c : Nat) : State :=
  { s with layers := List.zipWith (Layer.addField n) s.layers ds, cal := s.cal ++ [(n, c)] }

abbrev State.removed (s : State) (ns : List Name) : State :=
  { s with layers := s.layers.map (·.drop ns), cal := s.cal.filter (fun e => decide (e.1 ∉ ns)) }

abbrev State.renamed (s : State) (m : NameMap) : State :=
  { s with layers := s.layers.map (Layer.renamed m), cal := s.cal.map (fun e => (sub m e.1, e.2)) }

theorem add_eq {s : State} (h : Inv s) (n : Name) (ds : List ArrIn) (c : Nat) :
    add s n ds c = if n ∉ s.elements ∧ ds.map (·.1) = s.layers.map (·.shape) then
      some (s.added n ds c)
    else none := by
  have : add s n ds c =
      (addLayers n s.layers ds).map fun ls => { s with layers := ls, cal := dictSet s.cal n c } := by
    rw [add]; cases addLayers n s.layers ds <;> rfl
  rw [this, addLayers_eq, Option.map_if]
  refine ite_congr (by rw [h.all_layers_iff (fun k => n ∉ k)]) (fun hc => ?_) (fun _ => rfl)
  rw [dictSet_new c (mt (h.cal_iff n).1 hc.1)]

theorem remove_eq {s : State} (h : Inv s) (ns : List Name) :
    remove s ns = if ns.Nodup ∧ ∀ n ∈ ns, n ∈ s.elements then
      some (s.removed ns)
    else none := by
  have : remove s ns =
      (popAll s.cal ns).map fun cal => { s with layers := s.layers.map (·.drop ns), cal := cal } := by
    rw [remove]; cases popAll s.cal ns <;> rfl
  rw [this, popAll_eq, Option.map_if]
  simp only [h.cal_iff]

theorem rename_eq {s : State} (h : Inv s) (m : NameMap) :
    rename s m = if (s.elements.map (sub m)).Nodup then
      some (s.renamed m)
    else none := by
  have : rename s m =
      (renameLayers m s.layers).map fun ls => { s with layers := ls, cal := rebuildDict s.cal m } := by
    rw [rename]; cases renameLayers m s.layers <;> rfl
  rw [this, renameLayers_eq, Option.map_if]
  refine ite_congr (propext (h.all_layers_iff fun k => (k.map (sub m)).Nodup)) (fun hc => ?_) (fun _ => rfl)
  rw [rebuildDict_eq _ _ ((h.perm.map _).nodup_iff.2 hc)]

theorem add_some_iff {s s' : State} (h : Inv s) {n : Name} {ds : List ArrIn} {c : Nat} :
    add s n ds c = some s' ↔
      (n ∉ s.elements ∧ ds.map (·.1) = s.layers.map (·.shape)) ∧ s' = s.added n ds c := by
  rw [add_eq h, Option.ite_some_none_eq_some]; exact and_congr_right' eq_comm

theorem remove_some_iff {s s' : State} (h : Inv s) {ns : List Name} :
    remove s ns = some s' ↔ (ns.Nodup ∧ ∀ n ∈ ns, n ∈ s.elements) ∧ s' = s.removed ns := by
  rw [remove_eq h, Option.ite_some_none_eq_some]; exact and_congr_right' eq_comm

theorem rename_some_iff {s s' : State} (h : Inv s) {m : NameMap} :
    rename s m = some s' ↔ (s.elements.map (sub m)).Nodup ∧ s' = s.renamed m := by
  rw [rename_eq h, Option.ite_some_none_eq_some]; exact and_congr_right' eq_comm

theorem inv_added {s : State} (h : Inv s) {n : Name} {ds : List ArrIn} (hn : n ∉ s.elements)
    (hsh : ds.map (·.1) = s.layers.map (·.shape)) (c : Nat) :
    Inv (s.added n ds c) := by
  have hlen := shapes_length hsh
  -- "every layer has the keys `s.elements ++ [n]`" is put on the list of key lists, where `map_zipWith_left` applies
  refine inv_of (e := s.elements ++ [n]) (fun hh => ?_)
    ((List.forall_mem_map (f := fun l : Layer => keys l.fields) (P := (· = s.elements ++ [n]))).1 ?_)
    ((List.perm_append_singleton n _).nodup_iff.2 (List.nodup_cons.2 ⟨hn, h.nodup⟩))
    (by simpa using h.perm.append_right [n])
  · have := congrArg List.length hh
    simp only [List.length_zipWith, List.length_nil, hlen, Nat.min_self] at this
    exact h.ne (List.length_eq_zero_iff.1 this)
  · rw [map_zipWith_left (fun l : Layer => keys l.fields) (fun l => keys l.fields ++ [n]) _ _ _ hlen
      fun l _ d _ => Layer.keys_addField n l d]
    exact List.forall_mem_map.2 fun l hl => by rw [h.layer_keys hl]

theorem abs_add {s : State} (h : Inv s) {n : Name} {ds : List ArrIn} (hn : n ∉ s.elements)
    (hsh : ds.map (·.1) = s.layers.map (·.shape)) (c : Nat) :
    abs (s.added n ds c) =
      { abs s with map := (abs s).map ++ [(n, (ds.map (·.2), c))] } := by
  have hlen := shapes_length hsh
  have hnl : ∀ l ∈ s.layers, n ∉ keys l.fields := fun l hl => by rw [h.layer_keys hl]; exact hn
  have hncal : n ∉ keys s.cal := mt (h.cal_iff n).1 hn
  refine Spec.ext' rfl (map_zipWith_left Layer.shape Layer.shape (Layer.addField n) _ _ hlen fun _ _ _ _ => rfl) ?_ rfl
  simp only [abs, State.elements, elementsOf_zipWith n _ _ h.ne hlen, List.map_append, List.map_cons, List.map_nil,
    dataIn, calIn, get?_concat hncal, if_pos]
  congr 1
  -- an old name: every layer's lookup passes over the new last field
  · refine List.map_congr_left fun k hk => ?_
    have hkn : k ≠ n := fun hh => hn (hh ▸ hk)
    rw [if_neg hkn, map_zipWith_left (fun l : Layer => (get? l.fields k).getD 0) (fun l => (get? l.fields k).getD 0) _ _ _ hlen
      fun l hl d _ => by
      rw [Layer.get?_addField (hnl l hl), if_neg hkn]]
  -- the new name: found last in every layer, hence `ds.map (·.2)`
  · rw [map_zipWith_right (fun l : Layer => (get? l.fields n).getD 0) (·.2) _ _ _ hlen fun l hl d _ => by rw [Layer.get?_addField (hnl l hl), if_pos rfl]; rfl]
    rfl

theorem abs_remove (s : State) (ns : List Name) :
    abs (s.removed ns) =
      { abs s with map := (abs s).map.filter (fun e => decide (e.1 ∉ ns)) } := by
  refine Spec.ext' rfl (List.map_map.trans rfl) ?_ rfl
  simp only [abs, State.elements, elementsOf_map (Layer.keys_drop ns) rfl, List.filter_map]
  refine List.map_congr_left fun k hk => ?_
  have hp : k ∉ ns := of_decide_eq_true (List.mem_filter.1 hk).2
  simp only [dataIn, calIn, List.map_map, Function.comp_def, Layer.get?_drop, get?_filter_key (fun k => decide (k ∉ ns)),
    decide_eq_true_eq, if_pos hp]

theorem abs_rename {s : State} (h : Inv s) {m : NameMap} (hnd : (s.elements.map (sub m)).Nodup) :
    abs (s.renamed m) =
      { abs s with map := (abs s).map.map (fun e => (sub m e.1, e.2)) } := by
  have hinj : ∀ a ∈ s.elements, ∀ b ∈ s.elements, sub m a = sub m b → a = b := List.inj_on_of_nodup_map hnd
  refine Spec.ext' rfl (List.map_map.trans rfl) ?_ rfl
  simp only [abs, State.elements, elementsOf_map (Layer.keys_renamed m) rfl, List.map_map]
  refine List.map_congr_left fun k hk => ?_
  have hd : dataIn (s.layers.map (Layer.renamed m)) (sub m k) = dataIn s.layers k := by
    rw [dataIn, List.map_map]
    exact List.map_congr_left fun l hl => by
      rw [Function.comp_apply,
        Layer.get?_renamed m l (by rw [h.layer_keys hl]; exact hk) (by rw [h.layer_keys hl]; exact hinj)]
  rw [Function.comp_apply, hd, calIn,
    get?_mapKey (sub m) s.cal ((h.cal_iff k).2 hk) (by simpa only [h.cal_iff] using hinj)]
  rfl

theorem entry_add {s : State} (h : Inv s) {n : Name} {ds : List ArrIn} (hn : n ∉ s.elements)
    (hsh : ds.map (·.1) = s.layers.map (·.shape)) (c : Nat) (k : Name) :
    entry (s.added n ds c) k =
      if k = n then some (ds.map (·.2), c) else entry s k := by
  rw [entry, abs_add h hn hsh c]
  exact get?_concat (by rwa [abs_map_keys]) _ k

theorem entry_remove (s : State) (ns : List Name) (k : Name) :
    entry (s.removed ns) k =
      if k ∉ ns then entry s k else none := by
  simp only [entry, abs_remove, get?_filter_key (fun k => decide (k ∉ ns)), decide_eq_true_eq]

theorem entry_rename {s : State} (h : Inv s) {m : NameMap} (hnd : (s.elements.map (sub m)).Nodup) {n : Name}
    (hn : n ∈ s.elements) :
    entry (s.renamed m)
      (sub m n) = entry s n := by
  rw [entry, abs_rename h hnd]
  exact get?_mapKey (sub m) (abs s).map (by rwa [abs_map_keys])
    (by rw [abs_map_keys]; exact List.inj_on_of_nodup_map hnd)

theorem add_refines {s : State} (h : Inv s) (n : Name) (ds : List ArrIn) (c : Nat) :
    (add s n ds c).map abs = (abs s).add n ds c := by
  rw [add_eq h, Spec.add, Option.map_if, abs_map_keys]
  exact ite_congr rfl (fun hc => congrArg some (abs_add h hc.1 hc.2 c)) (fun _ => rfl)

theorem remove_refines {s : State} (h : Inv s) (ns : List Name) :
    (remove s ns).map abs = (abs s).remove ns := by
  rw [remove_eq h, Spec.remove, Option.map_if, abs_map_keys, abs_remove]

theorem rename_refines {s : State} (h : Inv s) (m : NameMap) :
    (rename s m).map abs = (abs s).rename m := by
  rw [rename_eq h, Spec.rename, Option.map_if, keys_mapKey, abs_map_keys]
  exact ite_congr rfl (fun hc => congrArg some (abs_rename h hc)) (fun _ => rfl)

theorem step_inv {s s' : State} (h : Inv s) {op : Op} (hs : step s op = some s') : Inv s' := by
  cases op with
  | add n ds c =>
    obtain ⟨hc, rfl⟩ := (add_some_iff h).1 hs
    exact inv_added h hc.1 hc.2 c
  | remove ns =>
    obtain ⟨_, rfl⟩ := (remove_some_iff h).1 hs
    exact inv_map h (Layer.keys_drop ns) (h.nodup.filter _)
      (by rw [keys_filter_key (fun k => decide (k ∉ ns))]; exact h.perm.filter _)
  | rename m =>
    obtain ⟨hc, rfl⟩ := (rename_some_iff h).1 hs
    exact inv_map h (Layer.keys_renamed m) hc (by rw [keys_mapKey]; exact h.perm.map _)
  | get layer t c =>
    obtain ⟨_, rfl⟩ := Option.ite_some_none_eq_some.1 hs
    exact h
  | callerEdit => cases hs; exact h

theorem calibrateAll_eq (cal : Dict) : ∀ f : Fields, (∀ e ∈ f, e.1 ∈ keys cal) →
    calibrateAll cal f = some (f.map (fun e => (e.1, e.2, some (calIn cal e.1)))) := by
  intro f
  induction f with
  | nil => intro _; rfl
  | cons e r ih =>
    intro hsub
    obtain ⟨c, hc⟩ := get?_of_mem_keys (hsub e (by simp))
    simp only [calibrateAll, hc, ih (fun x hx => hsub x (by simp [hx])), List.map_cons, calIn, Option.getD_some]

theorem dataIn_getElem? {ls : List Layer} {i : Nat} {L : Layer} (hL : ls[i]? = some L) (n : Name) :
    (dataIn ls n)[i]? = some ((get? L.fields n).getD 0) := by
  rw [dataIn, List.getElem?_map, hL]; rfl

theorem readAll_eq (cal : Dict) (ls : List Layer) (layer : Nat) (L : Layer) (hL : ls[layer]? = some L)
    (hnd : (keys L.fields).Nodup) (c : Bool) : ∀ f : Fields, (∀ e ∈ f, e ∈ L.fields) →
    Spec.readAll layer c ((keys f).map (fun n => (n, (dataIn ls n, calIn cal n)))) =
      some (f.map (fun e => (e.1, e.2, if c then some (calIn cal e.1) else none))) := by
  intro f
  induction f with
  | nil => intro _; rfl
  | cons e r ih =>
    intro hsub
    have hd : (dataIn ls e.1)[layer]? = some e.2 := by
      rw [dataIn_getElem? hL, get?_of_mem_nodup hnd (hsub e (by simp))]; rfl
    simp only [keys_cons, List.map_cons, Spec.readAll, hd, ih (fun x hx => hsub x (by simp [hx]))]

theorem read_refines' {s : State} (h : Inv s) (layer : Nat) (t : Option Name) (c : Bool) :
    read s layer t c = (abs s).read layer t c := by
  unfold read Spec.read
  rw [abs_shapes_length]
  by_cases hlt : layer < s.layers.length
  swap
  · rw [if_neg hlt, List.getElem?_eq_none (Nat.le_of_not_lt hlt)]
  obtain ⟨L, hL⟩ : ∃ L, s.layers[layer]? = some L := ⟨_, List.getElem?_eq_getElem hlt⟩
  have hkeys : keys L.fields = s.elements := h.layer_keys (List.mem_of_getElem? hL)
  have hdl := dataIn_getElem? hL
  rw [if_pos hlt, hL]
  cases t with
  | some n =>
    simp only [readLayer, abs, get?_map_mk]
    by_cases hn : n ∈ s.elements
    · obtain ⟨d, hd⟩ := get?_of_mem_keys (hkeys ▸ hn)
      obtain ⟨cv, hcv⟩ := get?_of_mem_keys ((h.cal_iff n).2 hn)
      simp only [hd, if_pos hn, hdl, hcv, calIn, Option.getD_some]
      cases c <;> rfl
    · simp [(get?_eq_none_iff _ _).2 (hkeys ▸ hn), hn]
  | none =>
    simp only [readLayer]
    have hmap : (abs s).map = (keys L.fields).map (fun n => (n, (dataIn s.layers n, calIn s.cal n))) := by
      simp only [abs, hkeys]
    rw [hmap, readAll_eq s.cal s.layers layer L hL (hkeys ▸ h.nodup) c L.fields (fun _ he => he)]
    cases c with
    | true =>
      rw [if_pos rfl, calibrateAll_eq]
      · rfl
      · intro e he
        exact (h.cal_iff _).2 (hkeys ▸ List.mem_map_of_mem he)
    | false => rfl

theorem readAll_items (layer : Nat) (c : Bool) : ∀ (mp : List (Name × Entry)) (out : ReadOut),
    Spec.readAll layer c mp = some out → ∀ item ∈ out, ∃ e ∈ mp,
      e.2.1[layer]? = some item.2.1 ∧ item.1 = e.1 ∧ item.2.2 = (if c then some e.2.2 else none) := by
  intro mp
  induction mp with
  | nil => intro out h item hi; cases h; cases hi
  | cons e r ih =>
    intro out h item hi
    rw [Spec.readAll] at h
    split at h
    · next d out' hd hr =>
      cases h
      rcases List.mem_cons.1 hi with rfl | hi
      · exact ⟨e, List.mem_cons_self, hd, rfl, rfl⟩
      · obtain ⟨e', he', h'⟩ := ih out' hr item hi
        exact ⟨e', List.mem_cons_of_mem _ he', h'⟩
    · cases h

theorem Spec.read_items {a : Spec} (hnd : (keys a.map).Nodup) {layer : Nat} {t : Option Name} {c : Bool}
    {out : ReadOut} (hr : a.read layer t c = some out) :
    ∀ item ∈ out, ∃ e, get? a.map item.1 = some e ∧ e.1[layer]? = some item.2.1 ∧
      item.2.2 = (if c then some e.2 else none) := by
  unfold Spec.read at hr
  split at hr
  · cases t with
    | some n =>
      dsimp only at hr
      cases hg : get? a.map n with
      | none => rw [hg] at hr; cases hr
      | some e =>
        rw [hg] at hr
        dsimp only at hr
        cases hd : e.1[layer]? with
        | none => rw [hd] at hr; cases hr
        | some d =>
          rw [hd] at hr
          cases hr
          intro item hi
          cases List.mem_singleton.1 hi
          exact ⟨e, hg, hd, rfl⟩
    | none =>
      intro item hi
      obtain ⟨e, he, h1, h2, h3⟩ := readAll_items layer c _ out hr item hi
      exact ⟨e.2, h2 ▸ get?_of_mem_nodup hnd he, h1, h3⟩
  · cases hr

theorem step_refines' {s : State} (h : Inv s) (op : Op) : (step s op).map abs = (abs s).step op := by
  cases op with
  | add n ds c => exact add_refines h n ds c
  | remove ns => exact remove_refines h ns
  | rename m => exact rename_refines h m
  | get layer t c =>
    simp only [step, Spec.step, read_refines' h]
    split <;> rfl
  | callerEdit => rfl

theorem run_refines' (ops : List Op) : ∀ {s : State}, Inv s → (run s ops).map abs = (abs s).run ops := by
  induction ops with
  | nil => intro s _; rfl
  | cons op r ih =>
    intro s h
    have hstep := step_refines' h op
    rw [run, Spec.run, ← hstep]
    cases hs : step s op with
    | none => rfl
    | some s' => exact ih (step_inv h hs)

theorem Spec.frame_of_ite {a a' : Spec} {c : Prop} [Decidable c] {mp : List (Name × Entry)}
    (h : (if c then some { a with map := mp } else none) = some a') :
    a'.shapes = a.shapes ∧ a'.srr = a.srr ∧ a'.cfg = a.cfg := by
  obtain ⟨_, rfl⟩ := Option.ite_some_none_eq_some.1 h
  exact ⟨rfl, rfl, rfl⟩

theorem Spec.step_frame {a a' : Spec} {op : Op} (h : a.step op = some a') :
    a'.shapes = a.shapes ∧ a'.srr = a.srr ∧ a'.cfg = a.cfg := by
  cases op with
  | add n ds c => exact Spec.frame_of_ite h
  | remove ns => exact Spec.frame_of_ite h
  | rename m => exact Spec.frame_of_ite h
  | get layer t c => exact Spec.frame_of_ite (mp := a.map) h
  | callerEdit => cases h; exact ⟨rfl, rfl, rfl⟩

theorem step_frame {s s' : State} (h : Inv s) {op : Op} (hs : step s op = some s') :
    s'.layers.map (·.shape) = s.layers.map (·.shape) ∧ s'.srr = s.srr ∧ s'.cfg = s.cfg ∧ s'.shape = s.shape :=
  -- read off the `Spec` side through refinement: there every operation is `{ a with map := _ }`
  have f : s'.layers.map (·.shape) = s.layers.map (·.shape) ∧ s'.srr = s.srr ∧ s'.cfg = s.cfg :=
    Spec.step_frame (a := abs s) (a' := abs s') (by rw [← step_refines' h op, hs]; rfl)
  ⟨f.1, f.2.1, f.2.2, by rw [State.shape, State.shape, f.1, f.2.1]⟩

theorem run_frame (ops : List Op) : ∀ {s s' : State}, Inv s → run s ops = some s' →
    Inv s' ∧ s'.shape = s.shape ∧ s'.cfg = s.cfg := by
  induction ops with
  | nil => intro s s' h hs; cases hs; exact ⟨h, rfl, rfl⟩
  | cons op r ih =>
    intro s s' h hs
    rw [run] at hs
    cases hstep : step s op with
    | none => rw [hstep] at hs; cases hs
    | some s1 =>
      rw [hstep] at hs
      obtain ⟨h2, hsh, hcfg⟩ := ih (step_inv h hstep) hs
      have hf := step_frame h hstep
      exact ⟨h2, hsh.trans hf.2.2.2, hcfg.trans hf.2.2.1⟩

theorem run_inv' (ops : List Op) : ∀ {s s' : State}, Inv s → run s ops = some s' → Inv s' :=
  fun h hs => (run_frame ops h hs).1

theorem foldl_default (el : List Name) (h : el.Nodup) :
    el.foldl (fun acc n => dictSet acc n 0) [] = el.map (fun n => (n, 0)) :=
  foldl_dictSet_map (fun n => (n, 0)) el (by rwa [keys_map_mk])

theorem calIn_default (el : List Name) (n : Name) : calIn (el.map (fun n => ((n, 0) : Name × Nat))) n = 0 := by
  simp only [calIn, get?_map_mk (fun _ => 0) el n]
  split <;> rfl

theorem initCal_keys {el : List Name} (hnd : el.Nodup) {given : Option Dict}
    (hg : ∀ g, given = some g → ∀ k ∈ keys g, k ∈ el) : keys (initCal el given) = el := by
  unfold initCal
  rw [foldl_default el hnd]
  cases given with
  | none => exact keys_map_mk _ el
  | some g =>
    rw [keys_foldl_update g _ (by rw [keys_map_mk]; exact hg g rfl)]
    exact keys_map_mk _ el

theorem initCal_calIn {el : List Name} (hnd : el.Nodup) {given : Option Dict}
    (hg : ∀ g, given = some g → (keys g).Nodup) (n : Name) :
    calIn (initCal el given) n = (given.bind (fun g => get? g n)).getD 0 := by
  unfold initCal
  rw [foldl_default el hnd]
  cases given with
  | none => exact calIn_default el n
  | some g =>
    simp only [calIn, Option.bind_some]
    rw [get?_foldl_update g _ (hg g rfl)]
    cases get? g n with
    | some v => rfl
    | none => exact calIn_default el n

theorem mem_keys_initCal (el : List Name) (given : Option Dict) (x : Name) :
    x ∈ keys (initCal el given) ↔ x ∈ el ∨ ∃ g, given = some g ∧ x ∈ keys g := by
  have hd0 : el.foldl (fun acc n => dictSet acc n 0) [] =
      (el.map fun n => ((n, 0) : Name × Nat)).foldl (fun acc e => dictSet acc e.1 e.2) [] := by
    rw [List.foldl_map]
  unfold initCal
  cases given <;> simp [hd0, mem_keys_foldl_update, keys_map_mk, or_comm]

theorem mkState_inv {srr : Bool} {ls : List Layer} {given : Option Dict} (cfg : Nat)
    (hl : LayersOK ls) (hg : GivenOK ls given) : Inv (mkState srr ls given cfg) :=
  inv_of hl.1 hl.2.1 hl.2.2 (List.Perm.of_eq (initCal_keys hl.2.2 fun g hgg => (hg g hgg).2))

theorem mkState_inv_iff {srr : Bool} {ls : List Layer} {given : Option Dict} (cfg : Nat) (hl : LayersOK ls)
    (hnd : ∀ g, given = some g → (keys g).Nodup) : Inv (mkState srr ls given cfg) ↔ GivenOK ls given :=
  ⟨fun h g hg => ⟨hnd g hg, fun k hk =>
    (h.cal_iff k).1 ((mem_keys_initCal (elementsOf ls) given k).2 (Or.inr ⟨g, hg, hk⟩))⟩, mkState_inv cfg hl⟩

theorem mkState_abs {srr : Bool} {ls : List Layer} {given : Option Dict} (cfg : Nat)
    (hl : LayersOK ls) (hg : GivenOK ls given) :
    abs (mkState srr ls given cfg) = Spec.construct srr ls given cfg := by
  refine Spec.ext' rfl rfl ?_ rfl
  show (elementsOf ls).map (fun n => (n, (dataIn ls n, calIn (initCal (elementsOf ls) given) n))) = _
  cases ls with
  | nil => exact absurd rfl hl.1
  | cons l r =>
    simp only [elementsOf, Spec.construct, keys, List.map_map]
    refine List.map_congr_left fun e _ => ?_
    simp only [Function.comp, dataIn]
    congr 2
    exact initCal_calIn hl.2.2 (fun g hgg => (hg g hgg).1) e.1

theorem Inv.layersOK {s : State} (h : Inv s) : LayersOK s.layers := ⟨h.ne, h.2.1, h.nodup⟩

theorem Inv.givenOK {s : State} (h : Inv s) : GivenOK s.layers (some s.cal) := by
  rintro g ⟨rfl⟩
  exact ⟨h.cal_nodup, fun k hk => (h.cal_iff k).1 hk⟩

theorem construct_abs_self {s : State} (h : Inv s) : Spec.construct s.srr s.layers (some s.cal) s.cfg = abs s := by
  refine Spec.ext' rfl rfl ?_ rfl
  show _ = (elementsOf s.layers).map (fun n => (n, (dataIn s.layers n, calIn s.cal n)))
  cases hls : s.layers with
  | nil => exact absurd hls h.ne
  | cons l r => simp [elementsOf, Spec.construct, keys, dataIn, calIn]

theorem roundTrip_some {s : State} (hk : KindOK s) :
    roundTrip s = some (mkState s.srr s.layers (some s.cal) s.cfg) := by
  unfold roundTrip
  cases hsrr : s.srr with
  | true =>
    have := hk.1 hsrr
    simp [constructSRR, this]
  | false =>
    have := hk.2 hsrr
    match hls : s.layers, this with
    | [l], _ => simp [constructLaser]

theorem sub_swap_inj (a b x y : Name) (h : sub [(a, b), (b, a)] x = sub [(a, b), (b, a)] y) : x = y := by
  rw [sub_pair, sub_pair] at h; grind

theorem sub_chain_inj (a b c : Name) {x y : Name} (hx : x ≠ c) (hy : y ≠ c)
    (h : sub [(a, b), (b, c)] x = sub [(a, b), (b, c)] y) : x = y := by
  rw [sub_pair, sub_pair] at h; grind

theorem sub_chain_ne (a b c x : Name) (hab : a ≠ b) (hca : c ≠ a) : sub [(a, b), (b, c)] x ≠ a := by
  rw [sub_pair]; grind

theorem rename_of_inj {s : State} (h : Inv s) (m : NameMap)
    (hinj : ∀ a ∈ s.elements, ∀ b ∈ s.elements, sub m a = sub m b → a = b) :
    ∃ s', rename s m = some s' ∧ (∀ n ∈ s.elements, entry s' (sub m n) = entry s n) ∧
      ∀ k, (∀ n ∈ s.elements, sub m n ≠ k) → entry s' k = none := by
  have hnd := (List.nodup_map_iff_inj_on h.nodup).2 hinj
  refine ⟨_, (rename_eq h m).trans (if_pos hnd), fun n hn => entry_rename h hnd hn, fun k hk => ?_⟩
  rw [entry_eq_none_iff, State.elements, elementsOf_map (Layer.keys_renamed m) rfl, List.mem_map]
  exact fun ⟨n, hn, e⟩ => hk n hn e

theorem rename_of_injective {s : State} (h : Inv s) (m : NameMap) (hinj : ∀ x y, sub m x = sub m y → x = y) :
    ∃ s', rename s m = some s' ∧ ∀ k, entry s' (sub m k) = entry s k := by
  obtain ⟨s', hs', htr, hno⟩ := rename_of_inj h m fun x _ y _ => hinj x y
  refine ⟨s', hs', fun k => ?_⟩
  by_cases hk : k ∈ s.elements
  · exact htr k hk
  · rw [(entry_eq_none_iff s k).2 hk]
    exact hno _ fun x hx e => hk (hinj x k e ▸ hx)

end Pew.LaserEdit
