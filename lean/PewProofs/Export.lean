import PewProofs.ExportLists

/-! # C16 — the text reader on arbitrary text: every stage of it commutes with `normalise`, hence the choice of delimiter
never matters, and naming the one delimiter a text uses is the default call -/
namespace Pew.Export

section text
variable {α : Type}

/-- the assumptions on the opaque number printer / converter (`'%.18g' % x` and `float`) -/
structure Clean (fmt : α → Str) (conv : Str → α) : Prop where
  roundtrip : ∀ x, conv (fmt x) = x
  nonempty : ∀ x, fmt x ≠ []
  chars : ∀ x, ∀ c ∈ fmt x, c ≠ ',' ∧ c ≠ ';' ∧ c ≠ '\t' ∧ c ≠ '\n' ∧ c ≠ '\r' ∧ c ≠ '#' ∧ c ≠ ' '

def IsDelim (c : Char) : Prop := c = ',' ∨ c = ';' ∨ c = '\t'

instance : DecidablePred IsDelim := fun c => by unfold IsDelim; exact inferInstance

theorem isDelimB_iff (c : Char) : isDelimB c = true ↔ IsDelim c := by
  simp [isDelimB, IsDelim, or_assoc]

theorem not_delim_nl : ¬ IsDelim '\n' := by decide

theorem mem_pyLines (s : Str) (l : Str) (hl : l ∈ pyLines s) (c : Char) (hc : c ∈ l) : c ∈ s ∨ c = '\n' := by
  simp only [pyLines, List.mem_append, List.mem_map] at hl
  rcases hl with ⟨x, hx, rfl⟩ | hl
  · rcases List.mem_append.mp hc with e | e
    · exact Or.inl ((mem_splitOn '\n' s x (List.dropLast_subset _ hx)).2 c e)
    · exact Or.inr (List.mem_singleton.mp e)
  · cases hg : (splitOn '\n' s).getLast? with
    | none => simp [hg] at hl
    | some x =>
      rw [hg] at hl
      cases x with
      | nil => simp at hl
      | cons a t =>
        obtain rfl := List.mem_singleton.mp hl
        exact Or.inl ((mem_splitOn '\n' s _ (List.mem_of_getLast? hg)).2 c hc)

theorem universalNewlines_noCR (s : Str) (h : '\r' ∉ s) : universalNewlines false s = s := by
  induction s with
  | nil => rfl
  | cons c cs ih =>
    have hc : c ≠ '\r' := fun e => h (by simp [e])
    have hcs : '\r' ∉ cs := fun e => h (by simp [e])
    by_cases hn : c = '\n'
    · subst hn; simp [universalNewlines, ih hcs]
    · simp [universalNewlines, hc, hn, ih hcs]

theorem mem_universalNewlines (b : Bool) (s : Str) (c : Char) (h : c ∈ universalNewlines b s) : c ∈ s ∨ c = '\n' := by
  induction s generalizing b with
  | nil => cases h
  | cons x xs ih =>
    have step : ∀ b', c ∈ universalNewlines b' xs → c ∈ x :: xs ∨ c = '\n' :=
      fun b' h' => (ih b' h').imp_left (List.mem_cons_of_mem _)
    have head : ∀ b', c ∈ '\n' :: universalNewlines b' xs → c ∈ x :: xs ∨ c = '\n' :=
      fun b' h' => (List.mem_cons.mp h').elim Or.inr (step b')
    rw [universalNewlines] at h
    split at h
    · exact head true h
    · split at h
      · split at h
        · exact step false h
        · exact head false h
      · exact (List.mem_cons.mp h).elim (fun e => Or.inl (e ▸ List.mem_cons_self)) (step false)

theorem mem_cutComment {l : Str} {c : Char} (h : c ∈ cutComment l) : c ∈ l :=
  (List.takeWhile_sublist _).subset h

theorem mem_strip {s : Str} {c : Char} (h : c ∈ strip s) : c ∈ s :=
  (Lists.strip_sublist (p := isStripChar) s).subset h

/-! ### every stage commutes with `normalise`: the choice of delimiter never matters -/

def normChar (c : Char) : Char := if c = ';' ∨ c = '\t' then ',' else c

theorem normalise_eq_map (s : Str) : normalise s = s.map normChar := rfl

theorem normalise_cons (c : Char) (s : Str) : normalise (c :: s) = normChar c :: normalise s := rfl

theorem normalise_append (x y : Str) : normalise (x ++ y) = normalise x ++ normalise y := List.map_append

theorem normalise_eq_nil (s : Str) : normalise s = [] ↔ s = [] := List.map_eq_nil_iff

theorem normChar_delim {c : Char} (h : IsDelim c) : normChar c = ',' := by
  rcases h with rfl | h
  · decide
  · exact if_pos h

theorem normChar_other {c : Char} (h : ¬ IsDelim c) : normChar c = c := if_neg fun e => h (Or.inr e)

theorem normalise_clean (l : Str) (h : ∀ c ∈ l, ¬ IsDelim c) : normalise l = l :=
  Lists.map_eq_self _ l fun c hc => normChar_other (h c hc)

theorem normChar_eq_iff {a : Char} (ha : ¬ IsDelim a) (c : Char) : normChar c = a ↔ c = a := by
  by_cases h : IsDelim c
  · rw [normChar_delim h]
    exact ⟨fun e => absurd (e ▸ Or.inl rfl) ha, fun e => absurd (e ▸ h) ha⟩
  · rw [normChar_other h]

theorem normChar_idem (c : Char) : normChar (normChar c) = normChar c := by
  by_cases h : IsDelim c
  · rw [normChar_delim h]
    decide
  · rw [normChar_other h, normChar_other h]

theorem normalise_idem (s : Str) : normalise (normalise s) = normalise s := by
  rw [normalise_eq_map, normalise_eq_map, List.map_map]
  exact List.map_congr_left fun c _ => normChar_idem c

theorem universalNewlines_map (g : Char → Char) (hr : ∀ c, g c = '\r' ↔ c = '\r') (hn : ∀ c, g c = '\n' ↔ c = '\n')
    (b : Bool) (s : Str) : universalNewlines b (s.map g) = (universalNewlines b s).map g := by
  induction s generalizing b with
  | nil => rfl
  | cons c cs ih =>
    have hnl : g '\n' = '\n' := (hn '\n').mpr rfl
    rw [List.map_cons, universalNewlines, universalNewlines]
    by_cases h1 : c = '\r'
    · rw [if_pos h1, if_pos ((hr c).mpr h1), ih, List.map_cons, hnl]
    · rw [if_neg h1, if_neg (mt (hr c).mp h1)]
      by_cases h2 : c = '\n'
      · rw [if_pos h2, if_pos ((hn c).mpr h2), ih]
        cases b
        · rw [if_neg Bool.false_ne_true, if_neg Bool.false_ne_true, List.map_cons, hnl]
        · rw [if_pos rfl, if_pos rfl]
      · rw [if_neg h2, if_neg (mt (hn c).mp h2), ih, List.map_cons]

theorem splitOn_map (g : Char → Char) (d e : Char) (s : Str) (h : ∀ c ∈ s, g c = e ↔ c = d) :
    splitOn e (s.map g) = (splitOn d s).map (List.map g) := by
  induction s with
  | nil => rfl
  | cons c cs ih =>
    simp only [List.map_cons, splitOn, h c List.mem_cons_self, ih fun x hx => h x (List.mem_cons_of_mem _ hx)]
    split
    · rfl
    · obtain ⟨x, xs, hs⟩ := splitOn_eq_cons d cs
      rw [hs]
      rfl

theorem universalNewlines_normalise (b : Bool) (s : Str) :
    universalNewlines b (normalise s) = normalise (universalNewlines b s) :=
  universalNewlines_map normChar (normChar_eq_iff (by decide)) (normChar_eq_iff not_delim_nl) b s

theorem pyLines_map (g : Char → Char) (hn : ∀ c, g c = '\n' ↔ c = '\n') (s : Str) :
    pyLines (s.map g) = (pyLines s).map (List.map g) := by
  have hnl : g '\n' = '\n' := (hn _).mpr rfl
  rw [pyLines, pyLines, splitOn_map g '\n' '\n' s fun c _ => hn c]
  simp only [List.map_append, List.map_map, ← List.map_dropLast, List.getLast?_map]
  congr 1
  · exact List.map_congr_left fun l _ => by simp [hnl]
  · cases (splitOn '\n' s).getLast? with
    | none => rfl
    | some l => cases l <;> rfl

theorem pyLines_normalise (s : Str) : pyLines (normalise s) = (pyLines s).map normalise :=
  pyLines_map normChar (normChar_eq_iff not_delim_nl) s

theorem loaderLines_normalise (file : Str) : loaderLines (normalise file) = loaderLines file := by
  unfold loaderLines
  rw [universalNewlines_normalise, pyLines_normalise, List.map_map]
  apply List.map_congr_left
  intro l _
  exact normalise_idem l

theorem cutComment_normalise (l : Str) : cutComment (normalise l) = normalise (cutComment l) := by
  have : ((fun c => decide (c ≠ '#')) ∘ normChar) = fun c => decide (c ≠ '#') :=
    funext fun c => by simp [normChar_eq_iff (a := '#') (by decide)]
  rw [cutComment, normalise_eq_map, List.takeWhile_map, this]
  rfl

theorem strip_normalise (s : Str) : strip (normalise s) = normalise (strip s) := by
  have : isStripChar ∘ normChar = isStripChar := funext fun c => by
    simp [isStripChar, normChar_eq_iff (a := ' ') (by decide),
      normChar_eq_iff (a := '\r') (by decide), normChar_eq_iff not_delim_nl]
  simp only [strip, normalise_eq_map, List.dropWhile_map, ← List.map_reverse, this]

/-! ### a named delimiter: splitting the raw line at `d` is splitting the normalised line at `,` -/

theorem splitOn_normalise_delim (d : Char) (hd : IsDelim d) (b : Str) (h : ∀ c ∈ b, IsDelim c → c = d) :
    splitOn ',' (normalise b) = splitOn d b := by
  -- in `b` it is `d` alone that `normChar` sends to `,`; the pieces between hold no `d`, hence no delimiter, and
  -- `normalise` leaves them as they are
  refine (splitOn_map normChar d ',' b fun c hc => ?_).trans (Lists.map_eq_self _ _ fun l hl => ?_)
  · by_cases hcd : IsDelim c
    · rw [normChar_delim hcd]
      exact ⟨fun _ => h c hc hcd, fun _ => rfl⟩
    · rw [normChar_other hcd]
      exact ⟨fun e => absurd (e ▸ Or.inl rfl) hcd, fun e => absurd (e ▸ hd) hcd⟩
  · exact normalise_clean l fun c hc e => (mem_splitOn d b l hl).1 (h c ((mem_splitOn d b l hl).2 c hc) e ▸ hc)

theorem splitLineD_eq (d : Char) (hd : IsDelim d) (l : Str) (h : ∀ c ∈ cutComment l, IsDelim c → c = d) :
    splitLineD d l = splitLine (normalise l) := by
  unfold splitLineD splitLine
  simp only [cutComment_normalise, strip_normalise, normalise_eq_nil]
  by_cases hb : strip (cutComment l) = []
  · simp [hb]
  · rw [if_neg hb, if_neg hb]
    exact (splitOn_normalise_delim d hd _ (fun c hc => h c (mem_strip hc))).symm

theorem loaderRows_some_of_lines (d : Char) (hd : IsDelim d) (file : Str)
    (h : ∀ l ∈ pyLines (universalNewlines false file), ∀ c ∈ cutComment l, IsDelim c → c = d) :
    loaderRows (some d) file = loaderRows none file := by
  unfold loaderRows fieldRows loaderLines
  simp only [List.map_map]
  congr 1
  apply List.map_congr_left
  intro l hl
  exact splitLineD_eq d hd l (h l hl)

theorem loaderRows_some_of_chars (d : Char) (hd : IsDelim d) (file : Str) (h : ∀ c ∈ file, IsDelim c → c = d) :
    loaderRows (some d) file = loaderRows none file := by
  apply loaderRows_some_of_lines d hd
  intro l hl c hc hdc
  rcases mem_pyLines _ l hl c (mem_cutComment hc) with e | e
  · rcases mem_universalNewlines false file c e with e | e
    · exact h c e hdc
    · exact absurd (e ▸ hdc) not_delim_nl
  · exact absurd (e ▸ hdc) not_delim_nl

theorem shapeRule_two (r c : Nat) : shapeRule 2 [r, c] = [r, c] := by
  simp [shapeRule]

theorem loadFieldsD_none (ndmin : Nat) (file : Str) : loadFieldsD none ndmin file = loadFields ndmin file := by
  unfold loadFields loadFieldsD loaderRows
  cases fieldRows (loaderLines file) <;> rfl

theorem loadTextD_none (conv : Str → α) (ndmin : Nat) (file : Str) : loadTextD conv none ndmin file = loadText conv ndmin file := by
  unfold loadTextD loadText
  rw [loadFieldsD_none]

theorem fieldRows_append (a b : List Str) : fieldRows (a ++ b) = fieldRows a ++ fieldRows b := by
  simp [fieldRows]

theorem loadTextD_of_rows (conv : Str → α) (delim : Option Char) (file : Str) (tbl : List (List Str)) (c : Nat)
    (hne : tbl ≠ []) (hcols : ∀ r ∈ tbl, r.length = c) (h : loaderRows delim file = tbl) :
    loadTextD conv delim 2 file = some ([tbl.length, c], (tbl.map (·.map conv)).flatten) := by
  unfold loadTextD loadFieldsD
  rw [h]
  cases tbl with
  | nil => exact absurd rfl hne
  | cons r rs =>
    have hr : r.length = c := hcols r (by simp)
    have hall : rs.all (fun q => q.length == r.length) = true := by
      rw [List.all_eq_true]
      intro q hq
      simp [hcols q (by simp [hq]), hr]
    rw [hr] at hall
    simp only [tableOf, shapeRule_two, List.length_cons, hr, hall, if_true, Option.map_some, List.map_flatten]

end text

end Pew.Export
