import PewProofs.ThermoParams

/-! # C03 — the public functions call by call

`load` on an export is said once for a table in either layout (`load_export`) and once per layout from the reader
hypotheses (`RowsOK.load`, `ColsOK.load`). One call on the text of such a table returns what `specCall` names, given
what the sniffer, `load` and the readers return on the table (`call_spec_table`: the text layer is crossed there, for
both layouts and all four functions). A call sees of the file system only its texts (`FS.texts`). -/
namespace Pew.Thermo

theorem load_of_read {x : Ext V} {delim : Char} {t : Table} {ua : Bool} (rows : Bool) {img : Img V}
    (hs : sniff t = bif rows then .rows else .columns)
    (hr : (bif rows then readRows x (detectComma delim t) (chanOf ua) t else readCols x (detectComma delim t) (chanOf ua) t)
      = some img) :
    load x delim t ua = .ok img (readParams x rows (detectComma delim t) t) := by
  unfold load chanOf at *
  cases rows
  · simp only [cond_false] at hr hs
    simp only [hs, hr]
  · simp only [cond_true] at hr hs
    simp only [hs, hr]

/-- `po`: the Time channel, when it was exported; the result carries the decimal mark the file was written with,
whatever was detected -/
theorem load_export {x : Ext V} {a : Acq} {t : Table} (ht : IsExport a t) (rows : Bool) (delim : Char) (dec ua : Bool)
    {ci : Nat} {po : Option Nat} (hs : sniff t = bif rows then .rows else .columns)
    (hr : ∀ b, (bif rows then readRows x b (chanOf ua) t else readCols x b (chanOf ua) t) = some (specImg x b a ci))
    (hp : ∀ b, readParams x rows b t = po.map (specParams x b a))
    (hci : ci < a.channels.length) (hpo : ∀ ct, po = some ct → ct < a.channels.length) (hk : 0 < a.elements.length)
    (hdec : dec = true → delim = ';') (hnodec : dec = false → ∀ q ∈ t, ∀ f ∈ q, hasSub "," f = false) :
    load x delim t ua = .ok (specImg x dec a ci) (po.map (specParams x dec a)) := by
  rw [load_of_read rows hs (hr _), hp, specImg_detect ht x delim dec hdec hnodec hci]
  cases po with
  | none => rfl
  | some ct => rw [Option.map_some, Option.map_some, specParams_detect ht x delim dec hdec hnodec (hpo ct rfl) hk]

theorem RowsOK.load {x : Ext V} {sh : Nat → String} {a : Acq} {ci : Nat} (hr : RowsOK x sh a ci) {ua : Bool}
    (hchan : a.chan ci = chanOf ua) {po : Option Nat}
    (hp : ∀ b, Thermo.readParams x true b (renderRows sh a) = po.map (specParams x b a))
    (hpo : ∀ ct, po = some ct → ct < a.channels.length) {delim : Char} {dec : Bool}
    (hdec : dec = true → delim = ';') (hnodec : dec = false → ∀ r ∈ renderRows sh a, ∀ f ∈ r, hasSub "," f = false) :
    Thermo.load x delim (renderRows sh a) ua = .ok (specImg x dec a ci) (po.map (specParams x dec a)) :=
  load_export (renderRows_export sh a) true delim dec ua
    (sniff_rows (renderRows_first sh a hr.nscans hr.nelements (Nat.zero_lt_of_lt hr.chanIdx)))
    -- `exact` alone would unfold `readRows` before `cond`
    (fun b => by rw [cond_true, ← hchan]; exact hr.readRows b)
    hp hr.chanIdx hpo hr.nelements hdec hnodec

theorem ColsOK.load {x : Ext V} {sh : Nat → String} {a : Acq} {ci : Nat} (hc : ∀ b, ColsOK x sh b a ci) {ua : Bool}
    (hchan : a.chan ci = chanOf ua) (hs : ∀ s ∈ a.samples, hasSub "MainRuns" s = false) {po : Option Nat}
    (hp : ∀ b, Thermo.readParams x false b (renderCols sh a) = po.map (specParams x b a))
    (hpo : ∀ ct, po = some ct → ct < a.channels.length) {delim : Char} {dec : Bool}
    (hdec : dec = true → delim = ';') (hnodec : dec = false → ∀ r ∈ renderCols sh a, ∀ f ∈ r, hasSub "," f = false) :
    Thermo.load x delim (renderCols sh a) ua = .ok (specImg x dec a ci) (po.map (specParams x dec a)) :=
  load_export (renderCols_export sh a) false delim dec ua
    (sniff_columns (renderCols_first sh a hs)
      (renderCols_third sh a (hc false).nscans (hc false).nelements (Nat.zero_lt_of_lt (hc false).chanIdx)))
    (fun b => by rw [cond_false, ← hchan]; exact (hc b).readCols)
    hp (hc false).chanIdx hpo (hc false).nelements hdec hnodec

def LoadResult.toData : LoadResult → LoadOut
  | .unknownFormat => .raises
  | .readError => .raises
  | .ok img _ => .data img

theorem loadData_eq (x : Ext V) (delim : Char) (t : Table) (ua : Bool) :
    loadData x delim t ua = (load x delim t ua).toData := by
  unfold loadData load chanOf
  cases sniff t with
  | unknown => rfl
  | rows =>
    simp only
    cases readRows x (detectComma delim t) (if ua = true then "Analog" else "Counter") t <;> rfl
  | columns =>
    simp only
    cases readCols x (detectComma delim t) (if ua = true then "Analog" else "Counter") t <;> rfl

theorem loadDataText_eq (x : Ext V) (lines : List String) (ua : Bool) :
    loadDataText x lines ua = (loadText x lines ua).toData := by
  unfold loadDataText loadText
  cases (lines.headD "").toList with
  | nil => rfl
  | cons d tl => exact loadData_eq x d _ ua

theorem loadCall_ok {x : Ext V} {lines : List String} {ua : Bool} {img : Img V} {p : Option Params}
    (h : loadText x lines ua = .ok img p) (full : Bool) :
    loadCall x lines ua full = if full then .full img p else .data img := by
  unfold loadCall
  cases full with
  | true => simp only [if_true, h]
  | false => simp only [Bool.false_eq_true, if_false, loadDataText_eq, h, LoadResult.toData]

/-- the channels the public functions ask for -/
def Asked (name : String) : Prop := name = "Counter" ∨ name = "Analog" ∨ name = "Time"

/-- a samples-in-rows export every public function can be asked about: `RowsOK` for each of the channels
Counter / Analog / Time that was exported, one of the three delimiter / decimal-mark pairs, no field
holds the delimiter -/
structure RowsFileOK (x : Ext V) (sh : Nat → String) (d : Char) (dec : Bool) (a : Acq) : Prop where
  nscans : 0 < a.nscans
  nelements : 0 < a.elements.length
  nchannels : 0 < a.channels.length
  chans : ∀ ci, ci < a.channels.length → Asked (a.chan ci) → RowsOK x sh a ci
  decDelim : dec = true → d = ';'
  noComma : dec = false → ∀ r ∈ renderRows sh a, ∀ f ∈ r, hasSub "," f = false
  free : ∀ r ∈ renderRows sh a, ∀ f ∈ r, d ∉ f.toList
  delimMain : d ∉ "MainRuns".toList

/-- … and a samples-in-columns export -/
structure ColsFileOK (x : Ext V) (sh : Nat → String) (d : Char) (dec : Bool) (a : Acq) : Prop where
  nscans : 0 < a.nscans
  nelements : 0 < a.elements.length
  nchannels : 0 < a.channels.length
  /-- for both decimal marks: `load` reads with the mark it detects, which need not be `dec` (`detect_export`) -/
  chans : ∀ ci, ci < a.channels.length → Asked (a.chan ci) → ∀ b, ColsOK x sh b a ci
  sampleMain : ∀ s ∈ a.samples, hasSub "MainRuns" s = false
  decDelim : dec = true → d = ';'
  noComma : dec = false → ∀ r ∈ renderCols sh a, ∀ f ∈ r, hasSub "," f = false
  free : ∀ r ∈ renderCols sh a, ∀ f ∈ r, d ∉ f.toList
  delimMain : d ∉ "MainRuns".toList
  /-- when Time was not exported no line mentions it -/
  noTime : a.chanIdx "Time" = none → ColsAbsent sh a "Time"

/-- what a history may write -/
def ContentOK (x : Ext V) (sh : Nat → String) : Content → Prop
  | .rows d dec a => RowsFileOK x sh d dec a
  | .cols d dec a => ColsFileOK x sh d dec a
  | .other ls => otherFile (ls.map fun l => [l]) = true

theorem asked_chanOf (ua : Bool) : Asked (chanOf ua) := by
  cases ua
  · exact Or.inl rfl
  · exact Or.inr (Or.inl rfl)

/-- a call is judged: the specification is silent, or the result is the one it names -/
def Judged : Option Out → Out → Prop
  | none, _ => True
  | some o, o' => o' = o

/-- … call by call: as many results as the specification has entries, each one judged -/
def JudgedAll : List (Option Out) → List Out → Prop
  | [], [] => True
  | s :: ss, o :: os => Judged s o ∧ JudgedAll ss os
  | _, _ => False

theorem call_spec_table (x : Ext V) (d : Char) (dec : Bool) {a : Acq} (rows : Bool) {t : Table} (ht : IsExport a t)
    (hfree : ∀ q ∈ t, ∀ f ∈ q, d ∉ f.toList) (hdm : d ∉ "MainRuns".toList)
    (hsniff : sniff t = bif rows then .rows else .columns)
    (hload : ∀ ua ci, ci < a.channels.length → a.chan ci = chanOf ua →
      load x d t ua = .ok (specImg x dec a ci) (specPar x dec a))
    (hdata : ∀ comma ua ci, ci < a.channels.length → a.chan ci = chanOf ua →
      (if rows then readRows x comma (chanOf ua) t else readCols x comma (chanOf ua) t) = some (specImg x comma a ci))
    (hpar : ∀ comma, readParams x rows comma t = specPar x comma a)
    (c : Call) : Judged (specCall x (bif rows then .rows d dec a else .cols d dec a) c) (callText x (renderText d t) c) := by
  cases c with
  | sniff => cases rows <;> exact congrArg Out.fmt ((sniffText_renderText d hdm t).trans hsniff)
  | load ua full =>
    have hs : specCall x (bif rows then .rows d dec a else .cols d dec a) (.load ua full)
        = (specData x dec a ua).map fun img => Out.load (if full then .full img (specPar x dec a) else .data img) := by
      cases rows <;> rfl
    rw [hs]
    unfold specData
    cases hci : a.chanIdx (chanOf ua) with
    | none => trivial
    | some ci =>
      obtain ⟨hlt, hch⟩ := chanIdx_some a _ ci hci
      exact congrArg Out.load (loadCall_ok ((loadText_export ht x d ua hfree).trans (hload ua ci hlt hch)) full)
  | data r explicit comma ua =>
    have hs : specCall x (bif rows then .rows d dec a else .cols d dec a) (.data r explicit comma ua)
        = if (r == rows && (comma == dec && (explicit.isNone || explicit == some d))) = true
          then (specData x dec a ua).map fun img => Out.img (some img) else none := by
      cases rows <;> cases r <;> rfl
    rw [hs]
    split
    · rename_i hcond
      simp only [Bool.and_eq_true, beq_iff_eq, Bool.or_eq_true, Option.isNone_iff_eq_none] at hcond
      obtain ⟨rfl, rfl, hexp⟩ := hcond
      unfold specData
      cases hci : a.chanIdx (chanOf ua) with
      | none => trivial
      | some ci =>
        obtain ⟨hlt, hch⟩ := chanIdx_some a _ ci hci
        exact congrArg Out.img
          ((readDataText_export ht x r d explicit comma ua hfree hexp).trans (hdata comma ua ci hlt hch))
    · trivial
  | params r explicit comma =>
    have hs : specCall x (bif rows then .rows d dec a else .cols d dec a) (.params r explicit comma)
        = if (r == rows && (comma == dec && (explicit.isNone || explicit == some d))) = true
          then (specPar x dec a).map fun p => Out.params (some p) else none := by
      cases rows <;> cases r <;> rfl
    rw [hs]
    split
    · rename_i hcond
      simp only [Bool.and_eq_true, beq_iff_eq, Bool.or_eq_true, Option.isNone_iff_eq_none] at hcond
      obtain ⟨rfl, rfl, hexp⟩ := hcond
      cases hsp : specPar x comma a with
      | none => trivial
      | some p =>
        exact congrArg Out.params
          (((readParamsText_export ht x r d explicit comma hfree hexp).trans (hpar comma)).trans hsp)
    · trivial

theorem readParams_renderRows {x : Ext V} {sh : Nat → String} {d : Char} {dec : Bool} {a : Acq}
    (h : RowsFileOK x sh d dec a) (b : Bool) : readParams x true b (renderRows sh a) = specPar x b a := by
  unfold specPar
  cases hct : a.chanIdx "Time" with
  | none => exact readParams_rows_noTime x sh b a hct
  | some ct =>
    obtain ⟨hlt, hch⟩ := chanIdx_some a _ ct hct
    exact (h.chans ct hlt (hch ▸ Or.inr (Or.inr rfl))).readParams hch b

theorem readParams_renderCols {x : Ext V} {sh : Nat → String} {d : Char} {dec : Bool} {a : Acq}
    (h : ColsFileOK x sh d dec a) (b : Bool) : readParams x false b (renderCols sh a) = specPar x b a := by
  unfold specPar
  cases hct : a.chanIdx "Time" with
  | none => exact readParams_cols_noTime x sh b a (h.noTime hct)
  | some ct =>
    obtain ⟨hlt, hch⟩ := chanIdx_some a _ ct hct
    exact (h.chans ct hlt (hch ▸ Or.inr (Or.inr rfl)) b).readParams hch

/-! ## the texts of a file system: all that a call sees of it -/

def FS.texts (fs : FS) (p : Nat) : Option (List String) := (fs p).map (·.lines)

theorem FS.texts_write (fs : FS) (p mt : Nat) (ls : List String) (q : Nat) :
    (fs.write p { mtime := mt, lines := ls }).texts q = if q = p then some ls else fs.texts q := by
  unfold FS.texts FS.write
  split <;> rfl

theorem runHistory_call (x : Ext V) (fs : FS) (p : Nat) (c : Call) (rest : List Event) :
    runHistory x fs (.call p c :: rest) = (fs.texts p).elim Out.noFile (callText x · c) :: runHistory x fs rest := by
  unfold FS.texts
  rw [runHistory]
  cases fs p <;> rfl

end Pew.Thermo
