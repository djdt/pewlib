import PewModel.Sync
import PewProofs.SyncList

/-! # C08 — `squeeze`: the mechanism is the specification, and no pixel that holds data is lost -/
namespace Pew.Sync

theorem getD_nan_of_all (isnan : Nat → Bool) (r : List (Option Nat)) (h : r.all (isNanPx isnan) = true) (c : Nat) :
    isNanPx isnan (r.getD c none) = true := by
  unfold List.getD
  cases hc : r[c]? with
  | none => simp [isNanPx]
  | some v =>
    have : v ∈ r := List.mem_of_getElem? hc
    exact (List.all_eq_true.mp h) v this

theorem squeezeImg_eq_spec (isnan : Nat → Bool) (w : Nat) (img : List (List (Option Nat))) :
    squeezeImg isnan w img = (squeezeSpec isnan w img, (keptCols isnan w img).length) := by
  unfold squeezeImg squeezeSpec
  have hrows : img.filter (fun r => !(r.all (isNanPx isnan)))
      = (keptRows isnan img).map (fun i => img.getD i []) := by
    rw [filter_eq_range [] _ img]
    unfold keptRows
    congr 1
    apply List.filter_congr
    intro i _
    simp [pxHasData, List.any_eq_not_all_not]
  have hkeep : (List.range w).filter (fun c => !((img.filter (fun r => !(r.all (isNanPx isnan)))).all
        (fun r => isNanPx isnan (r.getD c none)))) = keptCols isnan w img := by
    unfold keptCols
    apply List.filter_congr
    intro c _
    -- a dropped row is NaN in every column, so testing the column on the kept rows is testing it on all rows
    rw [all_filter_of]
    · simp [pxHasData, List.any_eq_not_all_not]
    · intro r _ hr
      apply getD_nan_of_all
      simpa using hr
  simp only [hkeep]
  simp only [hrows, List.map_map]
  rfl

theorem squeezeSpec_keeps (isnan : Nat → Bool) (w : Nat) (img : List (List (Option Nat))) (r c k : Nat)
    (row : List (Option Nat)) (hr : img[r]? = some row) (hc : c < w) (hk : row[c]? = some (some k))
    (hn : isnan k = false) :
    ∃ (i j : Nat), (keptRows isnan img)[i]? = some r ∧ (keptCols isnan w img)[j]? = some c ∧
      ((squeezeSpec isnan w img)[i]?.bind (fun (row : List (Option Nat)) => row[j]?)) = some (some k) := by
  have hrl : r < img.length := by
    rcases Nat.lt_or_ge r img.length with h | h
    · exact h
    · rw [List.getElem?_eq_none h] at hr; cases hr
  have hgr : img.getD r [] = row := by simp [List.getD, hr]
  have hgc : row.getD c none = some k := by simp [List.getD, hk]
  have hdata : pxHasData isnan (some k) = true := by simp [pxHasData, isNanPx, hn]
  have hrmem : r ∈ keptRows isnan img := by
    unfold keptRows
    rw [List.mem_filter]
    refine ⟨List.mem_range.mpr hrl, ?_⟩
    rw [hgr, List.any_eq_true]
    exact ⟨some k, List.mem_of_getElem? hk, hdata⟩
  have hcmem : c ∈ keptCols isnan w img := by
    unfold keptCols
    rw [List.mem_filter]
    refine ⟨List.mem_range.mpr hc, ?_⟩
    rw [List.any_eq_true]
    exact ⟨row, List.mem_of_getElem? hr, by rw [hgc]; exact hdata⟩
  obtain ⟨i, hi⟩ := List.getElem?_of_mem hrmem
  obtain ⟨j, hj⟩ := List.getElem?_of_mem hcmem
  refine ⟨i, j, hi, hj, ?_⟩
  unfold squeezeSpec
  rw [List.getElem?_map, hi]
  simp only [Option.map_some, Option.bind_some]
  rw [List.getElem?_map, hj]
  simp [hr, hk]

theorem squeezeImg_mem (isnan : Nat → Bool) (w : Nat) (img : List (List (Option Nat))) (row : List (Option Nat))
    (hrow : row ∈ (squeezeImg isnan w img).1) (k : Nat) (hk : some k ∈ row) :
    ∃ row' ∈ img, some k ∈ row' := by
  unfold squeezeImg at hrow
  simp only [List.mem_map, List.mem_filter] at hrow
  obtain ⟨r0, ⟨hr0, _⟩, rfl⟩ := hrow
  refine ⟨r0, hr0, ?_⟩
  obtain ⟨c, _, hc⟩ := List.mem_map.mp hk
  have : r0[c]? = some (some k) := by
    unfold List.getD at hc
    cases h : r0[c]? with
    | none => simp [h] at hc
    | some v => simp [h] at hc; rw [hc]
  exact List.mem_of_getElem? this

theorem allNan_eq_false_iff (masks : List (Nat → Bool)) (k : Nat) :
    allNan masks k = false ↔ ∃ m ∈ masks, m k = false := by
  simp [allNan]

end Pew.Sync
