import PewModel.Npz
import PewProofs.Lists
import PewProofs.Rounding

/-! The members of an `.npz` file, each read back from what was written: the packed info string, a calibration record, the
configuration array, the image data. -/
namespace Pew.Npz

theorem splitOn_eq : splitOn = Lists.splitOn := by
  funext sep s
  induction s with
  | nil => rfl
  | cons c cs ih => rw [splitOn, Lists.splitOn, ih]; cases Lists.splitOn sep cs <;> rfl

theorem splitOn_ne_nil (sep : Char) (s : Str) : splitOn sep s ≠ [] :=
  splitOn_eq ▸ Lists.splitOn_ne_nil sep s

theorem splitOn_append_sep (sep : Char) (a rest : Str) (h : sep ∉ a) :
    splitOn sep (a ++ sep :: rest) = a :: splitOn sep rest :=
  splitOn_eq ▸ Lists.splitOn_append sep rest h

theorem splitOn_noSep (sep : Char) (a : Str) (h : sep ∉ a) : splitOn sep a = [a] :=
  splitOn_eq ▸ Lists.splitOn_of_not_mem sep h

theorem tab_not_mem_tabToSpace (s : Str) : '\t' ∉ tabToSpace s := by
  intro h
  obtain ⟨c, -, hc⟩ := List.mem_map.mp h
  split at hc
  · cases hc
  · next hne => exact hne hc

theorem tabToSpace_of_tabFree (s : Str) (h : '\t' ∉ s) : tabToSpace s = s :=
  Lists.map_eq_self _ s fun c hc => if_neg fun e : c = '\t' => h (e ▸ hc)

theorem tabToSpace_idem (s : Str) : tabToSpace (tabToSpace s) = tabToSpace s :=
  tabToSpace_of_tabFree _ (tab_not_mem_tabToSpace s)

theorem stripNul_of_noNulEnd (s : Str) (h : noNulEnd s = true) : stripNul s = s :=
  Lists.rstrip_of_getLast? fun a ha => by
    rw [noNulEnd, ha] at h
    simpa using h

theorem pairUp_split_join (l : List (Str × Str))
    (h : ∀ kv ∈ l, '\t' ∉ kv.1 ∧ '\t' ∉ kv.2) :
    pairUp (splitOn '\t' (joinSep '\t' (l.map fun kv => kv.1 ++ '\t' :: kv.2))) = l := by
  induction l with
  | nil => rfl
  | cons kv r ih =>
    obtain ⟨hk, hv⟩ := h kv List.mem_cons_self
    cases r with
    | nil =>
      rw [List.map_singleton, joinSep, splitOn_append_sep _ _ _ hk, splitOn_noSep _ _ hv]
      rfl
    | cons kv' r' =>
      have ih' := ih fun x hx => h x (List.mem_cons_of_mem _ hx)
      rw [List.map_cons] at ih'
      rw [List.map_cons, List.map_cons, joinSep, List.append_assoc, List.cons_append,
        splitOn_append_sep _ _ _ hk, splitOn_append_sep _ _ _ hv, pairUp, ih']

theorem unpack_packRaw (info : Info) : unpackInfo (packInfoRaw info) = infoSpec info := by
  have := pairUp_split_join ((info.filter fun kv => kv.1 ≠ kFilePath).map fun kv => (tabToSpace kv.1, tabToSpace kv.2))
    fun kv hkv => by
      obtain ⟨x, -, rfl⟩ := List.mem_map.mp hkv
      exact ⟨tab_not_mem_tabToSpace _, tab_not_mem_tabToSpace _⟩
  rw [List.map_map] at this
  exact congrArg dictOfList this

/-- Info survives `pack_info` → NumPy storage → `unpack_info` as its tab-normalised form without
`File Path`, as a dict (a key repeated after tab replacement keeps its first place and takes the
last value).  Every info list; hypothesis: the packed string does not end in NUL (NumPy `U`
storage would strip it — known finding C01-trailing-nul). -/
theorem unpack_pack_info (info : Info) (h : noNulEnd (packInfoRaw info) = true) :
    unpackInfo (packInfo info) = infoSpec info := by
  rw [packInfo, stripNul_of_noNulEnd _ h, unpack_packRaw]

theorem noNulEnd_append_sep (a t : Str) (c : Char) (hc : c ≠ NUL) (h : noNulEnd t = true) :
    noNulEnd (a ++ c :: t) = true := by
  cases t with
  | nil => simp [noNulEnd, hc]
  | cons d t' =>
    rw [noNulEnd, List.getLast?_append, List.getLast?_cons_cons]
    cases hl : (d :: t').getLast? with
    | none => simp at hl
    | some x => rwa [noNulEnd, hl] at h

theorem noNulEnd_tabToSpace (t : Str) : noNulEnd (tabToSpace t) = noNulEnd t := by
  rw [noNulEnd, noNulEnd, tabToSpace, replaceChar, List.getLast?_map]
  cases t.getLast? with
  | none => rfl
  | some c =>
    rw [Option.map_some]
    split
    · next hc => rw [hc]; rfl
    · rfl

theorem tab_ne_NUL : '\t' ≠ NUL := by decide

theorem noNulEnd_joinSep (l : List Str) (h : ∀ x ∈ l, noNulEnd x = true) : noNulEnd (joinSep '\t' l) = true := by
  induction l with
  | nil => rfl
  | cons a r ih =>
    cases r with
    | nil => exact h a List.mem_cons_self
    | cons b r' => exact noNulEnd_append_sep _ _ _ tab_ne_NUL (ih fun x hx => h x (List.mem_cons_of_mem _ hx))

theorem noNulEnd_of_infoNoNul (i : Info) (h : infoNoNul i = true) (kv : Str × Str) (hm : kv ∈ i)
    (hne : kv.1 ≠ kFilePath) : noNulEnd kv.2 = true :=
  (Bool.or_eq_true _ _ ▸ List.all_eq_true.mp h kv hm).resolve_left fun e => hne (beq_iff_eq.mp e)

theorem noNulEnd_packInfoRaw (i : Info) (h : infoNoNul i = true) : noNulEnd (packInfoRaw i) = true := by
  refine noNulEnd_joinSep _ fun x hx => ?_
  obtain ⟨kv, hkv, rfl⟩ := List.mem_map.mp hx
  obtain ⟨hm, hne⟩ := List.mem_filter.mp hkv
  exact noNulEnd_append_sep _ _ _ tab_ne_NUL
    ((noNulEnd_tabToSpace _).trans (noNulEnd_of_infoNoNul i h kv hm (of_decide_eq_true hne)))

theorem noNulEnd_of_not_mem (s : Str) (h : NUL ∉ s) : noNulEnd s = true := by
  unfold noNulEnd
  cases hl : s.getLast? with
  | none => rfl
  | some c => exact bne_iff_ne.mpr fun e => h (Option.some.inj e ▸ List.mem_of_getLast? hl)

theorem npStr_id (w : Nat) (s : Str) (hl : s.length ≤ w) (hn : noNulEnd s = true) : npStr w s = s := by
  rw [npStr, List.take_of_length_le hl, stripNul_of_noNulEnd s hn]

theorem length_ite {α} (c : Prop) [Decidable c] (a b : List α) (n : Nat) (ha : a.length = n) (hb : b.length = n) :
    (if c then a else b).length = n := by
  split <;> assumption

theorem derivedWeights_length (col : List Flt) (b : Bool) : (derivedWeights col b).length = col.length :=
  length_ite _ _ _ _ (List.length_map _) <| length_ite _ _ _ _ (List.length_map _) <|
    length_ite _ _ _ _ (List.length_map _) (List.length_map _)

theorem optOfNaN_getD (o : Option Flt) (h : (o.any (·.isNaN)) = false) : optOfNaN (o.getD qnan) = o := by
  cases o with
  | none => rfl
  | some f => exact if_neg (ne_true_of_eq_false h)

theorem filter_padded (ws : List Flt) (pts : List (Flt × Flt)) (a b : Nat)
    (hlen : ws.length = pts.length)
    (hrows : (ws.zip pts).all (fun r => !rowIsPad r) = true) :
    ((ws ++ List.replicate a qnan).zip (pts ++ List.replicate b (qnan, qnan))).filter (fun r => !rowIsPad r)
      = ws.zip pts := by
  rw [List.zip_append hlen, List.filter_append, List.filter_eq_self.mpr (List.all_eq_true.mp hrows),
    List.filter_eq_nil_iff.mpr, List.append_nil]
  intro ⟨w, pt⟩ hr
  obtain ⟨h1, h2⟩ := List.of_mem_zip hr
  cases List.eq_of_mem_replicate h1
  cases List.eq_of_mem_replicate h2
  decide

theorem effWeights_length (c : Cal) (hw : c.weighting ∉ knownWeighting → c.weights.length = c.points.length) :
    c.effWeights.length = c.points.length := by
  unfold Cal.effWeights
  split
  · split <;> rw [derivedWeights_length, List.length_map]
  · next hk => exact hw hk

/-- no hypothesis on `size`: the model pads by truncated subtraction, so a size below the number of points pads nothing -/
theorem fromArray_toArray (c : Cal) (size : Nat) (hok : c.ok = true) : Cal.fromArray (c.toArray size) = c := by
  simp only [Cal.ok, Bool.and_eq_true, decide_eq_true_eq, Bool.not_eq_true'] at hok
  obtain ⟨⟨⟨⟨⟨⟨⟨hul, hun⟩, hwl⟩, hwn⟩, hrsq⟩, herr⟩, hrows⟩, hw⟩ := hok
  have hlen : c.effWeights.length = c.points.length :=
    effWeights_length c fun hk => by simpa [hk] using hw
  unfold Cal.fromArray Cal.toArray
  simp only [filter_padded _ _ _ _ hlen hrows, npStr_id 32 _ hul hun, npStr_id 32 _ hwl hwn,
    optOfNaN_getD _ hrsq, optOfNaN_getD _ herr]
  rw [List.map_snd_zip hlen.ge, List.map_fst_zip hlen.le]
  cases c with
  | mk i g u r e p wn ws =>
    simp only [Cal.mk.injEq, true_and]
    split
    · next hk => simpa [hk] using hw.symm
    · next hk => exact if_neg hk

/-- `pack_calibration` meets the precondition of pewlib's `to_array` (size ≥ number of points, `ValueError` below it), which
is why `Cal.toArray` may leave that raise out -/
theorem le_maxLen (d : List (Str × Cal)) (kc : Str × Cal) (h : kc ∈ d) : kc.2.points.length ≤ maxLen d := by
  have := (Lists.le_foldl_max (d.map (·.2.points.length)) 0).2 _ (List.mem_map_of_mem h)
  rwa [List.foldl_map] at this

theorem roundHalfEven_eq : roundHalfEven = _root_.Pew.roundHalfEven := rfl

/-- the instance of `round_mul_div_robust` that the trusted list of harness/c01.py names -/
theorem warmup_robust (fl : Rat → Rat) (hfl : ∀ x, |fl x - x| ≤ |x| / 2 ^ 53) (s : Rat) (hs : 0 < s)
    (N : Int) (hN : N.natAbs ≤ 2 ^ 50) :
    roundHalfEven (fl (fl ((N : Rat) * s) / s)) = N :=
  roundHalfEven_eq ▸ round_mul_div_robust fl hfl s hs.ne' N hN

theorem setWarmup_robust (fl : Rat → Rat) (hfl : ∀ x, |fl x - x| ≤ |x| / 2 ^ 53) (seconds scantime : Rat)
    (h : warmupDetermined seconds scantime = true) :
    roundHalfEven (fl (seconds / scantime)) = roundHalfEven (seconds / scantime) := by
  simp only [warmupDetermined, Bool.and_eq_true, Bool.or_eq_true, decide_eq_true_eq] at h
  obtain ⟨⟨⟨_, hlo⟩, hhi⟩, hd⟩ := h
  generalize seconds / scantime = q at *
  have habs : |q| ≤ 2 ^ 40 := abs_le.mpr ⟨hlo, hhi⟩
  refine roundHalfEven_stable q (fl q) (1 / 2 ^ 10) (le_abs.mpr (hd.imp_right le_neg.mp)) ?_
  linarith only [hfl q, habs]

theorem SRR.ok_iff (c : SRR) :
    c.ok = true ↔ 0 < c.scantime ∧ 0 < c.subSize ∧ c.subOffsets ≠ [] ∧ c.warmupN.natAbs ≤ 2 ^ 50 := by
  simp only [SRR.ok, Bool.and_eq_true, decide_eq_true_eq, Bool.not_eq_true', List.isEmpty_eq_false_iff, and_assoc]

theorem lcmList_const (l : List Int) (s : Nat) (hne : l ≠ []) (h : ∀ x ∈ l, x = (s : Int)) :
    lcmList l = s := by
  cases l with
  | nil => exact absurd rfl hne
  | cons x r =>
    rw [lcmList, List.foldl_cons, h x List.mem_cons_self, Int.natAbs_natCast, Nat.lcm_one_left]
    exact Lists.foldl_lcm_const Int.natAbs r s fun y hy => by rw [h y (List.mem_cons_of_mem _ hy), Int.natAbs_natCast]

theorem lcmList_pos (l : List Int) (h : ∀ x ∈ l, x ≠ 0) : 0 < lcmList l :=
  Lists.foldl_lcm_pos Int.natAbs l 1 Nat.one_pos fun x hx => Int.natAbs_pos.mpr (h x hx)

/-- `SRRConfig.__init__` assigns through the two property setters (which touch different fields: their order plays no part) -/
theorem SRR.mk'_eq_setters (fl : Rat → Rat) (a b : Flt) (s w : Rat) (o : List (Int × Int)) :
    SRR.mk' fl a b s w o = ((⟨a, b, s, 0, 0, []⟩ : SRR).setOffsets o).setWarmup fl w := rfl

theorem setOffsets_const (c : SRR) (l : List Int) (s : Nat) (hl : l ≠ []) (hs : 0 < s) :
    c.setOffsets (l.map fun o => (o, (s : Int))) = { c with subSize := s, subOffsets := l } := by
  have h1 : lcmList ((l.map fun o => (o, (s : Int))).map (·.2)) = s :=
    lcmList_const _ _ (by simpa using hl) fun x hx => by
      obtain ⟨y, hy, rfl⟩ := List.mem_map.mp hx
      obtain ⟨_, _, rfl⟩ := List.mem_map.mp hy
      rfl
  have h2 : (l.map fun o => (o, (s : Int))).map (fun od => od.1 * (s : Int) / od.2) = l := by
    rw [List.map_map]
    exact Lists.map_eq_self _ _ fun o _ => Int.mul_ediv_cancel o (Int.natCast_pos.mpr hs).ne'
  rw [SRR.setOffsets, h1, h2]

theorem srr_roundtrip (fl : Rat → Rat) (hfl : ∀ x, |fl x - x| ≤ |x| / 2 ^ 53) (c : SRR) (hok : c.ok = true) :
    srrFromArray fl (Config.toArray fl (.srr c)) = .ok (.srr c) := by
  obtain ⟨hs, hsz, hoff, hN⟩ := (SRR.ok_iff c).mp hok
  rw [Config.toArray, srrFromArray, if_neg (by simpa using hoff), SRR.mk'_eq_setters, setOffsets_const _ _ _ hoff hsz,
    SRR.setWarmup, warmup_robust fl hfl c.scantime hs c.warmupN hN]
  rfl

/-- the three configuration classes survive `to_array` → `from_array` with the class dispatch of
`load`; for `SRRConfig` the constructor's recomputation reproduces the internal state (warm-up in
samples, common sub-pixel size, offsets) for every positive scan time, every non-empty offset list
and |warm-up| ≤ 2⁵⁰ samples, with every float operation within relative error 2⁻⁵³ (`hfl`) -/
theorem config_roundtrip (fl : Rat → Rat) (hfl : ∀ x, |fl x - x| ≤ |x| / 2 ^ 53) (c : Config) (hok : c.ok = true) :
    loadConfig fl (classOf c) (c.toArray fl) = .ok (if c.isSRR then Kind.srr else Kind.laser, c) := by
  cases c with
  | raster a b d => rfl
  | spot a b => rfl
  | srr c =>
    show (srrFromArray fl ((Config.srr c).toArray fl) >>= fun x => pure (Kind.srr, x)) = _
    rw [srr_roundtrip fl hfl c hok]
    rfl

theorem chunks_flatMap (k : Nat) (ls : List Layer) (h : ∀ l ∈ ls, l.cells.length = k) :
    chunks k ls.length (ls.flatMap (·.cells)) = ls.map (·.cells) := by
  induction ls with
  | nil => rfl
  | cons a r ih =>
    have ha := h a List.mem_cons_self
    rw [List.length_cons, List.flatMap_cons, chunks, List.take_left' ha, List.drop_left' ha,
      ih fun l hl => h l (List.mem_cons_of_mem _ hl)]
    rfl

theorem splitLayers_stack (fields : List (Str × Str)) (sh : List Nat) (ls : List Layer)
    (h : ∀ l ∈ ls, l.shape = sh ∧ l.cells.length = prod sh) :
    splitLayers ⟨fields, ls.length :: sh, ls.flatMap (·.cells)⟩ = .ok ls := by
  simp only [splitLayers]
  rw [chunks_flatMap _ _ fun l hl => (h l hl).2, List.map_map]
  exact congrArg Except.ok (Lists.map_eq_self _ ls fun l hl => congrArg (Layer.mk · l.cells) (h l hl).1.symm)

theorem map_nativeDtype (fields : List (Str × Str)) (h : fields.all (fun f => isNativeDtype f.2) = true) :
    (fields.map fun f => (f.1, nativeDtype f.2)) = fields :=
  Lists.map_eq_self _ fields fun f hf => by
    have hn := List.all_eq_true.mp h f hf
    unfold nativeDtype
    split
    · next e => simp [isNativeDtype, e] at hn
    · rfl

/-- `d.fields = L.fields` is there for the old layouts, which look their calibration members up by the file's field names -/
theorem data_roundtrip (L : Laser) (h : layersOk L.kind L.layers = true)
    (hnat : (L.kind != .srr || L.fields.all fun f => isNativeDtype f.2) = true) :
    ∃ d, dataToArray L = .ok d ∧ d.fields = L.fields ∧
      ∀ cal cfg info, construct L.kind d cal cfg info = .ok (mkLaser L.kind L.fields L.layers cal cfg info) := by
  obtain ⟨kind, fields, layers, c, cf, i⟩ := L
  cases kind with
  | laser =>
    match layers, h with
    | [l], _ => exact ⟨_, rfl, rfl, fun _ _ _ => rfl⟩
  | srr =>
    match layers, h with
    | l :: ls, h =>
      simp only [layersOk, Bool.and_eq_true, decide_eq_true_eq, List.all_eq_true, beq_iff_eq] at h
      obtain ⟨hlen, hall⟩ := h
      have hshape : ls.all (fun m => m.shape == l.shape) = true :=
        List.all_eq_true.mpr fun m hm => beq_iff_eq.mpr (hall m (List.mem_cons_of_mem _ hm)).1
      refine ⟨⟨fields, (ls.length + 1) :: l.shape, (l :: ls).flatMap (·.cells)⟩, ?_, rfl, fun cal cfg info => ?_⟩
      · simp only [dataToArray, hshape, if_true, map_nativeDtype fields hnat]
        rfl
      · have hs := splitLayers_stack fields l.shape (l :: ls) hall
        rw [List.length_cons] at hs
        simp only [construct, hs, bind, Except.bind, List.length_cons]
        exact if_neg (by omega)

end Pew.Npz
