import PewProofs.Overlap
import Mathlib.Data.Rat.Floor

/-! # C11 — the merge with dtypes and infinite values (`overlapD`)

The fold over the inputs is analysed once, for the dtype-aware mechanism: replace mode directly, mean / sum with an
invariant `Q` per canvas class (`foldl_stepD_accum`, instantiated in `foldl_stepD_accum_hypD`).  The plain model lives
inside it through `Arr.toE` / `embed`: its specification (`specE_embed`) and its mechanism (`mechD_toE`). -/

namespace Pew.Overlap

namespace EV

theorem add_comm (a b : EV) : a.add b = b.add a := by
  cases a <;> cases b <;> simp [add, _root_.add_comm]

theorem add_assoc (a b c : EV) : (a.add b).add c = a.add (b.add c) := by
  cases a <;> cases b <;> cases c <;> simp [add, _root_.add_assoc]

theorem add_zero (a : EV) : a.add (fin 0) = a := by
  cases a <;> simp [add]

theorem zero_add (a : EV) : (fin 0).add a = a := by
  cases a <;> simp [add]

theorem nan_add (a : EV) : nan.add a = nan := by
  cases a <;> rfl

theorem nz_of_ne_nan (a : EV) (h : a ≠ nan) : a.nz = a := by
  cases a <;> simp_all [nz]

theorem isNan_iff (a : EV) : a.isNan = true ↔ a = nan := by
  cases a <;> simp [isNan]

theorem divNat_one (a : EV) : a.divNat 1 = a := by
  cases a <;> simp [divNat]

end EV

theorem sumE_append (l₁ l₂ : List EV) : sumE (l₁ ++ l₂) = (sumE l₁).add (sumE l₂) := by
  induction l₁ with
  | nil => simp [sumE, EV.zero_add]
  | cons v l ih => simp [sumE, ih, EV.add_assoc]

theorem sumE_perm (l₁ l₂ : List EV) (h : l₁.Perm l₂) : sumE l₁ = sumE l₂ := by
  induction h with
  | nil => rfl
  | cons x _ ih => simp [sumE, ih]
  | swap x y l => simp only [sumE]; rw [← EV.add_assoc, ← EV.add_assoc, EV.add_comm y x]
  | trans _ _ ih₁ ih₂ => exact ih₁.trans ih₂

def contribOf (a : ArrE) (p : Idx) : List EV :=
  match a.at p with
  | some v => if v.isNan then [] else [v]
  | none => []

theorem contribsE_cons (a : ArrE) (l : List ArrE) (p : Idx) :
    contribsE (a :: l) p = contribOf a p ++ contribsE l p := by
  unfold contribsE contribOf
  simp only [List.filterMap_cons]
  cases a.at p with
  | none => simp
  | some v => cases h : v.isNan <;> simp [h]

theorem contribsE_append (l₁ l₂ : List ArrE) (p : Idx) :
    contribsE (l₁ ++ l₂) p = contribsE l₁ p ++ contribsE l₂ p := by
  unfold contribsE
  rw [List.filterMap_append]

theorem contribsE_ne_nan (l : List ArrE) (p : Idx) : ∀ v ∈ contribsE l p, v ≠ EV.nan := by
  intro v hv
  unfold contribsE at hv
  rw [List.mem_filterMap] at hv
  obtain ⟨a, _, ha⟩ := hv
  cases h : a.at p with
  | none => simp [h] at ha
  | some w =>
    simp only [h] at ha
    by_cases hw : w.isNan = true
    · simp [hw] at ha
    · simp only [hw, Bool.false_eq_true, if_false, Option.some.injEq] at ha
      subst ha
      intro e
      exact hw ((EV.isNan_iff w).mpr e)

theorem foldl_stepD_replace (cdt : DT) (l : List ArrE) (p : Idx) (c : Idx → CellE) :
    ((l.foldl (stepD cdt .replace) c) p).acc = ((contribsE l p).getLast?.map (castC cdt)).getD (c p).acc := by
  induction l generalizing c with
  | nil => rfl
  | cons a l ih =>
    rw [List.foldl_cons, ih, contribsE_cons, contribOf, stepD]
    cases a.at p with
    | none => rfl
    | some v => cases hv : v.isNan <;> cases h : (contribsE l p).getLast? <;> simp [hv, h, List.getLast?_cons]

theorem stepD_nan (cdt : DT) (m : Mode) (hm : m ≠ .replace) (c : Idx → CellE) (a : ArrE) (p : Idx) (s : EV) (n : Nat)
    (hc : c p = { acc := s, visits := n }) (h : a.at p = some EV.nan) :
    stepD cdt m c a p = { acc := castC cdt (s.nz.add (EV.fin 0)), visits := n } := by
  unfold stepD
  cases m <;> simp_all [nansum2E, EV.nz, EV.isNan]

theorem stepD_val (cdt : DT) (m : Mode) (hm : m ≠ .replace) (c : Idx → CellE) (a : ArrE) (p : Idx) (s v : EV) (n : Nat)
    (hc : c p = { acc := s, visits := n }) (h : a.at p = some v) (hv : v.isNan = false) :
    stepD cdt m c a p = { acc := castC cdt (s.nz.add v), visits := n + 1 } := by
  have hv' : v ≠ EV.nan := by intro e; subst e; simp [EV.isNan] at hv
  unfold stepD
  cases m <;> simp_all [nansum2E, EV.nz_of_ne_nan]

/-- mean / sum on a canvas of dtype `cdt`.  `Q s cs` is a condition on the exact partial sum `s` and the contributions
`cs` still to come under which a canvas that holds `castC cdt s` holds `castC cdt` of the next partial sum after one
more image; a NaN pixel acts like a contribution of 0 that is not counted (`hzero`).  Then the cell after the fold holds
`castC cdt` of the exact sum. -/
theorem foldl_stepD_accum (cdt : DT) (Q : EV → List EV → Prop)
    (hzero : ∀ s cs, Q s cs → Q s (EV.fin 0 :: cs))
    (hval : ∀ s v cs, Q s (v :: cs) → castC cdt ((castC cdt s).nz.add v) = castC cdt (s.add v) ∧ Q (s.add v) cs)
    (m : Mode) (hm : m ≠ .replace) (l : List ArrE) (p : Idx) (c : Idx → CellE) (s : EV) (n : Nat)
    (hc : c p = { acc := castC cdt s, visits := n }) (hQ : Q s (contribsE l p)) :
    (l.foldl (stepD cdt m) c) p
      = { acc := castC cdt (s.add (sumE (contribsE l p))), visits := n + (contribsE l p).length } := by
  induction l generalizing c s n with
  | nil => simp [contribsE, sumE, EV.add_zero, hc]
  | cons a l ih =>
    rw [List.foldl_cons]
    rw [contribsE_cons] at hQ ⊢
    unfold contribOf at hQ ⊢
    cases h : a.at p with
    | none =>
      simp only [h, List.nil_append] at hQ ⊢
      exact ih _ s n ((show stepD cdt m c a p = c p by unfold stepD; rw [h]).trans hc) hQ
    | some v =>
      simp only [h] at hQ ⊢
      cases hv : v.isNan with
      | true =>
        obtain rfl := (EV.isNan_iff v).mp hv
        refine ih _ s n ?_ hQ
        rw [stepD_nan cdt m hm c a p _ n hc h, (hval s _ _ (hzero s _ hQ)).1, EV.add_zero]
      | false =>
        simp only [hv, Bool.false_eq_true, if_false, List.singleton_append, sumE, List.length_cons] at hQ ⊢
        obtain ⟨e, hQ'⟩ := hval s v _ hQ
        rw [ih _ (s.add v) (n + 1) (by rw [stepD_val cdt m hm c a p _ v n hc h hv, e]) hQ', EV.add_assoc]
        congr 1
        omega

/-! ### integer canvas, sum mode: no truncation while every value is an integer -/

theorem truncR_int (x : Rat) (h : x.den = 1) : truncR x = x := by
  unfold truncR
  have hx : ((x.num : Int) : Rat) = x := Rat.coe_int_num_of_den_eq_one h
  split
  · rw [← hx, Rat.floor_intCast]
  · rw [← hx, Rat.ceil_intCast]

theorem den_add_int (x y : Rat) (hx : x.den = 1) (hy : y.den = 1) : (x + y).den = 1 := by
  have h1 : ((x.num : Int) : Rat) = x := Rat.coe_int_num_of_den_eq_one hx
  have h2 : ((y.num : Int) : Rat) = y := Rat.coe_int_num_of_den_eq_one hy
  rw [← h1, ← h2, ← Int.cast_add]
  exact Rat.den_intCast _

theorem intVal_fin (v : EV) (h : v.intVal = true) : ∃ x : Rat, v = EV.fin x ∧ x.den = 1 := by
  cases v <;> simp_all [EV.intVal]

theorem intVal_add (a b : EV) (ha : a.intVal = true) (hb : b.intVal = true) : (a.add b).intVal = true := by
  obtain ⟨x, rfl, hx⟩ := intVal_fin a ha
  obtain ⟨y, rfl, hy⟩ := intVal_fin b hb
  simp only [EV.add, EV.intVal, beq_iff_eq]
  exact den_add_int x y hx hy

theorem castC_i8_int (v : EV) (h : v.intVal = true) : castC .i8 v = v := by
  obtain ⟨x, rfl, hx⟩ := intVal_fin v h
  simp [castC, truncR_int x hx]

/-! ### boolean canvas, sum mode: "some value is not zero" while no value is negative -/

def bool01 (x : Rat) : Rat := if x = 0 then 0 else 1

theorem nonneg_fin (v : EV) (h : v.nonnegVal = true) : ∃ x : Rat, v = EV.fin x ∧ 0 ≤ x := by
  cases v <;> simp_all [EV.nonnegVal]

theorem nonnegVal_add (a b : EV) (ha : a.nonnegVal = true) (hb : b.nonnegVal = true) : (a.add b).nonnegVal = true := by
  obtain ⟨x, rfl, hx⟩ := nonneg_fin a ha
  obtain ⟨y, rfl, hy⟩ := nonneg_fin b hb
  simp only [EV.add, EV.nonnegVal, decide_eq_true_eq]
  linarith

theorem sumE_nonneg (l : List EV) (h : ∀ v ∈ l, v.nonnegVal = true) : (sumE l).nonnegVal = true := by
  induction l with
  | nil => decide
  | cons v l ih => exact nonnegVal_add _ _ (h v List.mem_cons_self) (ih fun w hw => h w (List.mem_cons_of_mem _ hw))

theorem bool01_step (k y : Rat) (hk : 0 ≤ k) (hy : 0 ≤ y) : bool01 (bool01 k + y) = bool01 (k + y) := by
  unfold bool01
  by_cases h1 : k = 0
  · subst h1; simp
  · have hkp : 0 < k := lt_of_le_of_ne hk (Ne.symm h1)
    have : k + y ≠ 0 := by linarith
    have : (1 : Rat) + y ≠ 0 := by linarith
    simp [*]

theorem castC_float (cdt : DT) (h : cdt = .f8 ∨ cdt = .f4) (v : EV) : castC cdt v = v := by
  rcases h with rfl | rfl <;> cases v <;> rfl

theorem hypD_float {cdt : DT} {m : Mode} {l : List ArrE} {p : Idx} (hc : cdt = .f8 ∨ cdt = .f4) (hm : m ≠ .replace) :
    hypD cdt m l p = true ↔ sumE (contribsE l p) ≠ EV.nan := by
  rcases hc with rfl | rfl <;> cases m <;> simp_all [hypD, ← EV.isNan_iff]

theorem hypD_i8 {m : Mode} {l : List ArrE} {p : Idx} (hm : m ≠ .replace) :
    hypD .i8 m l p = true ↔ m = .sum ∧ ∀ v ∈ contribsE l p, v.intVal = true := by
  cases m <;> simp_all [hypD]

theorem hypD_b1 {m : Mode} {l : List ArrE} {p : Idx} (hm : m ≠ .replace) :
    hypD .b1 m l p = true ↔ m = .sum ∧ ∀ v ∈ contribsE l p, v.nonnegVal = true := by
  cases m <;> simp_all [hypD]

/-- under `hypD` the cell after the fold holds the exact sum of the contributions, as the canvas stores it, and their
number.  Floating-point canvas: the partial sums are stored unchanged and none is NaN (NaN absorbs); integer canvas:
they are integers, which the truncation leaves alone; boolean canvas: it holds "the partial sum is not zero", which for
non-negative values is the same after adding to the stored 0 / 1 as after adding to the sum. -/
theorem foldl_stepD_accum_hypD (cdt : DT) (m : Mode) (hm : m ≠ .replace) (fill : EV) (l : List ArrE) (p : Idx)
    (hyp : hypD cdt m l p = true) :
    (l.foldl (stepD cdt m) (initD cdt m fill)) p
      = { acc := castC cdt (sumE (contribsE l p)), visits := (contribsE l p).length } := by
  have hF := fun hc => (hypD_float hc hm).mp hyp
  have hI : cdt = .i8 → _ := fun e => ((hypD_i8 hm).mp (e ▸ hyp)).2
  have hB : cdt = .b1 → _ := fun e => ((hypD_b1 hm).mp (e ▸ hyp)).2
  have key := fun Q h1 h2 h3 => foldl_stepD_accum cdt Q h1 h2 m hm l p (initD cdt m fill) (EV.fin 0) 0
    (by rw [initD, if_neg hm]) h3
  simp only [EV.zero_add, Nat.zero_add] at key
  have hfloat : (cdt = .f8 ∨ cdt = .f4) → _ := fun hc =>
    key (fun s cs => s.add (sumE cs) ≠ EV.nan)
      (fun s cs hQ => by rwa [sumE, EV.zero_add])
      (fun s v cs hQ => by
        have hs : s ≠ EV.nan := fun e => hQ (by rw [e, EV.nan_add])
        rw [sumE, ← EV.add_assoc] at hQ
        rw [castC_float cdt hc, castC_float cdt hc, castC_float cdt hc, EV.nz_of_ne_nan s hs]
        exact ⟨rfl, hQ⟩)
      (by rw [EV.zero_add]; exact hF hc)
  cases cdt with
  | f8 => exact hfloat (Or.inl rfl)
  | f4 => exact hfloat (Or.inr rfl)
  | i8 =>
    refine key (fun s cs => s.intVal = true ∧ ∀ v ∈ cs, v.intVal = true)
      (fun s cs hQ => ⟨hQ.1, List.forall_mem_cons.mpr ⟨rfl, hQ.2⟩⟩) ?_ ⟨rfl, hI rfl⟩
    · intro s v cs hQ
      have hky := intVal_add s v hQ.1 (hQ.2 v List.mem_cons_self)
      obtain ⟨k, rfl, -⟩ := intVal_fin s hQ.1
      rw [castC_i8_int _ hQ.1]
      exact ⟨rfl, hky, fun w hw => hQ.2 w (List.mem_cons_of_mem _ hw)⟩
  | b1 =>
    refine key (fun s cs => s.nonnegVal = true ∧ ∀ v ∈ cs, v.nonnegVal = true)
      (fun s cs hQ => ⟨hQ.1, List.forall_mem_cons.mpr ⟨by decide, hQ.2⟩⟩) ?_ ⟨by decide, hB rfl⟩
    · intro s v cs hQ
      have hv := hQ.2 v List.mem_cons_self
      have hky := nonnegVal_add s v hQ.1 hv
      obtain ⟨k, rfl, hk⟩ := nonneg_fin s hQ.1
      obtain ⟨y, rfl, hy⟩ := nonneg_fin v hv
      refine ⟨?_, hky, fun w hw => hQ.2 w (List.mem_cons_of_mem _ hw)⟩
      -- a boolean canvas holds `bool01` of what is written into it
      show EV.fin (bool01 (bool01 k + y)) = EV.fin (bool01 (k + y))
      rw [bool01_step k y hk hy]

/-! ### the plain model inside the dtype-aware one (`Arr.toE`, `embed`)

A list of images of any dtypes whose values are NaN or finite is `l.map fun x => x.2.toE x.1` for a list `l` of pairs
(dtype, plain image); the plain model sees `l.map (·.2)`. -/

theorem normaliseE_bare (ndim : Nat) (arrs : List ArrE) :
    (normaliseE ndim arrs).map ArrE.bare = normalise ndim (arrs.map ArrE.bare) := by
  simp [normaliseE, normalise, ArrE.bare, List.map_map, Function.comp_def]

theorem toE_bare (dt : DT) (a : Arr) : (a.toE dt).bare = bare a := rfl

theorem at_toE (dt : DT) (a : Arr) (p : Idx) : (a.toE dt).at p = (a.at p).map embed := by
  unfold ArrE.at Arr.at
  have : (a.toE dt).bare.inside p = a.inside p := rfl
  rw [this]
  split <;> rfl

theorem embed_isNan (v : V) : (embed v).isNan = v.isNone := by
  cases v <;> rfl

theorem contribsE_toE (l : List (DT × Arr)) (p : Idx) :
    contribsE (l.map (fun x => x.2.toE x.1)) p = (contribs (l.map (·.2)) p).map EV.fin := by
  induction l with
  | nil => rfl
  | cons x l ih =>
    simp only [List.map_cons]
    rw [contribsE_cons, contribs_cons, ih, List.map_append]
    unfold contribOf
    rw [at_toE]
    cases h : x.2.at p with
    | none => rfl
    | some v => cases v <;> rfl

theorem sumE_fin (l : List Rat) : sumE (l.map EV.fin) = EV.fin l.sum := by
  induction l with
  | nil => rfl
  | cons x l ih => simp [sumE, ih, EV.add]

theorem specE_embed (m : Mode) (fill : V) (l : List (DT × Arr)) (p : Idx) :
    specE m (embed fill) (l.map (fun x => x.2.toE x.1)) p = embed (spec m fill (l.map (·.2)) p) := by
  unfold specE spec
  rw [contribsE_toE]
  cases h : contribs (l.map (·.2)) p with
  | nil => rfl
  | cons c cs =>
    simp only [List.map_cons]
    cases m with
    | replace =>
      simp only [embed]
      have := List.getLast_map (f := EV.fin) (l := c :: cs) (by simp)
      simpa using this
    | sum =>
      simp only [embed]
      rw [← List.map_cons, sumE_fin]
    | mean =>
      simp only [embed]
      rw [← List.map_cons, sumE_fin]
      simp [EV.divNat]

theorem hypD_toE (cdt : DT) (hc : cdt = .f8 ∨ cdt = .f4) (m : Mode) (l : List (DT × Arr)) (p : Idx) :
    hypD cdt m (l.map (fun x => x.2.toE x.1)) p = true := by
  by_cases hm : m = .replace
  · subst hm; cases cdt <;> rfl
  · rw [hypD_float hc hm, contribsE_toE, sumE_fin]
    exact EV.noConfusion

def normPairs (ndim : Nat) (l : List (DT × Arr)) : List (DT × Arr) :=
  l.map (fun x => (x.1, reoff (minOffset ndim (l.map (·.2))) x.2))

theorem toE_map_bare (l : List (DT × Arr)) :
    (l.map (fun x => x.2.toE x.1)).map ArrE.bare = (l.map (·.2)).map bare := by
  simp [List.map_map, Function.comp_def, toE_bare]

theorem normaliseE_toE (ndim : Nat) (l : List (DT × Arr)) :
    normaliseE ndim (l.map (fun x => x.2.toE x.1)) = (normPairs ndim l).map (fun x => x.2.toE x.1) := by
  unfold normaliseE normPairs
  rw [toE_map_bare, minOffset_bare]
  simp [List.map_map, Function.comp_def, Arr.toE, reoff]

theorem normPairs_snd (ndim : Nat) (l : List (DT × Arr)) :
    (normPairs ndim l).map (·.2) = normalise ndim (l.map (·.2)) := by
  simp [normPairs, normalise_eq, List.map_map, Function.comp_def]

/-! ### the plain mechanism is the dtype-aware one on a floating-point canvas -/

def embedCell (c : Cell) : CellE := { acc := embed c.acc, visits := c.visits }

theorem embed_injective : Function.Injective embed := by
  intro a b h
  cases a <;> cases b <;> simp_all [embed]

theorem stepD_toE (cdt : DT) (hc : cdt = .f8 ∨ cdt = .f4) (m : Mode) (c : Idx → Cell) (cE : Idx → CellE) (dt : DT)
    (a : Arr) (p : Idx) (h : cE p = embedCell (c p)) : stepD cdt m cE (a.toE dt) p = embedCell (step m c a p) := by
  unfold stepD step
  rw [at_toE, h]
  generalize c p = cell
  obtain ⟨acc, n⟩ := cell
  -- not covered / covered by NaN / covered by a value; the three modes; a canvas pixel that holds NaN or a number
  rcases hc with rfl | rfl <;> rcases a.at p with _ | _ | y <;> cases m <;> cases acc <;> rfl

theorem mechD_toE (cdt : DT) (hc : cdt = .f8 ∨ cdt = .f4) (m : Mode) (fill : V) (l : List (DT × Arr)) (p : Idx) :
    mechD cdt m (embed fill) (l.map fun x => x.2.toE x.1) p = embed (mech m fill (l.map (·.2)) p) := by
  have hfold : ∀ (c : Idx → Cell) (cE : Idx → CellE), cE p = embedCell (c p) →
      ((l.map fun x => x.2.toE x.1).foldl (stepD cdt m) cE) p = embedCell (((l.map (·.2)).foldl (step m) c) p) := by
    induction l with
    | nil => exact fun _ _ h => h
    | cons x l ih => exact fun c cE h => ih _ _ (stepD_toE cdt hc m c cE x.1 x.2 p h)
  unfold mechD mech
  rw [hfold (init m fill) _ (by simp only [initD, init, embedCell, castC_float cdt hc]; split <;> rfl)]
  generalize (l.map (·.2)).foldl (step m) (init m fill) p = c
  have hdiv : (embed c.acc).divNat c.visits = embed (c.acc.map (· / (c.visits : Rat))) := by cases c.acc <;> rfl
  cases m <;> simp only [finishD, finish, embedCell, castC_float cdt hc, apply_ite embed, hdiv]

theorem contribsE_perm (a₁ a₂ : List ArrE) (hp : a₁.Perm a₂) (p : Idx) : (contribsE a₁ p).Perm (contribsE a₂ p) :=
  hp.filterMap _

theorem hypD_perm (cdt : DT) (m : Mode) (a₁ a₂ : List ArrE) (hp : a₁.Perm a₂) (p : Idx) :
    hypD cdt m a₁ p = hypD cdt m a₂ p := by
  have hc := contribsE_perm a₁ a₂ hp p
  have hs := sumE_perm _ _ hc
  have hall : ∀ f : EV → Bool, (contribsE a₁ p).all f = (contribsE a₂ p).all f := by
    intro f
    rw [Bool.eq_iff_iff]
    simp only [List.all_eq_true]
    exact ⟨fun h x hx => h x (hc.mem_iff.mpr hx), fun h x hx => h x (hc.mem_iff.mp hx)⟩
  cases m <;> cases cdt <;> simp only [hypD, hs, hall]

theorem normaliseE_perm (ndim : Nat) (a₁ a₂ : List ArrE) (hp : a₁.Perm a₂) :
    (normaliseE ndim a₁).Perm (normaliseE ndim a₂) := by
  unfold normaliseE
  rw [minOffset_perm ndim _ _ (hp.map ArrE.bare)]
  exact hp.map _

/-! ### the IEEE sum without arithmetic on infinities -/

def finPart : EV → Rat
  | .fin x => x
  | _ => 0

theorem sumE_eq (l : List EV) (h : ∀ v ∈ l, v ≠ EV.nan) :
    sumE l = if EV.pinf ∈ l then (if EV.ninf ∈ l then EV.nan else EV.pinf)
             else if EV.ninf ∈ l then EV.ninf else EV.fin (l.map finPart).sum := by
  induction l with
  | nil => simp [sumE]
  | cons v l ih =>
    have ih' := ih (fun w hw => h w (by simp [hw]))
    have hv := h v (by simp)
    simp only [sumE, ih']
    cases v with
    | nan => exact absurd rfl hv
    | pinf => by_cases h1 : EV.pinf ∈ l <;> by_cases h2 : EV.ninf ∈ l <;> simp [h1, h2, EV.add]
    | ninf => by_cases h1 : EV.pinf ∈ l <;> by_cases h2 : EV.ninf ∈ l <;> simp [h1, h2, EV.add]
    | fin x => by_cases h1 : EV.pinf ∈ l <;> by_cases h2 : EV.ninf ∈ l <;> simp [h1, h2, EV.add, finPart]

end Pew.Overlap
