import PewProofs.SyncRows
import PewProofs.SyncTimes
import PewProofs.SyncGeom
import PewProofs.SyncDecimal

/-! # C08 — `sync (render a)` is the ground truth: the segment `sync` computes for an imported line (`lineSeg`) writes
exactly that line's ground-truth cells (`render_writes`), and as no pixel is visited twice the canvas of last writes is
`truthImage` (`canvas_eq_truth`) -/
namespace Pew.Sync

/-- `truthHyp a sel` as propositions; `p0` is the first selected pattern -/
structure Hyp (a : Acq) (sel : Option (List Int)) (p0 : Pattern) : Prop where
  head : (selectedPatterns a sel).head? = some p0
  ph0 : 0 < a.phase
  ph1 : a.phase < 1
  seq0 : ∀ p ∈ a.patterns, 0 ≤ p.seq
  dwell : ∀ p ∈ a.patterns, 0 < p.dwell
  inc : (a.patterns.map (·.seq)).Pairwise (· ≤ ·)
  su : 0 < p0.sxu
  sv : 0 < p0.syu
  circ : p0.circular = true → p0.sxu = p0.syu
  pats : ∀ p ∈ selectedPatterns a sel, p.sxu = p0.sxu ∧ p.syu = p0.syu ∧ p.circular = p0.circular ∧
    (p.X - (truthOrigin a sel).1) % (p0.sxu : Int) = 0 ∧ (p.Y - (truthOrigin a sel).2) % (p0.syu : Int) = 0 ∧
    0 < p.npix ∧ p.lines ≠ []
  recorded : ∀ lP ∈ lineStarts 0 a.lines, isSelected sel lP.1.p.seq = true → lineRecorded a lP.1 lP.2 = true
  take : 0 < a.take
  len : a.skip + a.take ≤ (emitAll a).samples.length
  nodup : ((truthCells a sel).map (fun e => (e.1, e.2.1))).Nodup

theorem truthHyp_spec (a : Acq) (sel : Option (List Int)) (h : truthHyp a sel = true) : ∃ p0, Hyp a sel p0 := by
  unfold truthHyp at h
  simp only at h
  split at h
  · simp at h
  · rename_i p0 hp0
    simp only [Bool.and_eq_true, decide_eq_true_eq, List.all_eq_true, Bool.or_eq_true,
      beq_iff_eq, Bool.not_eq_eq_eq_not, Bool.not_true] at h
    obtain ⟨⟨⟨⟨⟨⟨⟨⟨⟨⟨⟨h0, h1⟩, hall⟩, hinc⟩, hsu⟩, hsv⟩, hcirc⟩, hps⟩, hrec⟩, htake⟩, hlen⟩, hnd⟩ := h
    refine ⟨p0, hp0, h0, h1, fun p hp => (hall p hp).1, fun p hp => (hall p hp).2, hinc, hsu, hsv, ?_, ?_, ?_,
      htake, hlen, hnd⟩
    · intro hc
      rcases hcirc with h | h
      · rw [hc] at h; exact absurd h (by simp)
      · exact h
    · intro p hp
      obtain ⟨⟨⟨⟨⟨⟨e1, e2⟩, e3⟩, e4⟩, e5⟩, e6⟩, e7⟩ := hps p hp
      refine ⟨e1, e2, e3, e4, e5, e6, ?_⟩
      intro hnil; rw [hnil] at e7; simp at e7
    · intro lP hlP hsel
      rcases hrec lP hlP with h | h
      · rw [hsel] at h; exact absurd h (by simp)
      · exact h

theorem Hyp.truthHyp {a : Acq} {sel : Option (List Int)} {p0 : Pattern} (H : Hyp a sel p0) : truthHyp a sel = true := by
  unfold Sync.truthHyp
  simp only [H.head, Bool.and_eq_true, decide_eq_true_eq, List.all_eq_true, Bool.or_eq_true, beq_iff_eq,
    Bool.not_eq_eq_eq_not, Bool.not_true]
  refine ⟨⟨⟨⟨⟨⟨⟨⟨⟨⟨⟨H.ph0, H.ph1⟩, fun p hp => ⟨H.seq0 p hp, H.dwell p hp⟩⟩, H.inc⟩, H.su⟩, H.sv⟩, ?_⟩, fun p hp => ?_⟩,
    fun lP hlP => ?_⟩, H.take⟩, H.len⟩, H.nodup⟩
  · cases hc : p0.circular
    · exact Or.inl rfl
    · exact Or.inr (H.circ hc)
  · obtain ⟨e1, e2, e3, e4, e5, e6, e7⟩ := H.pats p hp
    exact ⟨⟨⟨⟨⟨⟨e1, e2⟩, e3⟩, e4⟩, e5⟩, e6⟩, by cases hl : p.lines <;> simp_all⟩
  · cases hs : isSelected sel lP.1.p.seq
    · exact Or.inl rfl
    · exact Or.inr (H.recorded lP hlP hs)

theorem truthCells_sorted (a : Acq) (sel : Option (List Int)) :
    (truthCells a sel).Pairwise (fun e e' => e.2.2 < e'.2.2) := by
  unfold truthCells
  split
  · exact List.Pairwise.nil
  · rw [List.pairwise_filterMap]
    refine (zip_range_pairwise a.take (signal a)).imp ?_
    intro x y hlt b hb b' hb'
    have key : ∀ (z : Nat × Sample) (e : Int × Int × Nat) {f g : Int → Int → Int → Int}, e ∈ (match z.2.cell with
        | none => none
        | some (s, x, y) => if isSelected sel s then some (f s x y, g s x y, z.1) else none) → e.2.2 = z.1 := by
      intro z e f g he
      split at he
      · cases he
      · split at he
        · cases he; rfl
        · cases he
    have hb2 := key x b hb
    have hb2' := key y b' hb'
    rw [hb2, hb2']
    exact hlt

theorem mem_truthCells (a : Acq) (sel : Option (List Int)) (p0 : Pattern)
    (hhead : (selectedPatterns a sel).head? = some p0) (r c : Int) (k : Nat) :
    (r, c, k) ∈ truthCells a sel ↔
      ∃ s q x y, k < a.take ∧ (signal a)[k]? = some s ∧ s.cell = some (q, x, y) ∧ isSelected sel q = true ∧
        r = (y - (truthOrigin a sel).2) / (p0.syu : Int) ∧ c = (x - (truthOrigin a sel).1) / (p0.sxu : Int) := by
  unfold truthCells
  simp only [hhead, List.mem_filterMap]
  constructor
  · rintro ⟨⟨k', s⟩, hm, hv⟩
    have hm' := (Lists.mem_zip_range _ _ _ _).mp hm
    split at hv
    · simp at hv
    · rename_i q x y hc
      split at hv
      · rename_i hsel
        simp only [Option.some.injEq, Prod.mk.injEq] at hv
        obtain ⟨rfl, rfl, rfl⟩ := hv
        exact ⟨s, q, x, y, hm'.1, hm'.2, hc, hsel, rfl, rfl⟩
      · simp at hv
  · rintro ⟨s, q, x, y, hk, hs, hc, hsel, rfl, rfl⟩
    refine ⟨(k, s), (Lists.mem_zip_range _ _ _ _).mpr ⟨hk, hs⟩, ?_⟩
    simp only [hc, hsel, if_true]

theorem Hyp.first_line {a : Acq} {sel : Option (List Int)} {p0 : Pattern} (H : Hyp a sel p0) :
    ∃ l0 rest, selLines a sel = l0 :: rest ∧ firstFiring a sel = some l0.pair.1.time := by
  have hp0 : p0 ∈ selectedPatterns a sel := List.mem_of_mem_head? (by rw [H.head]; rfl)
  obtain ⟨l, hl, _⟩ := selLines_line0 a sel p0 hp0 (H.pats p0 hp0).2.2.2.2.2.2
  cases hsl : selLines a sel with
  | nil => rw [hsl] at hl; cases hl
  | cons l0 rest =>
    refine ⟨l0, rest, rfl, ?_⟩
    unfold firstFiring
    rw [pairs_find_on _ l0.pair (rest.map LineRec.pair) (by rw [render_selects_lines a sel H.seq0 H.inc, hsl]; rfl)]
    rfl

/-- the minimum of a coordinate over the imported `On`/`Off` rows is the minimum of the rasters' low corners: no line
end lies below its raster's corner, and line 0 touches it -/
theorem origin_coord (a : Acq) (sel : Option (List Int)) (p0 : Pattern) (H : Hyp a sel p0) (c : Row → Int)
    (C : Pattern → Int) (hge : ∀ l : LineRec, C l.p ≤ c l.pair.1 ∧ C l.p ≤ c l.pair.2)
    (hz : ∀ l : LineRec, l.i = 0 → c l.pair.1 = C l.p ∨ c l.pair.2 = C l.p) :
    minList (((selLines a sel).map LineRec.pair).flatMap (fun p => [c p.1, c p.2]))
      = minList ((selectedPatterns a sel).map C) := by
  have hp0 : p0 ∈ selectedPatterns a sel := List.mem_of_mem_head? (by rw [H.head]; rfl)
  apply minList_eq_of
  · obtain ⟨p, hp, hpC⟩ := List.mem_map.mp (minList_mem ((selectedPatterns a sel).map C) (by
      intro h; rw [List.map_eq_nil_iff] at h; rw [h] at hp0; cases hp0))
    obtain ⟨l, hl, hlp, hli⟩ := selLines_line0 a sel p hp (H.pats p hp).2.2.2.2.2.2
    simp only [List.mem_flatMap, List.mem_map, List.mem_cons, List.not_mem_nil, or_false]
    refine ⟨l.pair, ⟨l, hl, rfl⟩, ?_⟩
    rw [← hpC, ← hlp]
    exact (hz l hli).imp Eq.symm Eq.symm
  · intro x hx
    simp only [List.mem_flatMap, List.mem_map, List.mem_cons, List.not_mem_nil, or_false] at hx
    obtain ⟨pr, ⟨l, hl, rfl⟩, hx⟩ := hx
    have hmin : minList ((selectedPatterns a sel).map C) ≤ C l.p :=
      minList_le _ _ (List.mem_map.mpr ⟨l.p, (selLines_pattern a sel l hl).1, rfl⟩)
    have := hge l
    rcases hx with h | h <;> rw [h] <;> omega

theorem origin_x (a : Acq) (sel : Option (List Int)) (p0 : Pattern) (H : Hyp a sel p0) :
    minList (((selLines a sel).map LineRec.pair).flatMap (fun p => [p.1.x, p.2.x])) = (truthOrigin a sel).1 :=
  origin_coord a sel p0 H (·.x) (·.X) (fun l => ⟨(lineEnds_ge l.p l.i).1, (lineEnds_ge l.p l.i).2.1⟩)
    (fun l hl => by have := (lineEnds_zero l.p).1; rw [← hl] at this; exact this)

theorem origin_y (a : Acq) (sel : Option (List Int)) (p0 : Pattern) (H : Hyp a sel p0) :
    minList (((selLines a sel).map LineRec.pair).flatMap (fun p => [p.1.y, p.2.y])) = (truthOrigin a sel).2 :=
  origin_coord a sel p0 H (·.y) (·.Y) (fun l => ⟨(lineEnds_ge l.p l.i).2.2.1, (lineEnds_ge l.p l.i).2.2.2⟩)
    (fun l hl => by have := (lineEnds_zero l.p).2; rw [← hl] at this; exact this)

theorem corner_on_grid (a : Acq) (sel : Option (List Int)) (p0 : Pattern) (H : Hyp a sel p0) (p : Pattern)
    (hp : p ∈ selectedPatterns a sel) :
    ∃ cx cy : Nat, p.X = (truthOrigin a sel).1 + ((cx * p.sxu : Nat) : Int) ∧
      p.Y = (truthOrigin a sel).2 + ((cy * p.syu : Nat) : Int) := by
  obtain ⟨e1, e2, _, e4, e5, _, _⟩ := H.pats p hp
  have hx : (truthOrigin a sel).1 ≤ p.X := minList_le _ _ (List.mem_map.mpr ⟨p, hp, rfl⟩)
  have hy : (truthOrigin a sel).2 ≤ p.Y := minList_le _ _ (List.mem_map.mpr ⟨p, hp, rfl⟩)
  obtain ⟨cx, hcx⟩ := aligned_of_mod p.X _ p0.sxu H.su hx e4
  obtain ⟨cy, hcy⟩ := aligned_of_mod p.Y _ p0.syu H.sv hy e5
  exact ⟨cx, cy, by rw [e1]; exact hcx, by rw [e2]; exact hcy⟩

theorem truthCells_iff (a : Acq) (sel : Option (List Int)) (p0 : Pattern)
    (hhead : (selectedPatterns a sel).head? = some p0) (r c : Int) (v : Nat) :
    (r, c, v) ∈ truthCells a sel ↔
      ∃ lP ∈ lineStarts 0 a.lines, lP.1 ∈ selLines a sel ∧ ∃ j, j < lP.1.p.npix ∧ a.skip + v = lP.2 + j ∧
        v < a.take ∧ (r, c) = truthPixel a sel p0 lP.1 j := by
  rw [mem_truthCells a sel p0 hhead]
  constructor
  · rintro ⟨s, q, x, y, hv, hs, hc, hsel, rfl, rfl⟩
    rw [signal_getElem?, if_pos hv] at hs
    obtain ⟨lP, hlP, j, hj, hn, hq⟩ := emitAll_cell_of_index a _ s _ hs hc
    obtain ⟨rfl, rfl, rfl⟩ := hq
    refine ⟨lP, hlP, (mem_selLines a sel lP.1).mpr ⟨(lineStarts_mem _ _ _ hlP).1, hsel⟩, j, hj, hn, hv, rfl⟩
  · rintro ⟨lP, hlP, hl, j, hj, hn, hv, hrc⟩
    obtain ⟨s, hs, hc⟩ := emitAll_index_of_cell a lP hlP j hj
    refine ⟨s, _, _, _, hv, ?_, hc, ((mem_selLines a sel lP.1).mp hl).2, ?_, ?_⟩
    · rw [signal_getElem?, if_pos hv, hn]; exact hs
    · exact (Prod.mk.inj hrc).1
    · exact (Prod.mk.inj hrc).2

/-- no pixel is visited twice when a pixel determines the line and step, hence the sample, that visits it -/
theorem truthCells_nodup (a : Acq) (sel : Option (List Int)) (p0 : Pattern)
    (hhead : (selectedPatterns a sel).head? = some p0)
    (hinj : ∀ x ∈ lineStarts 0 a.lines, ∀ y ∈ lineStarts 0 a.lines, x.1 ∈ selLines a sel → y.1 ∈ selLines a sel →
      ∀ i j, i < x.1.p.npix → j < y.1.p.npix → truthPixel a sel p0 x.1 i = truthPixel a sel p0 y.1 j → x.2 + i = y.2 + j) :
    ((truthCells a sel).map (fun e => (e.1, e.2.1))).Nodup := by
  unfold List.Nodup
  rw [List.pairwise_map]
  refine (truthCells_sorted a sel).imp_of_mem ?_
  rintro ⟨r1, c1, k1⟩ ⟨r2, c2, k2⟩ he1 he2 hlt heq
  obtain ⟨x, hx, hxs, i, hi, hn1, _, h1⟩ := (truthCells_iff a sel p0 hhead _ _ _).mp he1
  obtain ⟨y, hy, hys, j, hj, hn2, _, h2⟩ := (truthCells_iff a sel p0 hhead _ _ _).mp he2
  have := hinj x hx y hy hxs hys i j hi hj (by rw [← h1, ← h2]; exact heq)
  simp only at hlt
  omega

/-- the segment `sync` computes for an imported line: sample times counted from the first firing `first`, pixel
indices from the origin of the selection in units of the first pattern's spot size -/
def lineSeg (a : Acq) (sel : Option (List Int)) (p0 : Pattern) (first : Row) (l : LineRec) : Seg :=
  mkSeg ((signal a).map (fun x => (x.t - (first.time : Rat)) / 1000)) first (truthOrigin a sel).1
    (truthOrigin a sel).2 ((p0.sxu : Rat) / 10000) ((p0.syu : Rat) / 10000) l.pair

theorem lineRecorded_iff (a : Acq) (l : LineRec) (P : Nat) :
    lineRecorded a l P = true ↔
      (a.skip ≤ P + l.p.npix - 1 ∧ P + l.p.npix - 1 < a.skip + a.take) ∨
      (P + l.p.npix ≤ a.skip ∨ a.skip + a.take ≤ P) := by
  simp [lineRecorded]

/-- A line of `n` pixels whose first pixel sample has index `P`, in a signal that is the window `[skip, skip + take)`
of the samples and holds the line's end or nothing of it: the sample range `[t0, t1)` found for the line, end-aligned
on its `n` pixels, puts on step `j` the sample of step `j`. -/
theorem window_step (P n skip take t0 t1 v j : Nat) (h0 : t0 = min (P - skip) take) (h1 : t1 = min (P + n - skip) take)
    (hrec : (skip ≤ P + n - 1 ∧ P + n - 1 < skip + take) ∨ (P + n ≤ skip ∨ skip + take ≤ P)) (hj : j < n) :
    (t0 ≤ v ∧ v < t1 ∧ j + t1 = v + n) ↔ (skip + v = P + j ∧ v < take) := by
  -- two cases: the line's end is in the window (`t1 = P + n - skip`), or nothing of the line is (`t0 = t1`)
  omega

/-- stated about a variable `g` so that the segment is written once -/
theorem lineSeg_spec (a : Acq) (sel : Option (List Int)) (p0 : Pattern) (H : Hyp a sel p0) (first : Row)
    (lP : LineRec × Nat) (hlP : lP ∈ lineStarts 0 a.lines) (hsel : lP.1 ∈ selLines a sel) (g : Seg)
    (hg : lineSeg a sel p0 first lP.1 = g) :
    g.t0 = min (lP.2 - a.skip) a.take ∧ g.t1 = min (lP.2 + lP.1.p.npix - a.skip) a.take ∧
    (g.y0 = g.y1 ∨ g.x0 = g.x1) ∧ g.len = lP.1.p.npix ∧
    (∀ j, j < lP.1.p.npix → g.cellAt j = truthPixel a sel p0 lP.1 j) ∧
    0 ≤ g.x0 ∧ 0 ≤ g.x1 ∧ 0 ≤ g.y0 ∧ 0 ≤ g.y1 := by
  obtain ⟨hp, _⟩ := selLines_pattern a sel lP.1 hsel
  obtain ⟨e1, e2, _, _, _, hn, _⟩ := H.pats lP.1.p hp
  obtain ⟨cx, cy, hX, hY⟩ := corner_on_grid a sel p0 H lP.1.p hp
  have htimes := fun n s hs => render_event_index a H.ph0 H.ph1 H.dwell lP hlP n s hs
  have ht0 : g.t0 = min (lP.2 - a.skip) a.take := by
    rw [← hg]
    exact searchsorted_event a H.len first.time lP.1.on lP.2 (fun n s hs => (htimes n s hs).1)
  have ht1 : g.t1 = min (lP.2 + lP.1.p.npix - a.skip) a.take := by
    rw [← hg]
    exact searchsorted_event a H.len first.time lP.1.off (lP.2 + lP.1.p.npix) (fun n s hs => (htimes n s hs).2)
  obtain ⟨hax, hlen, hcell, hpos⟩ := render_line_cells lP.1.p lP.1.i (truthOrigin a sel).1 (truthOrigin a sel).2 cx cy
    hX hY (by rw [e1]; exact H.su) (by rw [e2]; exact H.sv) hn g
    (by rw [← hg, e1]; rfl) (by rw [← hg, e1]; rfl) (by rw [← hg, e2]; rfl) (by rw [← hg, e2]; rfl)
  refine ⟨ht0, ht1, hax, hlen, fun j hj => ?_, hpos⟩
  rw [hcell j hj, truthPixel, e1, e2]

theorem lineSeg_puts (a : Acq) (sel : Option (List Int)) (p0 : Pattern) (H : Hyp a sel p0) (first : Row)
    (lP : LineRec × Nat) (hlP : lP ∈ lineStarts 0 a.lines) (hsel : lP.1 ∈ selLines a sel) (j v : Nat)
    (hj : j < lP.1.p.npix) :
    (lineSeg a sel p0 first lP.1).puts j v ↔ a.skip + v = lP.2 + j ∧ v < a.take := by
  obtain ⟨ht0, ht1, -, hlen, -⟩ := lineSeg_spec a sel p0 H first lP hlP hsel _ rfl
  have hrec := (lineRecorded_iff a lP.1 lP.2).mp (H.recorded lP hlP ((mem_selLines a sel lP.1).mp hsel).2)
  unfold Seg.puts
  rw [hlen, and_iff_right hj]
  exact window_step _ _ _ _ _ _ v j ht0 ht1 hrec hj

theorem render_writes (a : Acq) (sel : Option (List Int)) (p0 : Pattern) (H : Hyp a sel p0) (first : Row) :
    ∃ w, allWrites a.take ((selLines a sel).map (lineSeg a sel p0 first)) = some w ∧
      (∀ (p : Int × Int) (v : Nat), (p, v) ∈ w ↔ (p.1, p.2, v) ∈ truthCells a sel) ∧
      (∀ e ∈ truthCells a sel, 0 ≤ e.1 ∧ e.1 < (canvasH ((selLines a sel).map (lineSeg a sel p0 first)) : Int) ∧
        0 ≤ e.2.1 ∧ e.2.1 < (canvasW ((selLines a sel).map (lineSeg a sel p0 first)) : Int)) := by
  have hP : ∀ l ∈ selLines a sel, ∃ P, (l, P) ∈ lineStarts 0 a.lines :=
    fun l hl => lineStarts_of_mem 0 a.lines l ((mem_selLines a sel l).mp hl).1
  obtain ⟨w, hw, hmem⟩ := allWrites_spec a.take ((selLines a sel).map (lineSeg a sel p0 first)) (by
    intro g hg
    obtain ⟨l, hl, rfl⟩ := List.mem_map.mp hg
    obtain ⟨P, hlP⟩ := hP l hl
    obtain ⟨-, ht1, hax, -⟩ := lineSeg_spec a sel p0 H first (l, P) hlP hl _ rfl
    exact ⟨hax, by rw [ht1]; exact Nat.min_le_right _ _⟩)
  have hline : ∀ lP ∈ lineStarts 0 a.lines, lP.1 ∈ selLines a sel → ∀ (p : Int × Int) (v : Nat),
      (∃ j, (lineSeg a sel p0 first lP.1).puts j v ∧ p = (lineSeg a sel p0 first lP.1).cellAt j) ↔
        ∃ j, j < lP.1.p.npix ∧ a.skip + v = lP.2 + j ∧ v < a.take ∧ p = truthPixel a sel p0 lP.1 j := by
    intro lP hlP hl p v
    obtain ⟨-, -, -, hlen, hcell, -⟩ := lineSeg_spec a sel p0 H first lP hlP hl _ rfl
    refine exists_congr fun j => ⟨fun ⟨hput, hp⟩ => ?_, fun ⟨hj, hv, hvt, hp⟩ => ?_⟩
    · have hj : j < lP.1.p.npix := hlen ▸ hput.1
      have := (lineSeg_puts a sel p0 H first lP hlP hl j v hj).mp hput
      exact ⟨hj, this.1, this.2, by rw [hp, hcell j hj]⟩
    · exact ⟨(lineSeg_puts a sel p0 H first lP hlP hl j v hj).mpr ⟨hv, hvt⟩, by rw [hp, hcell j hj]⟩
  have hiff : ∀ (p : Int × Int) (v : Nat), (p, v) ∈ w ↔ (p.1, p.2, v) ∈ truthCells a sel := by
    intro p v
    rw [hmem, truthCells_iff a sel p0 H.head]
    constructor
    · rintro ⟨g, hg, hj⟩
      obtain ⟨l, hl, rfl⟩ := List.mem_map.mp hg
      obtain ⟨P, hlP⟩ := hP l hl
      exact ⟨(l, P), hlP, hl, (hline (l, P) hlP hl p v).mp hj⟩
    · rintro ⟨lP, hlP, hl, hj⟩
      exact ⟨_, List.mem_map.mpr ⟨lP.1, hl, rfl⟩, (hline lP hlP hl p v).mpr hj⟩
  refine ⟨w, hw, hiff, ?_⟩
  rintro ⟨r, c, v⟩ he
  obtain ⟨lP, hlP, hl, hj⟩ := (truthCells_iff a sel p0 H.head r c v).mp he
  obtain ⟨-, -, -, -, -, hx0, hx1, hy0, hy1⟩ := lineSeg_spec a sel p0 H first lP hlP hl _ rfl
  obtain ⟨j, hput, hrc⟩ := (hline lP hlP hl (r, c) v).mpr hj
  have hb := seg_cell_bounds _ j hput.1
  rw [← hrc] at hb
  have := lt_canvas _ _ (List.mem_map.mpr ⟨lP.1, hl, rfl⟩) r c hb.2.1 hb.2.2.2
  exact ⟨le_trans (le_min hy0 hy1) hb.1, this.1, le_trans (le_min hx0 hx1) hb.2.2.1, this.2⟩

theorem find?_of_nodup_pixels (cells : List (Int × Int × Nat)) (hnd : (cells.map (fun e => (e.1, e.2.1))).Nodup)
    (e : Int × Int × Nat) (he : e ∈ cells) : cells.find? (fun e' => e'.1 == e.1 && e'.2.1 == e.2.1) = some e :=
  Lists.find?_unique _ he (by simp) fun y hy hp => by
    simp only [Bool.and_eq_true, beq_iff_eq] at hp
    exact Classical.byContradiction fun hne =>
      pairwise_forall_ne (fun _ _ h => Ne.symm h) (List.pairwise_map.mp hnd) y hy e he hne (Prod.ext hp.1 hp.2)

/-- no pixel is visited twice, so the first match (`find?`, the ground truth) and the last write (`lookupLast`, the
canvas) are the same cell -/
theorem canvas_eq_truth {a : Acq} {sel : Option (List Int)} (w : List ((Int × Int) × Nat))
    (hnd : ((truthCells a sel).map (fun e => (e.1, e.2.1))).Nodup)
    (hmem : ∀ (p : Int × Int) (v : Nat), (p, v) ∈ w ↔ (p.1, p.2, v) ∈ truthCells a sel) (h wd : Nat) :
    canvasImage h wd w = truthImage a sel h wd := by
  refine List.map_congr_left fun r _ => List.map_congr_left fun c _ => ?_
  cases hl : lookupLast w ((r : Int), (c : Int)) with
  | none =>
    have hno := (lookupLast_none_iff w _).mp hl
    have : (truthCells a sel).find? (fun e => e.1 == (r : Int) && e.2.1 == (c : Int)) = none := by
      rw [List.find?_eq_none]
      rintro ⟨r', c', v⟩ he hpe
      simp only [Bool.and_eq_true, beq_iff_eq] at hpe
      obtain ⟨rfl, rfl⟩ := hpe
      exact hno (_, v) ((hmem (_, _) v).mpr he) rfl
    rw [this]; rfl
  | some v =>
    rw [find?_of_nodup_pixels _ hnd (r, c, v) ((hmem (r, c) v).mp (lookupLast_mem w _ v hl))]; rfl

theorem truthImage_at (a : Acq) (sel : Option (List Int)) (h w : Nat)
    (hnd : ((truthCells a sel).map (fun e => (e.1, e.2.1))).Nodup) (e : Int × Int × Nat) (he : e ∈ truthCells a sel)
    (h1 : 0 ≤ e.1) (h2 : e.1 < (h : Int)) (h3 : 0 ≤ e.2.1) (h4 : e.2.1 < (w : Int)) :
    ∃ row, (truthImage a sel h w)[e.1.toNat]? = some row ∧ row[e.2.1.toNat]? = some (some e.2.2) := by
  unfold truthImage
  refine ⟨_, by rw [List.getElem?_map, List.getElem?_range (by omega)]; rfl, ?_⟩
  rw [List.getElem?_map, List.getElem?_range (by omega), Option.map_some, Int.toNat_of_nonneg h1,
    Int.toNat_of_nonneg h3, find?_of_nodup_pixels _ hnd e he]
  rfl

theorem sync_render_result (a : Acq) (sel : Option (List Int)) (isnan : Nat → Bool) (squeeze : Bool) (rd : Rendered)
    (hyp : truthHyp a sel = true) (hr : render a sel = some rd) :
    ∃ (p0 : Pattern) (h w : Nat), Hyp a sel p0 ∧
      sync rd.rows sel rd.times rd.delay isnan squeeze = .ok (syncResult isnan squeeze h w (truthImage a sel h w)
        (truthOrigin a sel) [(p0.sxu : Rat) / 10000, (p0.syu : Rat) / 10000]) ∧
      ∀ e ∈ truthCells a sel, 0 ≤ e.1 ∧ e.1 < (h : Int) ∧ 0 ≤ e.2.1 ∧ e.2.1 < (w : Int) := by
  obtain ⟨p0, H⟩ := truthHyp_spec a sel hyp
  obtain ⟨f, s0, hf, hs0, rfl⟩ := render_some a sel rd hr
  have hpairs := render_selects_lines a sel H.seq0 H.inc
  obtain ⟨l0, rest, hsl, hff⟩ := H.first_line
  have hl0 : l0 ∈ selLines a sel := by rw [hsl]; simp
  obtain ⟨e1, e2, e3, _⟩ := H.pats l0.p (selLines_pattern a sel l0 hl0).1
  have hft : l0.pair.1.time = f := Option.some.inj (hff.symm.trans hf)
  have hspot0 : spotSize l0.pair.1.spot = some [(p0.sxu : Rat) / 10000, (p0.syu : Rat) / 10000] := by
    have : l0.pair.1.spot = p0.spotStr := by
      show l0.p.spotStr = p0.spotStr
      unfold Pattern.spotStr Pattern.spotL; rw [e1, e2, e3]
    rw [this, render_spot_roundtrip p0]
    by_cases hc : p0.circular = true
    · simp [hc, H.circ hc]
    · simp [hc]
  have hlen : ((signal a).map (fun x => a.t0 + (x.t - s0.t) / 1000)).length = a.take := by
    rw [List.length_map, signal_length a H.len]
  obtain ⟨w, hw, hmem, hbounds⟩ := render_writes a sel p0 H l0.pair.1
  have hsegs : syncSegs ((signal a).map (fun x => a.t0 + (x.t - s0.t) / 1000)) ((s0.t - (f : Rat)) / 1000)
      ((selLines a sel).map LineRec.pair) l0.pair.1 [(p0.sxu : Rat) / 10000, (p0.syu : Rat) / 10000]
      = (selLines a sel).map (lineSeg a sel p0 l0.pair.1) := by
    unfold syncSegs
    rw [shifted_times a H.ph0 H.ph1 H.dwell s0 hs0 f, origin_x a sel p0 H, origin_y a sel p0 H, ← hft, List.map_map]
    rfl
  have hok := sync_ok_of_steps (emitAll a).rows sel _ ((s0.t - (f : Rat)) / 1000) isnan squeeze _ l0.pair _ w hpairs
    (by rw [hsl]; rfl) hspot0 (by rw [hsegs, hlen]; exact hw)
  rw [hsegs, origin_x a sel p0 H, origin_y a sel p0 H, canvas_eq_truth w H.nodup hmem] at hok
  exact ⟨p0, _, _, H, hok, hbounds⟩

/-- On the domain of the ground truth `render` is defined (there is a first firing in the selection and
the signal is not empty), so `sync_render` is never vacuous in its second hypothesis. -/
theorem render_defined (a : Acq) (sel : Option (List Int)) (hyp : truthHyp a sel = true) :
    ∃ rd, render a sel = some rd := by
  obtain ⟨p0, H⟩ := truthHyp_spec a sel hyp
  obtain ⟨l0, rest, -, hff⟩ := H.first_line
  cases hs : signal a with
  | nil => have := signal_length a H.len; rw [hs] at this; exact absurd this.symm (Nat.ne_of_gt H.take)
  | cons s0 _ => unfold render; rw [hff, hs]; exact ⟨_, rfl⟩

end Pew.Sync
