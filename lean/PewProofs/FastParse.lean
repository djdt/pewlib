import PewModel.FastParse
import Mathlib.Data.List.Forall2
/-! # C17 — the loops on the lines of a rendered document

On the lines of an element the loops leave `finishX` of the reversed `pairs` of its children (`runC_element`,
`foldl_flatMap_forall₂` for a list of elements, `run_spec_block` for a spectrum in the main loop).  `FastDoc cls d m`,
"the document parses to `m`", collects that for a whole document and gives `finishCore (coreRun (render cls d)) = .ok m`
(`run_render`). -/
namespace Pew.FastParse

/-- the dictionary entries of a list of children, in document order -/
def pairs (cls : String → Bool) : List Item → Dict
  | [] => []
  | .cv a v :: r => (a, reVal cls v) :: pairs cls r
  | _ :: r => pairs cls r

def lastRef (items : List Item) : Option String := (refs items).getLast?

def fastGroup (cls : String → Bool) (g : Group) : Except Err PGroup :=
  finishGroup g.id ((pairs cls g.items).reverse)

def fastSettings (cls : String → Bool) (s : Settings) : Except Err ScanSet :=
  finishSettings ((pairs cls s.items).reverse)

def fastArr (cls : String → Bool) (a : Arr) : Except Err (String × String × String) :=
  finishArray ((pairs cls a.items).reverse) (lastRef a.items)

/-- what the loop over `<referenceableParamGroup>` elements leaves in `mz_params` / `intensity_params`: the last
group of that name wins.  `toOption` forgets a group that fails, on which the machine stops: `FastDoc.named`
excludes that -/
def pickG (cls : String → Bool) (name : String) : Option PGroup → List Group → Option PGroup
  | old, [] => old
  | old, g :: r => pickG cls name (if g.id = name then (fastGroup cls g).toOption else old) r

def FastSpec (cls : String → Bool) (s : Spec) (x : SpecInfo) : Prop :=
  ∃ xs, List.Forall₂ (fun a y => fastArr cls a = .ok y) s.arrays xs ∧
    finishSpectrum { cvs := (pairs cls s.seen).reverse, arrays := xs } = .ok x

/-- "the document parses to `m`": both named groups and every `<scanSettings>` parse (the loops read them all, the
model keeps the first), there is a spectrum, and every spectrum parses -/
structure FastDoc (cls : String → Bool) (d : Doc) (m : Model) : Prop where
  named : ∀ g ∈ d.groups, g.id = "mzArray" ∨ g.id = "intensities" → ∃ pg, fastGroup cls g = .ok pg
  mz : pickG cls "mzArray" none d.groups = some m.mz
  inten : pickG cls "intensities" none d.groups = some m.inten
  scans : ∃ rest, List.Forall₂ (fun s x => fastSettings cls s = .ok x) d.settings (m.scan :: rest)
  nonempty : d.spectra ≠ []
  spectra : List.Forall₂ (FastSpec cls) d.spectra m.spectra

abbrev runC (c : Core) (L : List Line) : Core := L.foldl stepCore c

theorem coreRun_eq_runC (ls : List Line) : coreRun ls = runC Core.init ls := rfl

theorem runC_append (c : Core) (A B : List Line) : runC c (A ++ B) = runC (runC c A) B := by
  simp [runC, List.foldl_append]

theorem runC_inert (c : Core) (L : List Line) (h : ∀ l ∈ L, stepCore c l = c) : runC c L = c := by
  induction L with
  | nil => rfl
  | cons l r ih =>
    simp only [runC, List.foldl_cons, h l List.mem_cons_self]
    exact ih fun l' hl' => h l' (List.mem_cons_of_mem _ hl')

theorem runC_element {c c₁ c₂ c₃ : Core} {o e : Line} {mid : List Line}
    (ho : stepCore c o = c₁) (hmid : runC c₁ mid = c₂) (he : stepCore c₂ e = c₃) : runC c ([o] ++ mid ++ [e]) = c₃ := by
  rw [runC_append, runC_append, ← he, ← hmid, ← ho]
  rfl

/-- a fold over the blocks `f a` when the state is a function `K` of the results so far and each block appends
its result -/
theorem foldl_flatMap_forall₂ {σ α β γ} (step : σ → γ → σ) (f : α → List γ) (P : α → β → Prop) (K : List β → σ)
    (h : ∀ a x acc, P a x → (f a).foldl step (K acc) = K (acc ++ [x])) {as : List α} {xs : List β}
    (hok : List.Forall₂ P as xs) (acc : List β) : (as.flatMap f).foldl step (K acc) = K (acc ++ xs) := by
  induction hok generalizing acc with
  | nil => simp
  | cons hax _ ih => rw [List.flatMap_cons, List.foldl_append, h _ _ _ hax, ih]; simp

theorem foldl_addCv (cls : String → Bool) (items : List Item) (cvs : Dict) :
    (renderItems cls items).foldl addCv cvs = (pairs cls items).reverse ++ cvs := by
  induction items generalizing cvs with
  | nil => simp [renderItems, pairs]
  | cons it r ih =>
    cases it <;> simp [renderItems, renderItem, pairs, addCv] at ih ⊢ <;> rw [ih]

theorem pairs_append (cls : String → Bool) (A B : List Item) : pairs cls (A ++ B) = pairs cls A ++ pairs cls B := by
  induction A with
  | nil => rfl
  | cons it r ih => cases it <;> simp [pairs, ih]

theorem run_items (cls : String → Bool) (c : Core) (M : Dict → Mode)
    (hM : ∀ cvs it, stepCore { c with mode := M cvs } (renderItem cls it)
      = { c with mode := M (addCv cvs (renderItem cls it)) })
    (items : List Item) (cvs : Dict) :
    runC { c with mode := M cvs } (renderItems cls items) = { c with mode := M ((pairs cls items).reverse ++ cvs) } := by
  rw [← foldl_addCv]
  induction items generalizing cvs with
  | nil => rfl
  | cons it r ih => exact (congrArg (runC · _) (hM cvs it)).trans (ih _)

theorem run_spectrum_items (cls : String → Bool) (c : Core) (hc : c.err = none)
    (items : List Item) (cvs : Dict) (arrs : List (String × String × String)) :
    runC { c with mode := .spectrum { cvs := cvs, arrays := arrs } } (renderItems cls items)
      = { c with mode := .spectrum { cvs := (pairs cls items).reverse ++ cvs, arrays := arrs } } :=
  run_items cls c (fun cvs => .spectrum { cvs := cvs, arrays := arrs })
    (fun _ it => by cases it <;> simp [stepCore, hc, renderItem, addCv, startsArrayList, endsSpectrum]) items cvs

/-- lines `parse_spectrum` skips -/
def specInert : Line → Bool
  | .cv _ _ => false
  | l => !startsArrayList l && !endsSpectrum l

theorem run_spectrum_inert (c : Core) (hc : c.err = none) (acc : SpecAcc) (l : Line) (hl : specInert l = true) :
    runC { c with mode := .spectrum acc } [l] = { c with mode := .spectrum acc } := by
  cases l <;> simp_all [specInert, runC, stepCore]

theorem run_array_items (cls : String → Bool) (c : Core) (hc : c.err = none) (acc : SpecAcc)
    (items : List Item) (cvs : Dict) (id : Option String) :
    runC { c with mode := .array acc cvs id } (renderItems cls items)
      = { c with mode := .array acc ((pairs cls items).reverse ++ cvs) ((lastRef items).or id) } := by
  induction items generalizing cvs id with
  | nil => rfl
  | cons it r ih =>
    have hstep : stepCore { c with mode := .array acc cvs id } (renderItem cls it)
        = { c with mode := .array acc (addCv cvs (renderItem cls it)) (match it with | .ref r' => some r' | _ => id) } := by
      cases it <;> simp [stepCore, hc, renderItem, endsArray, addCv]
    refine (congrArg (runC · _) hstep).trans ((ih _ _).trans ?_)
    cases it <;> simp [renderItem, addCv, pairs, lastRef, refs, List.getLast?_cons]

theorem run_groupList_items (cls : String → Bool) (c : Core) (hc : c.err = none) (items : List Item) :
    runC { c with mode := .groupList } (renderItems cls items) = { c with mode := .groupList } :=
  runC_inert _ _ fun l hl => by
    obtain ⟨it, _, rfl⟩ := List.mem_map.1 hl
    cases it <;> simp [stepCore, hc, renderItem, startsGroup, endsGroupList, idAttr]

theorem run_group_other (cls : String → Bool) (c : Core) (hc : c.err = none) (g : Group)
    (h1 : g.id ≠ "mzArray") (h2 : g.id ≠ "intensities") :
    runC { c with mode := .groupList } (renderGroup cls g) = { c with mode := .groupList } :=
  runC_element (by simp [stepCore, hc, startsGroup, idAttr, h1, h2]) (run_groupList_items cls c hc g.items)
    (by simp [stepCore, hc, startsGroup, endsGroupList])

theorem run_group_named (cls : String → Bool) (c : Core) (hc : c.err = none) (g : Group) (pg : PGroup) (b : Bool)
    (h1 : g.id = if b then "mzArray" else "intensities") (hok : fastGroup cls g = .ok pg) :
    runC { c with mode := .groupList } (renderGroup cls g)
      = if b then { c with mode := .groupList, mz := some pg } else { c with mode := .groupList, inten := some pg } :=
  -- `b`: both array groups in one statement
  runC_element (c₁ := { c with mode := .group b g.id [] })
    (by cases b <;> simp [stepCore, hc, startsGroup, idAttr, h1])
    (run_items cls c (.group b g.id) (fun _ it => by cases it <;> simp [stepCore, hc, renderItem, endsGroup]) _ _)
    (by cases b <;> simp [stepCore, hc, endsGroup, addCv, show finishGroup _ _ = _ from hok])

theorem run_groups (cls : String → Bool) (groups : List Group) (c : Core) (hc : c.err = none)
    (hok : ∀ g ∈ groups, g.id = "mzArray" ∨ g.id = "intensities" → ∃ pg, fastGroup cls g = .ok pg) :
    runC { c with mode := .groupList } (groups.flatMap (renderGroup cls))
      = { c with mode := .groupList, mz := pickG cls "mzArray" c.mz groups,
                 inten := pickG cls "intensities" c.inten groups } := by
  induction groups generalizing c with
  | nil => simp [runC, pickG]
  | cons g r ih =>
    rw [List.flatMap_cons, runC_append]
    have hr : ∀ g ∈ r, g.id = "mzArray" ∨ g.id = "intensities" → ∃ pg, fastGroup cls g = .ok pg :=
      fun g' hg' => hok g' (by simp [hg'])
    by_cases h1 : g.id = "mzArray"
    · obtain ⟨pg, hpg⟩ := hok g (by simp) (Or.inl h1)
      rw [run_group_named cls c hc g pg true h1 hpg, if_pos rfl]
      refine (ih { c with mz := some pg } hc hr).trans ?_
      simp [pickG, h1, hpg, Except.toOption]
    · by_cases h2 : g.id = "intensities"
      · obtain ⟨pg, hpg⟩ := hok g (by simp) (Or.inr h2)
        rw [run_group_named cls c hc g pg false h2 hpg, if_neg Bool.false_ne_true]
        refine (ih { c with inten := some pg } hc hr).trans ?_
        simp [pickG, h2, hpg, Except.toOption]
      · rw [run_group_other cls c hc g h1 h2, ih c hc hr]
        simp [pickG, h1, h2]

theorem run_renderGroups (cls : String → Bool) (d : Doc) (c : Core) (hc : c.err = none) (hm : c.mode = .top)
    (hok : ∀ g ∈ d.groups, g.id = "mzArray" ∨ g.id = "intensities" → ∃ pg, fastGroup cls g = .ok pg) :
    runC c (renderGroups cls d)
      = { c with mz := pickG cls "mzArray" c.mz d.groups, inten := pickG cls "intensities" c.inten d.groups } :=
  runC_element (by simp [stepCore, hc, hm, startsGroupList]) (run_groups cls d.groups c hc hok)
    (by simp [stepCore, hc, startsGroup, endsGroupList, hm])

theorem run_settingsList_nil (c : Core) : runC c [] = c := rfl

theorem run_renderSettings (cls : String → Bool) (c : Core) (hc : c.err = none) (s : Settings) (x : ScanSet)
    (hok : fastSettings cls s = .ok x) :
    runC { c with mode := .settingsList } (renderSettings cls s)
      = { c with mode := .settingsList, scans := c.scans ++ [x] } :=
  runC_element (c₁ := { c with mode := .settings [] }) (by simp [stepCore, hc, startsSettings])
    (run_items cls c .settings (fun _ it => by cases it <;> simp [stepCore, hc, renderItem, endsSettings]) _ _)
    (by simp [stepCore, hc, endsSettings, addCv, show finishSettings _ = _ from hok])

theorem run_settings (cls : String → Bool) (ss : List Settings) (xs : List ScanSet) (c : Core) (hc : c.err = none)
    (hok : List.Forall₂ (fun s x => fastSettings cls s = .ok x) ss xs) :
    runC { c with mode := .settingsList } (ss.flatMap (renderSettings cls))
      = { c with mode := .settingsList, scans := c.scans ++ xs } :=
  foldl_flatMap_forall₂ stepCore _ _ (fun acc => { c with mode := .settingsList, scans := acc })
    (fun _ _ acc h => run_renderSettings cls { c with scans := acc } hc _ _ h) hok c.scans

theorem run_renderSettingsList (cls : String → Bool) (d : Doc) (xs : List ScanSet) (c : Core) (hc : c.err = none)
    (hm : c.mode = .top) (hok : List.Forall₂ (fun s x => fastSettings cls s = .ok x) d.settings xs) :
    runC c (renderSettingsList cls d) = { c with scans := c.scans ++ xs } :=
  runC_element (by simp [stepCore, hc, hm, startsGroupList, startsSettingsList])
    (run_settings cls d.settings xs c hc hok) (by simp [stepCore, hc, startsSettings, endsSettingsList, hm])

theorem run_renderArr (cls : String → Bool) (c : Core) (hc : c.err = none) (acc : SpecAcc) (a : Arr)
    (x : String × String × String) (hok : fastArr cls a = .ok x) :
    runC { c with mode := .arrayList acc } (renderArr cls a)
      = { c with mode := .arrayList { acc with arrays := acc.arrays ++ [x] } } :=
  runC_element (c₁ := { c with mode := .array acc [] none }) (by simp [stepCore, hc, startsArray])
    (run_array_items cls c hc acc _ _ _)
    (by simp [stepCore, hc, endsArray, addCv, show finishArray _ _ = _ from hok])

theorem run_arrays (cls : String → Bool) (as : List Arr) (xs : List (String × String × String)) (c : Core)
    (hc : c.err = none) (acc : SpecAcc)
    (hok : List.Forall₂ (fun a x => fastArr cls a = .ok x) as xs) :
    runC { c with mode := .arrayList acc } (as.flatMap (renderArr cls))
      = { c with mode := .arrayList { acc with arrays := acc.arrays ++ xs } } :=
  foldl_flatMap_forall₂ stepCore _ _ (fun l => { c with mode := .arrayList { acc with arrays := l } })
    (fun _ _ l h => run_renderArr cls c hc { acc with arrays := l } _ _ h) hok acc.arrays

theorem run_renderScan (cls : String → Bool) (sc : List Item) (c : Core) (hc : c.err = none)
    (cvs : Dict) (arrs : List (String × String × String)) :
    runC { c with mode := .spectrum { cvs := cvs, arrays := arrs } } (renderScan cls sc)
      = { c with mode := .spectrum { cvs := (pairs cls sc).reverse ++ cvs, arrays := arrs } } :=
  runC_element (run_spectrum_inert c hc _ (.opn .other "") rfl) (run_spectrum_items cls c hc _ _ _)
    (run_spectrum_inert c hc _ (.cls .other) rfl)

theorem run_scans (cls : String → Bool) (scans : List (List Item)) (c : Core) (hc : c.err = none)
    (cvs : Dict) (arrs : List (String × String × String)) :
    runC { c with mode := .spectrum { cvs := cvs, arrays := arrs } } (scans.flatMap (renderScan cls))
      = { c with mode := .spectrum { cvs := (pairs cls scans.flatten).reverse ++ cvs, arrays := arrs } } := by
  induction scans generalizing cvs with
  | nil => simp [runC, pairs]
  | cons sc r ih =>
    rw [List.flatMap_cons, runC_append, run_renderScan cls sc c hc, ih]
    simp [pairs_append]

theorem run_specBody (cls : String → Bool) (c : Core) (hc : c.err = none) (s : Spec) (x : SpecInfo)
    (hok : FastSpec cls s x) :
    runC { c with mode := .spectrum { cvs := [], arrays := [] } } (renderSpecBody cls s ++ [Line.cls .spectrum])
      = { c with mode := .top, spectra := c.spectra ++ [x] } := by
  obtain ⟨xs, harr, hfin⟩ := hok
  unfold renderSpecBody
  simp only [runC_append]
  rw [run_spectrum_items cls c hc]
  rw [run_spectrum_inert c hc _ _ rfl, run_spectrum_items cls c hc, run_scans cls s.scans c hc,
    run_spectrum_inert c hc _ _ rfl]
  have e3 : ∀ acc : SpecAcc, runC { c with mode := .spectrum acc } [Line.opn .arrayList ""] = { c with mode := .arrayList acc } := by
    intro acc; simp [runC, stepCore, hc, startsArrayList]
  rw [e3, run_arrays cls s.arrays xs c hc _ harr]
  have e4 : ∀ acc : SpecAcc, runC { c with mode := .arrayList acc } [Line.cls .arrayList] = { c with mode := .spectrum acc } := by
    intro acc; simp [runC, stepCore, hc, startsArray, endsArrayList]
  rw [e4]
  rw [run_spectrum_items cls c hc]
  -- the dictionary is newest first, hence the parts in reversed order
  have hd : (pairs cls s.tail).reverse ++ ((pairs cls s.scans.flatten).reverse ++ ((pairs cls s.scanlist).reverse ++ ((pairs cls s.items).reverse ++ [])))
      = (pairs cls s.seen).reverse := by
    simp [Spec.seen, pairs_append]
  rw [hd]
  simp [runC, stepCore, hc, startsArrayList, endsSpectrum, hfin]

theorem startsSpectrum_not_list {l : Line} (hl : startsSpectrum l = true) :
    startsGroupList l = false ∧ startsSettingsList l = false := by
  cases l with
  | opn t _ => cases t <;> first | exact ⟨rfl, rfl⟩ | cases hl
  | _ => cases hl

/-- the main loop's `"<spectrum"` test: the `<spectrumList …>` line passes it as well -/
theorem stepCore_startsSpectrum (c : Core) (hc : c.err = none) (hm : c.mode = .top) (l : Line)
    (hl : startsSpectrum l = true) : stepCore c l = { c with mode := .spectrum { cvs := [], arrays := [] } } := by
  simp [stepCore, hc, hm, startsSpectrum_not_list hl, hl]

/-- one turn of the main loop on a spectrum: a line `l` that passes the `"<spectrum"` test, lines `pre` that
`parse_spectrum` skips (the `<spectrum …>` line itself when `l` is the `<spectrumList …>` line), the children
and the closing tag -/
theorem run_spec_block (cls : String → Bool) (c : Core) (hc : c.err = none) (hm : c.mode = .top)
    (l : Line) (pre : List Line) (hl : startsSpectrum l = true) (hpre : ∀ l ∈ pre, specInert l = true)
    (s : Spec) (x : SpecInfo) (hok : FastSpec cls s x) :
    runC c ((l :: pre) ++ renderSpecBody cls s ++ [Line.cls .spectrum]) = { c with spectra := c.spectra ++ [x] } := by
  rw [List.append_assoc, List.cons_append, show runC c (l :: _) = runC (stepCore c l) _ from rfl, stepCore_startsSpectrum c hc hm l hl,
    runC_append, runC_inert _ pre fun l' hl' => run_spectrum_inert c hc _ l' (hpre l' hl'),
    run_specBody cls c hc s x hok, hm]

theorem run_spectra_rest (cls : String → Bool) (ss : List Spec) (xs : List SpecInfo) (c : Core)
    (hc : c.err = none) (hm : c.mode = .top) (hok : List.Forall₂ (FastSpec cls) ss xs) :
    runC c (ss.flatMap (renderSpec cls)) = { c with spectra := c.spectra ++ xs } :=
  foldl_flatMap_forall₂ stepCore _ _ (fun l => { c with spectra := l })
    (fun s x l h => run_spec_block cls { c with spectra := l } hc hm _ [] rfl (List.forall_mem_nil _) s x h) hok c.spectra

def topInert (l : Line) : Bool := !startsGroupList l && !startsSettingsList l && !startsSpectrum l

theorem run_top_inert (c : Core) (hc : c.err = none) (hm : c.mode = .top) (L : List Line)
    (h : ∀ l ∈ L, topInert l = true) : runC c L = c :=
  runC_inert c L fun l hl => by
    have hl := h l hl
    simp only [topInert, Bool.and_eq_true, Bool.not_eq_true'] at hl
    simp [stepCore, hc, hm, hl.1.1, hl.1.2, hl.2]

theorem sects_inert (cls : String → Bool) (ss : List Sect) : ∀ l ∈ ss.flatMap (renderSect cls), topInert l = true := by
  intro l hl
  simp only [List.mem_flatMap, renderSect, renderItems, List.mem_append, List.mem_cons, List.mem_map,
    List.not_mem_nil, or_false] at hl
  obtain ⟨s, _, (rfl | ⟨it, _, rfl⟩) | rfl⟩ := hl
  · rfl
  · cases it <;> rfl
  · rfl

theorem tail_inert (cls : String → Bool) (d : Doc) : ∀ l ∈ renderTail cls d, topInert l = true := by
  intro l hl
  unfold renderTail at hl
  rw [List.mem_append] at hl
  rcases hl with hl | hl
  · exact sects_inert cls d.post l hl
  · simp at hl; subst hl; rfl

theorem renderSpectra_cons (cls : String → Bool) (d : Doc) (s0 : Spec) (rest : List Spec) (hd : d.spectra = s0 :: rest) :
    renderSpectra cls d = [Line.opn .other ""] ++
      (([Line.opn .spectrumList "", Line.opn .spectrum ""] ++ renderSpecBody cls s0 ++ [Line.cls .spectrum])
        ++ (rest.flatMap (renderSpec cls) ++ [Line.cls .spectrumList, Line.cls .other])) := by
  simp [renderSpectra, renderSpec, hd]

theorem run_renderSpectra (cls : String → Bool) (d : Doc) (xs : List SpecInfo) (c : Core) (hc : c.err = none)
    (hm : c.mode = .top) (hne : d.spectra ≠ []) (hok : List.Forall₂ (FastSpec cls) d.spectra xs) :
    runC c (renderSpectra cls d) = { c with spectra := c.spectra ++ xs } := by
  cases hsp : d.spectra with
  | nil => exact absurd hsp hne
  | cons s0 rest =>
    rw [hsp] at hok
    cases hok with
    | @cons _ x0 _ xs h0 hrest =>
      rw [renderSpectra_cons cls d s0 rest hsp, runC_append, runC_append, runC_append,
        run_top_inert c hc hm _ (by simp [topInert, startsGroupList, startsSettingsList, startsSpectrum]),
        run_spec_block cls c hc hm _ [_] rfl (List.forall_mem_singleton.2 rfl) s0 x0 h0,
        run_spectra_rest cls rest xs { c with spectra := c.spectra ++ [x0] } hc hm hrest,
        run_top_inert { c with spectra := c.spectra ++ [x0] ++ xs } hc hm _
          (by simp [topInert, startsGroupList, startsSettingsList, startsSpectrum])]
      simp

theorem run_renderHead {cls : String → Bool} {d : Doc} {m : Model} (h : FastDoc cls d m) :
    ∃ rest, runC Core.init (renderHead cls d)
      = { Core.init with mz := some m.mz, inten := some m.inten, scans := m.scan :: rest } := by
  obtain ⟨rest, hscs⟩ := h.scans
  refine ⟨rest, ?_⟩
  have e1 : runC Core.init (if d.decl then [Line.misc] else []) = Core.init := by cases d.decl <;> rfl
  have e2 : runC Core.init [Line.opn .other ""] = Core.init := rfl
  unfold renderHead
  simp only [runC_append]
  rw [e1, e2, run_top_inert _ rfl rfl _ (sects_inert cls d.pre)]
  split
  · simp only [runC_append]
    rw [run_renderSettingsList cls d (m.scan :: rest) Core.init rfl rfl hscs,
      run_top_inert { Core.init with scans := Core.init.scans ++ (m.scan :: rest) } rfl rfl _ (sects_inert cls d.mid1),
      run_renderGroups cls d { Core.init with scans := Core.init.scans ++ (m.scan :: rest) } rfl rfl h.named,
      run_top_inert _ rfl rfl _ (sects_inert cls d.mid2)]
    simp [Core.init, h.mz, h.inten]
  · simp only [runC_append]
    rw [run_renderGroups cls d Core.init rfl rfl h.named, show pickG cls "mzArray" Core.init.mz d.groups = _ from h.mz,
      show pickG cls "intensities" Core.init.inten d.groups = _ from h.inten,
      run_top_inert { Core.init with mz := some m.mz, inten := some m.inten } rfl rfl _ (sects_inert cls d.mid1),
      run_renderSettingsList cls d (m.scan :: rest) { Core.init with mz := some m.mz, inten := some m.inten } rfl rfl hscs,
      run_top_inert _ rfl rfl _ (sects_inert cls d.mid2)]
    simp [Core.init]

theorem run_render {cls : String → Bool} {d : Doc} {m : Model} (h : FastDoc cls d m) :
    finishCore (coreRun (render cls d)) = .ok m := by
  obtain ⟨rest, hhead⟩ := run_renderHead h
  rw [coreRun_eq_runC, render]
  simp only [runC_append]
  rw [hhead, run_renderSpectra cls d m.spectra _ rfl rfl h.nonempty h.spectra,
    run_top_inert _ rfl rfl _ (tail_inert cls d)]
  simp_all [finishCore, Core.init]

end Pew.FastParse
