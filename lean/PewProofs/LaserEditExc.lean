import PewProofs.LaserEdit

/-! C07, the calls with their exceptions (`stepE`): every loop of `step` is the loop of `stepE` with its exception forgotten
(`stepE_toOption`), and what a failing call leaves behind. -/
namespace Pew.LaserEdit

theorem Res.toOption_ok {σ : Type} {r : Res σ} {s : σ} : r.toOption = some s ↔ r = .ok s := by
  cases r <;> simp [Res.toOption]

theorem Layer.addE_toOption (l : Layer) (n : Name) (a : ArrIn) : (l.addE n a).toOption = l.add n a := by
  rw [Layer.addE, Layer.add, apply_ite Except.toOption, apply_ite Except.toOption]; rfl

theorem addLayersE_toOption (n : Name) : ∀ (ls : List Layer) (as : List ArrIn), as.length = ls.length →
    (addLayersE n ls as).toOption = addLayers n ls as := by
  intro ls
  induction ls with
  | nil =>
    intro as h
    cases as with
    | nil => rfl
    | cons _ _ => cases h
  | cons l t ih =>
    intro as h
    cases as with
    | nil => cases h
    | cons a u =>
      rw [addLayers, addLayersE, ← Layer.addE_toOption, ← ih u (Nat.succ.inj h)]
      cases l.addE n a with
      | error e => rfl
      | ok l' => cases addLayersE n t u <;> rfl

theorem popAllE_toOption : ∀ (ns : List Name) (d : Dict),
    popAll d ns = (match popAllE d ns with
      | (d', none) => some d'
      | (_, some _) => none) := by
  intro ns
  induction ns with
  | nil => intro d; rfl
  | cons a r ih =>
    intro d
    rw [popAll, popAllE]
    cases dictPop d a with
    | none => rfl
    | some d' => exact ih d'

theorem renameLayersE_toOption (m : NameMap) (ls : List Layer) :
    (renameLayersE m ls).toOption = renameLayers m ls := by
  induction ls with
  | nil => rfl
  | cons l t ih =>
    rw [renameLayers, renameLayersE, ← ih]
    cases l.rename m with
    | none => rfl
    | some l' => cases renameLayersE m t <;> rfl

theorem renameE_toOption (s : State) (m : NameMap) : (renameE s m).toOption = rename s m := by
  unfold renameE rename
  rw [← renameLayersE_toOption]
  cases renameLayersE m s.layers <;> rfl

theorem calibrateAllE_toOption (cal : Dict) (f : Fields) :
    (calibrateAllE cal f).toOption = calibrateAll cal f := by
  induction f with
  | nil => rfl
  | cons e r ih =>
    rw [calibrateAll, calibrateAllE, ← ih]
    cases get? cal e.1 with
    | none => rfl
    | some c => cases calibrateAllE cal r <;> rfl

theorem readE_toOption (s : State) (layer : Nat) (t : Option Name) (c : Bool) :
    (readE s layer t c).toOption = read s layer t c := by
  unfold readE read
  cases s.layers[layer]? with
  | none => rfl
  | some l =>
    cases t with
    | some n =>
      simp only [readLayerE, readLayer]
      cases get? l.fields n with
      | none => rfl
      | some d => cases c <;> [rfl; (cases get? s.cal n <;> rfl)]
    | none => cases c <;> [rfl; exact calibrateAllE_toOption s.cal l.fields]

theorem stepE_toOption (s : State) (op : Op) : (stepE s op).toOption = step s op := by
  cases op with
  | add n ds c =>
    rw [stepE, step, addE, add]
    by_cases hlen : ds.length = s.layers.length
    · rw [if_neg (not_not.2 hlen), ← addLayersE_toOption n s.layers ds hlen]
      cases addLayersE n s.layers ds <;> rfl
    -- the wrong number of arrays: `addLayers` fails too, the shapes cannot match
    · rw [if_pos hlen, addLayers_eq, if_neg fun hc => hlen (shapes_length hc.2)]
      rfl
  | remove ns =>
    rw [stepE, step, removeE, remove]
    rw [popAllE_toOption]
    rcases popAllE s.cal ns with ⟨d, _ | e⟩ <;> rfl
  | rename m => exact renameE_toOption s m
  | get layer t c =>
    rw [stepE, step, ← readE_toOption]
    cases readE s layer t c <;> rfl
  | callerEdit => rfl

theorem Layer.addE_ok {l l' : Layer} {n : Name} {a : ArrIn} (h : l.addE n a = .ok l') : l' = l.addField n a := by
  unfold Layer.addE at h
  split at h
  · cases h
  · split at h <;> cases h
    rfl

theorem addLayersE_error (n : Name) : ∀ (ls : List Layer) (as : List ArrIn) (e : Err) (ls' : List Layer),
    addLayersE n ls as = .error (e, ls') →
      ∃ l1 l2 as1, ls = l1 ++ l2 ∧ l2 ≠ [] ∧ as1.length = l1.length ∧
        ls' = List.zipWith (Layer.addField n) l1 as1 ++ l2 := by
  intro ls
  induction ls with
  | nil => intro as e ls' h; cases h
  | cons l t ih =>
    intro as e ls' h
    cases as with
    | nil => cases h; exact ⟨[], _, [], rfl, List.cons_ne_nil _ _, rfl, rfl⟩
    | cons a u =>
      rw [addLayersE] at h
      cases hl : l.addE n a with
      | error x => rw [hl] at h; cases h; exact ⟨[], _, [], rfl, List.cons_ne_nil _ _, rfl, rfl⟩
      | ok l' =>
        cases ht : addLayersE n t u with
        | ok r => rw [hl, ht] at h; cases h
        | error p =>
          rw [hl, ht] at h
          cases h
          obtain ⟨l1, l2, as1, rfl, h2, h3, h4⟩ := ih u p.1 p.2 ht
          exact ⟨l :: l1, l2, a :: as1, rfl, h2, congrArg (· + 1) h3, by rw [h4, Layer.addE_ok hl]; rfl⟩

theorem addE_fail {s s' : State} (h : Inv s) {n : Name} {ds : List ArrIn} {c : Nat} {e : Err}
    (hs : addE s n ds c = .fail e s') :
    s'.cal = s.cal ∧ s'.cfg = s.cfg ∧ s'.srr = s.srr ∧
      s'.layers.map (·.shape) = s.layers.map (·.shape) ∧ (s' = s ∨ ¬ Inv s') ∧ (s.layers.length = 1 → s' = s) := by
  unfold addE at hs
  split at hs
  · cases hs; exact ⟨rfl, rfl, rfl, rfl, .inl rfl, fun _ => rfl⟩
  · cases hE : addLayersE n s.layers ds with
    | ok r => rw [hE] at hs; cases hs
    | error p =>
      rw [hE] at hs
      cases hs
      obtain ⟨l1, l2, as1, hls, hne, hlen, hp⟩ := addLayersE_error n s.layers ds p.1 p.2 hE
      refine ⟨rfl, rfl, rfl, ?_, ?_⟩
      · rw [hp, hls, List.map_append, List.map_append,
          map_zipWith_left (fun l => l.shape) (fun l => l.shape) (Layer.addField n) l1 as1 hlen fun _ _ _ _ => rfl]
      obtain ⟨y, t, rfl⟩ := List.exists_cons_of_ne_nil hne
      cases l1 with
      | nil =>
        have : ({ s with layers := p.2 } : State) = s := by
          rw [hp, show List.zipWith (Layer.addField n) [] as1 ++ y :: t = s.layers from hls.symm]
        exact ⟨.inl this, fun _ => this⟩
      | cons x r =>
        obtain ⟨a, u, rfl⟩ : ∃ a u, as1 = a :: u := by cases as1 <;> [cases hlen; exact ⟨_, _, rfl⟩]
        refine ⟨.inr fun h' => ?_, fun h1 => by simp [hls] at h1⟩
        -- `y` is a layer before and after: it has the names of `x`, and those of `x` with the new field
        have h1 := h'.layer_keys (l := y) (by simp [hp])
        have h2 := h.layer_keys (l := y) (by simp [hls])
        simp only [State.elements, hp, hls, elementsOf, List.zipWith_cons_cons, List.cons_append] at h1 h2
        simpa [Layer.keys_addField, h2] using congrArg List.length h1

theorem popAllE_error : ∀ (ns : List Name) (d d' : Dict) (e : Err), popAllE d ns = (d', some e) →
    e = .key ∧ ∃ k, k < ns.length ∧ d' = d.filter (fun x => decide (x.1 ∉ ns.take k)) ∧
      ∀ x, ns[k]? = some x → x ∉ keys d' := by
  intro ns
  induction ns with
  | nil => intro d d' e h; cases h
  | cons a r ih =>
    intro d d' e h
    rw [popAllE, dictPop] at h
    by_cases ha : a ∈ keys d
    · rw [if_pos ha] at h
      obtain ⟨he, k, hk, hd, hx⟩ := ih _ d' e h
      exact ⟨he, k + 1, Nat.succ_lt_succ hk, by rw [hd, filter_pop, List.take_succ_cons], hx⟩
    · rw [if_neg ha] at h
      cases h
      exact ⟨rfl, 0, Nat.succ_pos _, by simp, fun x hx => by cases hx; exact ha⟩

theorem removeE_fail {s s' : State} (h : Inv s) {ns : List Name} {e : Err} (hs : removeE s ns = .fail e s') :
    e = .key ∧ s'.layers = s.layers.map (·.drop ns) ∧ s'.cfg = s.cfg ∧ s'.srr = s.srr ∧
      (∃ k, k < ns.length ∧ s'.cal = s.cal.filter (fun x => decide (x.1 ∉ ns.take k)) ∧
        ∀ x, ns[k]? = some x → x ∉ keys s'.cal) ∧
      (Inv s' ↔ ∀ n ∈ ns, n ∈ s.elements → n ∉ keys s'.cal) := by
  unfold removeE at hs
  rcases hp : popAllE s.cal ns with ⟨d, _ | e'⟩
  · rw [hp] at hs; cases hs
  rw [hp] at hs
  cases hs
  obtain ⟨he, k, hk, rfl, hx⟩ := popAllE_error ns s.cal _ _ hp
  have hkeys := keys_filter_key (fun n => decide (n ∉ ns.take k)) s.cal
  refine ⟨he, rfl, rfl, rfl, ⟨k, hk, rfl, hx⟩, fun h' n hn _ hc => ?_, fun hall => ?_⟩
  · have := (h'.cal_iff n).1 hc
    rw [State.elements, elementsOf_map (Layer.keys_drop ns) rfl] at this
    simpa [hn] using (List.mem_filter.1 this).2
  · refine inv_map h (Layer.keys_drop ns) (h.nodup.filter _) ?_
    -- among the keys, the names not yet popped are those outside `ns`: a present name of `ns` is not a key any more
    rw [hkeys, List.filter_congr fun n hn => ?_]
    · exact h.perm.filter _
    · by_cases hns : n ∈ ns
      · have : n ∈ ns.take k := by
          by_contra hnt
          exact hall n hns ((h.cal_iff n).1 hn) (hkeys ▸ List.mem_filter.2 ⟨hn, by simpa using hnt⟩)
        simp [hns, this]
      · simp [hns, show n ∉ ns.take k from fun hnt => hns (List.mem_of_mem_take hnt)]

/-- all layers have the same names: a failing `rename` fails at the first layer, before anything is assigned -/
theorem renameE_fail {s s' : State} (h : Inv s) {m : NameMap} {e : Err} (hs : renameE s m = .fail e s') :
    e = .value ∧ s' = s := by
  have hnd : ¬ (s.elements.map (sub m)).Nodup := fun hnd => by
    have := renameE_toOption s m
    rw [hs, rename_eq h, if_pos hnd] at this
    cases this
  obtain ⟨srr, layers, cal, cfg⟩ := s
  obtain ⟨l, t, rfl⟩ := List.exists_cons_of_ne_nil h.ne
  have hl : l.rename m = none := by
    rw [Layer.rename_eq, if_neg]
    exact hnd
  rw [renameE, renameLayersE, hl] at hs
  cases hs
  exact ⟨rfl, rfl⟩

end Pew.LaserEdit
