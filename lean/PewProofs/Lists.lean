/-! Facts about `List` and `Option` that mention no model, in the form the proofs of several properties need them.
Core Lean only. -/
namespace Pew.Lists

theorem map_eq_self {α} (f : α → α) (l : List α) (h : ∀ a ∈ l, f a = a) : l.map f = l :=
  (List.map_congr_left h).trans (List.map_id l)

theorem map_getD_range {α} (l : List α) (d : α) : (List.range l.length).map (fun i => l.getD i d) = l :=
  List.ext_getElem (by simp) fun i _ h => by simp [h]

theorem getD_map_of_map_default {α β} (f : α → β) (l : List α) (i : Nat) (d : α) :
    (l.map f).getD i (f d) = f (l.getD i d) := by
  simp only [List.getD_eq_getElem?_getD, List.getElem?_map]
  cases l[i]? <;> rfl

section filterMap
variable {α β : Type _} {f : α → Option β} {l : List α}

theorem map_some_filterMap_of_isSome (h : ∀ x ∈ l, (f x).isSome) : (l.filterMap f).map some = l.map f := by
  induction l with
  | nil => rfl
  | cons x xs ih =>
    obtain ⟨y, hy⟩ := Option.isSome_iff_exists.mp (h x List.mem_cons_self)
    rw [List.filterMap_cons_some hy, List.map_cons, List.map_cons, hy, ih fun z hz => h z (List.mem_cons_of_mem _ hz)]

theorem length_filterMap_of_isSome (h : ∀ x ∈ l, (f x).isSome) : (l.filterMap f).length = l.length := by
  simpa using congrArg List.length (map_some_filterMap_of_isSome h)

theorem getElem?_filterMap_of_isSome (h : ∀ x ∈ l, (f x).isSome) (i : Nat) :
    (l.filterMap f)[i]? = l[i]?.bind f := by
  have := congrArg (·[i]?) (map_some_filterMap_of_isSome h)
  simp only [List.getElem?_map] at this
  cases hl : l[i]? <;> cases hr : (l.filterMap f)[i]? <;> simp_all

end filterMap

theorem le_foldl_max {α} [LE α] [Max α] [Std.IsLinearOrder α] [Std.LawfulOrderMax α] (l : List α) (a : α) :
    a ≤ l.foldl max a ∧ ∀ x ∈ l, x ≤ l.foldl max a :=
  -- `(a :: l).max? = some (l.foldl max a)`, and a maximum bounds every member
  List.forall_mem_cons.mp (List.max?_eq_some_iff.mp (List.max?_cons' (x := a) (xs := l))).2

theorem mem_of_lookup_eq_some {α β} [BEq α] [LawfulBEq α] {l : List (α × β)} {k : α} {v : β}
    (h : l.lookup k = some v) : (k, v) ∈ l := by
  obtain ⟨l₁, l₂, rfl, _⟩ := List.lookup_eq_some_iff.mp h
  simp

theorem lookup_filterMap_self {α β} [BEq α] [LawfulBEq α] (l : List α) (f : α → Option β) (a : α) :
    (l.filterMap fun x => (f x).map fun y => (x, y)).lookup a = if a ∈ l then f a else none := by
  induction l with
  | nil => rfl
  | cons x xs ih =>
    rw [List.filterMap_cons]
    by_cases h : a = x
    · subst h
      cases hf : f a <;> simp [hf, ih]
    · cases hf : f x <;> simp [ih, List.lookup_cons, h, beq_false_of_ne h]

theorem lookup_map_self {α β} [BEq α] [LawfulBEq α] (l : List α) (f : α → β) (a : α) :
    (l.map fun x => (x, f x)).lookup a = if a ∈ l then some (f a) else none := by
  rw [← lookup_filterMap_self l (fun x => some (f x)) a]
  exact congrArg (List.lookup a) (congrFun (List.filterMap_eq_map (f := fun x => (x, f x))).symm l)

theorem find?_unique {α} (p : α → Bool) {l : List α} {x : α} (hx : x ∈ l) (hp : p x = true)
    (hu : ∀ y ∈ l, p y = true → y = x) : l.find? p = some x := by
  induction l with
  | nil => cases hx
  | cons a t ih =>
    rw [List.find?_cons]
    cases ha : p a with
    | true => rw [hu a List.mem_cons_self ha]
    | false =>
      refine ih ((List.mem_cons.mp hx).resolve_left fun e => ?_) fun y hy => hu y (List.mem_cons_of_mem _ hy)
      rw [e, ha] at hp
      cases hp

theorem takeWhile_dropWhile_append {α} {p : α → Bool} {l r : List α} (hl : ∀ a ∈ l, p a = true)
    (hr : ∀ a, r.head? = some a → p a = false) : (l ++ r).takeWhile p = l ∧ (l ++ r).dropWhile p = r := by
  rw [List.takeWhile_append_of_pos hl, List.dropWhile_append_of_pos hl]
  cases r with
  | nil => simp
  | cons a t => simp [hr a rfl]

theorem getElem?_window {α} (l : List α) (s m n : Nat) :
    ((l.drop s).take m)[n]? = if n < m then l[s + n]? else none := by
  rw [List.getElem?_take]
  split
  · rw [List.getElem?_drop]
  · rfl

theorem length_window {α} (l : List α) (s m : Nat) (h : s + m ≤ l.length) : ((l.drop s).take m).length = m := by
  rw [List.length_take, List.length_drop]; omega

theorem mem_zip_range {β} (n : Nat) (l : List β) (k : Nat) (x : β) :
    (k, x) ∈ List.zip (List.range n) l ↔ k < n ∧ l[k]? = some x := by
  simp only [List.mem_iff_getElem?, List.getElem?_zip_eq_some]
  constructor
  · rintro ⟨i, h1, h2⟩
    obtain ⟨hi, e⟩ := List.getElem?_eq_some_iff.mp h1
    rw [List.getElem_range] at e
    rw [List.length_range] at hi
    exact e ▸ ⟨hi, h2⟩
  · exact fun ⟨hk, h⟩ => ⟨k, List.getElem?_range hk, h⟩

/-- a number of two digits in base `b` -/
theorem mul_add_lt {q n b r : Nat} (hq : q < n) (hr : r < b) : q * b + r < n * b :=
  calc q * b + r < (q + 1) * b := by rw [Nat.succ_mul]; omega
    _ ≤ n * b := Nat.mul_le_mul_right b hq

/-! ### `flatMap` into pieces of equal length -/

section pieces
variable {α β : Type _} (f : α → List β) (n : Nat) (ws : List α) (h : ∀ w ∈ ws, (f w).length = n)
include h

theorem drop_flatMap_const (i : Nat) : (ws.flatMap f).drop (n * i) = (ws.drop i).flatMap f := by
  induction ws generalizing i with
  | nil => simp
  | cons x xs ih =>
    cases i with
    | zero => simp
    | succ i =>
      rw [Nat.mul_succ, Nat.add_comm, ← List.drop_drop, List.flatMap_cons, List.drop_left' (h x (by simp)),
        List.drop_succ_cons]
      exact ih (fun w hw => h w (by simp [hw])) i

theorem length_flatMap_const : (ws.flatMap f).length = n * ws.length := by
  induction ws with
  | nil => simp
  | cons x xs ih =>
    simp only [List.flatMap_cons, List.length_append, List.length_cons, h x (by simp),
      ih (fun w hw => h w (by simp [hw])), Nat.mul_succ]
    omega

theorem getElem?_flatMap_const (i j : Nat) (hi : i < ws.length) (hj : j < n) :
    (ws.flatMap f)[n * i + j]? = (f ws[i])[j]? := by
  rw [← List.getElem?_drop, drop_flatMap_const f n ws h, List.drop_eq_getElem_cons hi, List.flatMap_cons,
    List.getElem?_append_left (by rw [h _ (List.getElem_mem hi)]; exact hj)]

end pieces

/-! ### splitting at a separator

`str.split(d)` and `d.join(fs)` on lists. Several models define them for their own strings (`Agilent.splitOn` /
`joinFields`, `Export.splitOn` / `join`, `Npz.splitOn`, `Sync.splitComma` / `joinComma`, `Thermo.splitC` / `joinC`);
those are proved equal to these (`…_eq`) and take the lemmas from here. -/

def splitOn {α} [DecidableEq α] (d : α) : List α → List (List α)
  | [] => [[]]
  | c :: cs =>
    if c = d then [] :: splitOn d cs
    else match splitOn d cs with
      | [] => [[c]]
      | h :: t => (c :: h) :: t

section splitOn
variable {α} [DecidableEq α] (d : α)

theorem splitOn_ne_nil (s : List α) : splitOn d s ≠ [] := by
  cases s with
  | nil => exact List.cons_ne_nil _ _
  | cons c cs =>
    rw [splitOn]
    split
    · exact List.cons_ne_nil _ _
    · split <;> exact List.cons_ne_nil _ _

theorem splitOn_of_not_mem {s : List α} (h : d ∉ s) : splitOn d s = [s] := by
  induction s with
  | nil => rfl
  | cons c cs ih => rw [splitOn, if_neg (List.ne_of_not_mem_cons h).symm, ih (List.not_mem_of_not_mem_cons h)]

theorem splitOn_append {x : List α} (rest : List α) (h : d ∉ x) : splitOn d (x ++ d :: rest) = x :: splitOn d rest := by
  induction x with
  | nil => rw [List.nil_append, splitOn, if_pos rfl]
  | cons c cs ih =>
    rw [List.cons_append, splitOn, if_neg (List.ne_of_not_mem_cons h).symm, ih (List.not_mem_of_not_mem_cons h)]

def join : List (List α) → List α
  | [] => []
  | [f] => f
  | f :: g :: fs => f ++ d :: join (g :: fs)

theorem splitOn_join {fs : List (List α)} (hne : fs ≠ []) (h : ∀ f ∈ fs, d ∉ f) : splitOn d (join d fs) = fs := by
  induction fs with
  | nil => exact absurd rfl hne
  | cons f r ih =>
    cases r with
    | nil => exact splitOn_of_not_mem d (h f List.mem_cons_self)
    | cons g r =>
      rw [join, splitOn_append d _ (h f List.mem_cons_self),
        ih (List.cons_ne_nil _ _) fun x hx => h x (List.mem_cons_of_mem _ hx)]

omit [DecidableEq α] in
theorem mem_join {fs : List (List α)} {c : α} (hc : c ∈ join d fs) : c = d ∨ ∃ f ∈ fs, c ∈ f := by
  induction fs with
  | nil => cases hc
  | cons f r ih =>
    cases r with
    | nil => exact Or.inr ⟨f, List.mem_cons_self, hc⟩
    | cons g r =>
      rcases List.mem_append.mp hc with h | h
      · exact Or.inr ⟨f, List.mem_cons_self, h⟩
      · rcases List.mem_cons.mp h with h | h
        · exact Or.inl h
        · exact (ih h).imp_right fun ⟨x, hx, hcx⟩ => ⟨x, List.mem_cons_of_mem _ hx, hcx⟩

end splitOn

/-! ### stripping

`l.strip(chars)` and `l.rstrip(chars)` on lists, the characters given by a test `p`. The models write them out each in
its own place (`Agilent.stripChars`, `Export.strip`, `Npz.stripNul`), and so does the proof-side `Convolve.trimZeros`; all
unfold to these. -/

section strip
variable {α : Type _} (p : α → Bool)

def rstrip (l : List α) : List α := (l.reverse.dropWhile p).reverse

def strip (l : List α) : List α := rstrip p (l.dropWhile p)

variable {p}

theorem dropWhile_of_head? {l : List α} (h : ∀ a, l.head? = some a → p a = false) : l.dropWhile p = l := by
  cases l with
  | nil => rfl
  | cons a t => exact List.dropWhile_cons_of_neg (by rw [h a rfl]; exact Bool.false_ne_true)

theorem rstrip_of_getLast? {l : List α} (h : ∀ a, l.getLast? = some a → p a = false) : rstrip p l = l := by
  rw [rstrip, dropWhile_of_head? (by rwa [List.head?_reverse]), List.reverse_reverse]

theorem rstrip_append {e : List α} (he : ∀ c ∈ e, p c = true) (x : List α) : rstrip p (x ++ e) = rstrip p x := by
  rw [rstrip, List.reverse_append, List.dropWhile_append_of_pos fun c hc => he c (List.mem_reverse.mp hc), rstrip]

theorem rstrip_spec (l : List α) : ∃ t, l = rstrip p l ++ t ∧ ∀ c ∈ t, p c = true :=
  ⟨(l.reverse.takeWhile p).reverse, by
    rw [rstrip, ← List.reverse_append, List.takeWhile_append_dropWhile, List.reverse_reverse],
    fun c hc => (List.all_eq_true.mp List.all_takeWhile) c (List.mem_reverse.mp hc)⟩

theorem rstrip_sublist (l : List α) : (rstrip p l).Sublist l := by
  have := (List.dropWhile_sublist p (l := l.reverse)).reverse
  rwa [List.reverse_reverse] at this

theorem strip_sublist (l : List α) : (strip p l).Sublist l :=
  (rstrip_sublist _).trans (List.dropWhile_sublist p)

theorem strip_append {x e : List α} (he : ∀ c ∈ e, p c = true)
    (hh : ∀ c, x.head? = some c → p c = false) (hl : ∀ c, x.getLast? = some c → p c = false) :
    strip p (x ++ e) = x := by
  cases x with
  | nil => rw [List.nil_append, strip, ← List.append_nil e, List.dropWhile_append_of_pos he]; rfl
  | cons c t => rw [strip, dropWhile_of_head? (l := c :: t ++ e) hh, rstrip_append he, rstrip_of_getLast? hl]

end strip

section lcm
variable {α} (g : α → Nat) (l : List α)

theorem foldl_lcm_const (s : Nat) (h : ∀ x ∈ l, g x = s) : l.foldl (fun a b => Nat.lcm a (g b)) s = s :=
  List.foldlRecOn (motive := (· = s)) l _ rfl fun b hb x hx => by rw [hb, h x hx, Nat.lcm_self]

theorem foldl_lcm_pos (a : Nat) (ha : 0 < a) (h : ∀ x ∈ l, 0 < g x) : 0 < l.foldl (fun a b => Nat.lcm a (g b)) a :=
  List.foldlRecOn l _ ha fun _ hb x hx => Nat.lcm_pos hb (h x hx)

theorem dvd_foldl_lcm (a : Nat) : a ∣ l.foldl (fun a b => Nat.lcm a (g b)) a :=
  List.foldlRecOn l _ (Nat.dvd_refl a) fun b hb x _ => Nat.dvd_trans hb (Nat.dvd_lcm_left b (g x))

theorem dvd_foldl_lcm_of_mem (a : Nat) {x : α} (h : x ∈ l) : g x ∣ l.foldl (fun a b => Nat.lcm a (g b)) a := by
  induction l generalizing a with
  | nil => cases h
  | cons y ys ih =>
    rcases List.mem_cons.mp h with rfl | h
    · exact Nat.dvd_trans (Nat.dvd_lcm_right a (g x)) (dvd_foldl_lcm g ys _)
    · exact ih _ h

end lcm

end Pew.Lists
