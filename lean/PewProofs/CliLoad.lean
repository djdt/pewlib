import PewModel.Cli

/-! `load` as the code branches (`loadMech`: directory before suffix, fallbacks, exceptions) against the
specification `loadSpec`: the one row of a table of mutually exclusive guards names the candidate calls and `choose`
picks among their outcomes. -/
namespace Pew.Cli

@[simp] theorem isOther_ok {α} (a : α) : (Outcome.ok a).isOther = false := rfl

@[simp] theorem isOther_ve {α} : (Outcome.valueError : Outcome α).isOther = false := rfl

@[simp] theorem isOther_other {α} : (Outcome.otherError : Outcome α).isOther = true := rfl

@[simp] theorem isVE_ok {α} (a : α) : (Outcome.ok a).isValueError = false := rfl

@[simp] theorem isVE_ve {α} : (Outcome.valueError : Outcome α).isValueError = true := rfl

@[simp] theorem isVE_other {α} : (Outcome.otherError : Outcome α).isValueError = false := rfl

@[simp] theorem okOf_ok {α β} (l : α) (a : β) : okOf (l, Outcome.ok a) = some (l, a) := rfl

@[simp] theorem okOf_ve {α β} (l : α) : okOf (l, (Outcome.valueError : Outcome β)) = none := rfl

@[simp] theorem okOf_other {α β} (l : α) : okOf (l, (Outcome.otherError : Outcome β)) = none := rfl

/-- **The configuration overlay** (`load`, lines 62-70).  The statements of the code — a fresh
`Config()`, then `SpotConfig(*spotsize)` for an (x, y) spot spacing or an assignment of `spotsize`,
then assignments of `speed` and `scantime` (which a `SpotConfig` does not store) — leave the stored
configuration the rule `configSpec` names: a spot configuration of exactly the two reported spacings,
or a raster configuration whose every field is the loader's parameter when it reported one and the
`Config()` default when it did not. -/
theorem configOf_spec (dSpot dSpeed dScan : Tok) (p : Params) :
    configOf dSpot dSpeed dScan p = configSpec dSpot dSpeed dScan p := by
  obtain ⟨sp, v, t⟩ := p
  cases sp with
  | none => cases v <;> cases t <;> rfl
  | some x => cases x <;> cases v <;> cases t <;> rfl

theorem configOf_eq (d : Tok × Tok × Tok) : configOf d.1 d.2.1 d.2.2 = configSpec d.1 d.2.1 d.2.2 :=
  funext (configOf_spec _ _ _)

theorem choose_single {α} (u : Unit) (ld : Loader) (o : Outcome α) :
    choose (.ok u) [(ld, o)] = match o with
      | .ok a => .ok (ld, a)
      | .valueError => .error .usage
      | .otherError => .error .crash := by
  cases o <;> simp [choose]

theorem okOf_some {α β} (o : α × Outcome β) (x : α × β) (h : okOf o = some x) : o = (x.1, .ok x.2) := by
  obtain ⟨l, oc⟩ := o
  cases oc <;> simp [okOf] at h
  subst h; rfl

theorem choose_ok_mem {α} (info : Outcome Unit) (os : List (Loader × Outcome α)) (ld : Loader) (a : α)
    (h : choose info os = .ok (ld, a)) : (ld, Outcome.ok a) ∈ os := by
  unfold choose at h
  cases info with
  | valueError =>
    simp only at h
    split at h
    · cases h
    · split at h
      · rename_i x hx
        cases h
        have hm := List.mem_of_getLast? hx
        obtain ⟨o, ho, hok⟩ := List.mem_filterMap.mp hm
        rw [okOf_some o _ hok] at ho
        exact ho
      · cases h
  | ok u =>
    simp only at h
    split at h
    · cases h
    · rename_i o ho
      have hm := List.mem_of_find?_eq_some ho
      obtain ⟨l, oc⟩ := o
      cases oc with
      | ok a' => simp only [Except.ok.injEq, Prod.mk.injEq] at h; obtain ⟨rfl, rfl⟩ := h; exact hm
      | valueError => cases h
      | otherError => cases h
  | otherError =>
    simp only at h
    split at h <;> cases h

theorem image_call (d : Tok × Tok × Tok) (s : Source) (ld : Loader) (h : ld ≠ .npz) :
    s.image d ld = match s.call ld with
      | .ok x => .ok (x.toLaser (configSpec d.1 d.2.1 d.2.2))
      | .valueError => .valueError
      | .otherError => .otherError := by
  cases ld <;> first | rfl | exact absurd rfl h

theorem callOnce_spec (d : Tok × Tok × Tok) (s : Source) (ld : Loader) (h : ld ≠ .npz) :
    (callOnce s ld).map (fun x => (x.1, x.2.toLaser (configOf d.1 d.2.1 d.2.2)))
      = choose (.ok ()) [(ld, s.image d ld)] := by
  rw [choose_single, image_call d s ld h, configOf_eq]
  unfold callOnce
  cases s.call ld <;> rfl

theorem filter_cons_append {α} (p : α → Bool) (a : α) (l : List α) :
    (a :: l).filter p = (if p a then [a] else []) ++ l.filter p := by
  rw [List.filter_cons]; split <;> rfl

/-- the row of the table that applies, in the order in which `load` branches -/
def rowOf (s : Source) : Option Row :=
  if s.isDir then
    if s.sfx == ".b" then some rowAgilent
    else if s.perkinValid then some rowPerkin
    else if s.csvValid then some rowCsvDir
    else none
  else
    if s.sfx == ".npz" then some rowNpz
    else if s.sfx == ".csv" then
      match s.sniff with
      | .ok fmt => some (if isThermo fmt then rowThermo else rowText)
      | _ => none
    else if s.sfx == ".txt" || s.sfx == ".text" then some rowText
    else none

theorem table_filter (s : Source) : table.filter (·.guard s) = (rowOf s).toList := by
  have e : table.filter (·.guard s) =
      (if isAgilentBatch s then [rowAgilent] else []) ++ (if isPerkinDir s then [rowPerkin] else []) ++
      (if isCsvDir s then [rowCsvDir] else []) ++ (if isNpzFile s then [rowNpz] else []) ++
      (if isThermoCsv s then [rowThermo] else []) ++ (if isTextImage s then [rowText] else []) := by
    simp only [table, filter_cons_append, List.filter_nil, List.append_nil, List.append_assoc]
    rfl
  rw [e]
  unfold rowOf isAgilentBatch isPerkinDir isCsvDir isNpzFile isThermoCsv isTextImage sniffIs
  -- a variable for the suffix: a case below substitutes a literal for it, and the guards of the other rows evaluate
  generalize s.sfx = x
  cases s.isDir
  · simp only [Bool.not_false, Bool.true_and, Bool.false_and, Bool.false_eq_true, if_false, List.nil_append]
    by_cases h2 : (x == ".npz") = true
    · obtain rfl : x = ".npz" := eq_of_beq h2
      rfl
    · simp only [h2, Bool.false_eq_true, if_false, List.nil_append]
      by_cases h3 : (x == ".csv") = true
      · obtain rfl : x = ".csv" := eq_of_beq h3
        cases s.sniff with
        | ok fmt => cases ht : isThermo fmt <;> simp only [ht] <;> rfl
        | _ => rfl
      · simp only [h3, Bool.false_and, Bool.false_or, Bool.false_eq_true, if_false, List.nil_append]
        split <;> rfl
  · simp only [Bool.not_true, Bool.true_and, Bool.false_and, Bool.false_eq_true, if_false, if_true, List.append_nil, bne]
    generalize (x == ".b") = b
    cases b <;> cases s.perkinValid <;> cases s.csvValid <;> rfl

theorem choose_agilent (d : Tok × Tok × Tok) (s : Source) :
    (match agilentLoop s agilentMethods none with
      | .error e => .error e
      | .ok none => .error .usage
      | .ok (some x) => .ok (x.1, x.2.toLaser (configOf d.1 d.2.1 d.2.2)))
      = choose s.info ((agilentMethods.map Loader.agilent).map fun ld => (ld, s.image d ld)) := by
  rw [configOf_eq]
  simp only [agilentMethods, agilentLoop, List.map_cons, List.map_nil, Source.image]
  cases s.info <;> cases s.call (.agilent ["batch_xml", "batch_csv"]) <;>
    cases s.call (.agilent ["acq_method_xml"]) <;> rfl

theorem loadSpec_eq (d : Tok × Tok × Tok) (s : Source) :
    loadSpec d s =
      match rowOf s with
      | some row => choose (s.infoFor row) (row.candidates.map fun ld => (ld, s.image d ld))
      | none => if !s.isDir && s.sfx == ".csv" && s.sniff.isOther then .error .crash else .error .usage := by
  unfold loadSpec
  rw [table_filter]
  cases rowOf s <;> rfl

/-- **The dispatch of `load` is the table.**  For every path and every behaviour of the library
calls, `load` as the code branches (directory before suffix, `.b` before the directory sniffers,
lower-cased suffixes, the Thermo sniffer on `.csv` files, the loop over the two lists of Agilent
collection methods with its `except ValueError: pass`, the early `return` of an .npz with its stored
configuration, the sequential configuration overlay) equals `loadSpec`: the row of `table` that
applies names the candidate calls, `choose` says which of them delivers (the first that does not end
in a `ValueError`; the last successful one when `load_info` itself raises `ValueError`; a traceback
when `load_info` fails otherwise after a successful call), the image has
the loader's elements and data and the configuration `configSpec` makes of its parameters; no row —
or no successful candidate — is a usage error (`parser.error`, exit status 2), any exception other
than `ValueError` ends the run with a traceback (`.crash`). -/
theorem load_eq_spec (d : Tok × Tok × Tok) (s : Source) : loadMech d s = loadSpec d s := by
  unfold loadMech
  rw [loadSpec_eq]
  unfold rowOf
  cases hd : s.isDir
  · simp only [Bool.false_eq_true, if_false, Bool.not_false, Bool.true_and]
    by_cases h2 : (s.sfx == ".npz") = true
    · simp only [h2, if_true]
      refine Eq.trans ?_ (choose_single () .npz s.npz).symm
      cases s.npz <;> rfl
    · simp only [h2, Bool.false_eq_true, if_false]
      by_cases h3 : (s.sfx == ".csv") = true
      · simp only [h3, if_true, Bool.true_and]
        cases s.sniff with
        | ok fmt =>
          change (if isThermo fmt = true then _ else _) = _
          by_cases ht : isThermo fmt = true
          · simp only [ht, if_true]
            exact callOnce_spec d s .thermo (by decide)
          · simp only [ht, Bool.false_eq_true, if_false]
            exact callOnce_spec d s .textimage (by decide)
        | valueError => rfl
        | otherError => rfl
      · simp only [h3, Bool.false_eq_true, if_false, Bool.false_and]
        by_cases h4 : (s.sfx == ".txt" || s.sfx == ".text") = true
        · simp only [h4, if_true]
          exact callOnce_spec d s .textimage (by decide)
        · simp only [h4, Bool.false_eq_true, if_false]
  · simp only [if_true, Bool.not_true, Bool.false_and, Bool.false_eq_true, if_false]
    by_cases h1 : (s.sfx == ".b") = true
    · simp only [h1, if_true]
      exact choose_agilent d s
    · simp only [h1, Bool.false_eq_true, if_false]
      cases hp : s.perkinValid
      · cases hc : s.csvValid
        · rfl
        · exact callOnce_spec d s .csvdir (by decide)
      · exact callOnce_spec d s .perkinelmer (by decide)

end Pew.Cli
