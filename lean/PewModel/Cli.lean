/-!
# C20 — the command line (`pewlib/__main__.py`)

Data are 2-D grids of opaque value tokens (`Tok`; the harness sends the bit pattern of every
float64), a structured array is a grid of pixels `String → Tok` (field name ↦ value) together
with the ordered list of its field names, files are records.  The model follows the code:

* `deriveOutputs`   — `create_parser_and_parse_args`, lines 220-241 (output path derivation)
* `parse`           — the remaining argument checks (existing inputs, `choices` of `--format`,
                      element names against the union of all inputs)
* `convertStep`     — `main`, lines 353-370 (`--config`, `--elements`, skip when nothing is left)
* `filterStep`      — `main`, lines 372-384 (`args.filter_elements or laser.elements`, sequential
                      field assignment; requested elements the input lacks are skipped)
* `stack`           — `stack`, lines 294-311 (pad to the common size on the *other* axis, concatenate)
* `save`            — `save`, lines 260-278 (dispatch on the lower-cased suffix)
* `run`             — `main` on the loaded images
* `overlay`/`configOf` — `load`, lines 62-70 (loader parameters assigned to a fresh `Config()`)
* `loadMech`        — `load`, lines 13-60 (format dispatch, Agilent method fallback, exceptions)
* `mainRun`         — `main` from the paths on: `check_exists`, `load` of every input, `--calibrate`, `run`

The filter and the library loaders are opaque function parameters.  The specification side (`specOutputs`,
`restrictSpec`, `filterSpec`, `stackSpec`, `specRun`) says where files go and what they hold,
without following the control flow of the code.  `RunEq` / `FilesEq` (end of the file) say when two
results are the same — images are functions, so sameness is pointwise — and
`PewTheorems.C20.run_refines_spec` proves `RunEq (run a) (specRun a)` for every command line.
-/
namespace Pew.Cli

abbrev Tok := Int

/-! ## grids -/

structure Grid (α : Type) where
  h : Nat
  w : Nat
  get : Nat → Nat → α

inductive Orient | vertical | horizontal
  deriving DecidableEq, Repr

/-- `np.pad(d, ((0, dh), (0, dw)), constant_values=pad)` -/
def Grid.pad {α} (d : Grid α) (dh dw : Nat) (pad : α) : Grid α :=
  { h := d.h + dh, w := d.w + dw, get := fun i j => if i < d.h ∧ j < d.w then d.get i j else pad }

/-- `np.concatenate([a, b], axis=0)`: the widths must agree -/
def vcat {α} (a b : Grid α) : Option (Grid α) :=
  if a.w = b.w then
    some { h := a.h + b.h, w := a.w, get := fun i j => if i < a.h then a.get i j else b.get (i - a.h) j }
  else none

/-- `np.concatenate([a, b], axis=1)`: the heights must agree -/
def hcat {α} (a b : Grid α) : Option (Grid α) :=
  if a.h = b.h then
    some { h := a.h, w := a.w + b.w, get := fun i j => if j < a.w then a.get i j else b.get i (j - a.w) }
  else none

/-- `np.concatenate(list, axis)`: an empty list is an error -/
def concat {α} (cat : Grid α → Grid α → Option (Grid α)) : List (Grid α) → Option (Grid α)
  | [] => none
  | [g] => some g
  | g :: g' :: gs => (concat cat (g' :: gs)).bind (cat g)

/-- `max(... for d in datas)` -/
def maxOf : List Nat → Nat
  | [] => 0
  | x :: xs => max x (maxOf xs)

/-- `__main__.stack` on the data arrays (current code) -/
def stack {α} (o : Orient) (pad : α) (ds : List (Grid α)) : Option (Grid α) :=
  match o with
  | .horizontal =>
    let maxY := maxOf (ds.map (·.h))
    concat hcat (ds.map fun d => d.pad (maxY - d.h) 0 pad)
  | .vertical =>
    let maxX := maxOf (ds.map (·.w))
    concat vcat (ds.map fun d => d.pad 0 (maxX - d.w) pad)

/-- the code before 802513a: the common size and the pad amount were taken from the stacking axis -/
def stackOld {α} (o : Orient) (pad : α) (ds : List (Grid α)) : Option (Grid α) :=
  match o with
  | .horizontal =>
    let maxY := maxOf (ds.map (·.w))
    concat hcat (ds.map fun d => d.pad (maxY - d.w) 0 pad)
  | .vertical =>
    let maxX := maxOf (ds.map (·.h))
    concat vcat (ds.map fun d => d.pad 0 (maxX - d.h) pad)

/-! ### specification of stacking -/

/-- sum of the first `k` sizes: where input `k` starts along the stacking axis -/
def prefixSum (l : List Nat) (k : Nat) : Nat := (l.take k).sum

/-- which input covers position `r` along the stacking axis, and the position inside it -/
def locate : List Nat → Nat → Option (Nat × Nat)
  | [], _ => none
  | s :: ss, r => if r < s then some (0, r) else (locate ss (r - s)).map fun p => (p.1 + 1, p.2)

/-- every input unchanged at its stacked position, the pad value everywhere else -/
def stackSpec {α} (o : Orient) (pad : α) (ds : List (Grid α)) : Grid α :=
  match o with
  | .vertical =>
    { h := (ds.map (·.h)).sum, w := maxOf (ds.map (·.w)),
      get := fun r c =>
        match locate (ds.map (·.h)) r with
        | some (k, i) =>
          match ds[k]? with
          | some d => if c < d.w then d.get i c else pad
          | none => pad
        | none => pad }
  | .horizontal =>
    { h := maxOf (ds.map (·.h)), w := (ds.map (·.w)).sum,
      get := fun r c =>
        match locate (ds.map (·.w)) c with
        | some (k, j) =>
          match ds[k]? with
          | some d => if r < d.h then d.get r j else pad
          | none => pad
        | none => pad }

/-! ## paths -/

/-- a path as `pathlib` splits it: parent, stem and suffix of the final component -/
structure Path where
  dir : String
  stem : String
  suffix : String
  deriving DecidableEq, Repr, Inhabited

namespace Path
def name (p : Path) : String := p.stem ++ p.suffix
def full (p : Path) : String := p.dir ++ "/" ++ p.name
def withSuffix (p : Path) (s : String) : Path := { p with suffix := s }
def withStem (p : Path) (s : String) : Path := { p with stem := s }
/-- `d.joinpath(q.name)` -/
def join (d q : Path) : Path := { dir := d.full, stem := q.stem, suffix := q.suffix }
end Path

inductive Fail | usage | crash
  deriving DecidableEq, Repr

/-- `str.lower()` on the ASCII names the harness generates -/
def lower (s : String) : String := String.ofList (s.toList.map Char.toLower)

/-- lines 224-245: first the two `parser.error` checks on the kind of output, then the three-way
derivation -/
def deriveOutputs (isStack : Bool) (inputs : List Path) (format : String) (output : Option Path)
    (isDir : Path → Bool) : Except Fail (List Path) :=
  let rejected : Bool :=
    if isStack then
      match output with
      | none => true
      | some o => isDir o
    else
      match output with
      | none => false
      | some o => !isDir o && decide (inputs.length > 1)
  if rejected then .error .usage
  else
    match output with
    | none => .ok (inputs.map (·.withSuffix format))
    | some o =>
      if isDir o then .ok (inputs.map fun i => o.join (i.withSuffix format))
      else if lower o.suffix != format then .error .usage
      else .ok [o]

/-- where the property says outputs go; `none` = the combination is rejected -/
def specOutputs (isStack : Bool) (inputs : List Path) (format : String) (output : Option Path)
    (isDir : Path → Bool) : Option (List Path) :=
  match output with
  | none => if isStack then none else some (inputs.map fun i => { i with suffix := format })
  | some o =>
    if isDir o then
      if isStack then none else some (inputs.map fun i => { dir := o.full, stem := i.stem, suffix := format })
    else if (isStack ∨ inputs.length ≤ 1) ∧ lower o.suffix = format then some [o]
    else none

/-! ## lasers -/

/-- the stored form of a configuration: a raster `Config` (spotsize, speed, scantime) or a
`SpotConfig` (x and y distance between spots; its array form holds nothing else) -/
inductive Cfg
  | raster (spotsize speed scantime : Tok)
  | spot (x y : Tok)
  deriving DecidableEq, Repr

abbrev Px := String → Tok

structure Laser where
  elements : List String
  data : Grid Px
  config : Cfg
  /-- `laser.calibration[e]`, one opaque token per element name (0 = the default `Calibration()`,
  which is what every loader but `io.npz.load` gives) -/
  calib : String → Tok := fun _ => 0

/-- `laser.data[e]` -/
def Laser.field (l : Laser) (e : String) : Grid Tok :=
  { h := l.data.h, w := l.data.w, get := fun i j => l.data.get i j e }

/-- `laser.data[e] = g` -/
def Laser.setField (l : Laser) (e : String) (g : Grid Tok) : Laser :=
  { l with data := { l.data with get := fun i j n => if n = e then g.get i j else l.data.get i j n } }

/-- `Laser.remove(names)`: `rfn.drop_fields` keeps the remaining fields in their order -/
def Laser.remove (l : Laser) (names : List String) : Laser :=
  { l with elements := l.elements.filter fun e => !names.contains e }

/-- the `spotsize` a loader reports: one number, or an (x, y) tuple (Nu Instruments directories) -/
inductive Spot
  | one (s : Tok)
  | two (x y : Tok)

/-- loader parameters (`full=True`) that `load` copies into the config (lines 62-72) -/
structure Params where
  spotsize : Option Spot
  speed : Option Tok
  scantime : Option Tok

/-- a configuration object in memory: `Config` (`spot = false`) or `SpotConfig`; the latter keeps the
attributes `speed` and `scantime` of its base class (0.0 after `__init__`) beside `spotsize_y` -/
structure MemCfg where
  spot : Bool
  spotsize : Tok
  speed : Tok
  scantime : Tok
  spotsizeY : Tok

/-- `to_array`: what an .npz keeps of a configuration (`SpotConfig.to_array` holds the two spacings only) -/
def MemCfg.stored (c : MemCfg) : Cfg :=
  if c.spot then .spot c.spotsize c.spotsizeY else .raster c.spotsize c.speed c.scantime

/-- lines 14 and 62-70, statement by statement: `config = Config()`; `if "spotsize" in params:` a
tuple gives `SpotConfig(*params["spotsize"])` (speed = scantime = 0.0; the token of 0.0 is 0), a
number is assigned to `config.spotsize`; then `config.speed` and `config.scantime` are assigned
when the loader reported them — also on a `SpotConfig`, where `to_array` does not keep them -/
def overlay (dSpot dSpeed dScan : Tok) (p : Params) : MemCfg :=
  let c : MemCfg := { spot := false, spotsize := dSpot, speed := dSpeed, scantime := dScan, spotsizeY := 0 }
  let c := match p.spotsize with
    | some (.two x y) => { spot := true, spotsize := x, speed := 0, scantime := 0, spotsizeY := y }
    | some (.one s) => { c with spotsize := s }
    | none => c
  let c := match p.speed with
    | some v => { c with speed := v }
    | none => c
  match p.scantime with
    | some v => { c with scantime := v }
    | none => c

/-- the stored configuration of the image `load` builds -/
def configOf (dSpot dSpeed dScan : Tok) (p : Params) : Cfg := (overlay dSpot dSpeed dScan p).stored

/-- the configuration rule of the property ("the image exactly as the library's loader returns it"):
an (x, y) spot spacing gives a `SpotConfig` of exactly these two numbers; otherwise a raster `Config`
whose every field is the loader's parameter when it reported one and the `Config()` default when not -/
def configSpec (dSpot dSpeed dScan : Tok) (p : Params) : Cfg :=
  match p.spotsize with
  | some (.two x y) => .spot x y
  | some (.one s) => .raster s (p.speed.getD dSpeed) (p.scantime.getD dScan)
  | none => .raster dSpot (p.speed.getD dSpeed) (p.scantime.getD dScan)

/-- lines 353-370; `none` = "skipping: no matching elements" -/
def convertStep (config : Option Cfg) (elements : Option (List String)) (l : Laser) : Option Laser :=
  let l := match config with
    | some c => { l with config := c }
    | none => l
  match elements with
  | none => some l
  | some req =>
    let remove := l.elements.filter fun e => !req.contains e
    let l := l.remove remove
    if l.elements.length = 0 then none else some l

/-- the image restricted to the requested elements, in the image's own order -/
def restrictSpec (config : Option Cfg) (elements : Option (List String)) (l : Laser) : Option Laser :=
  match elements with
  | none => some { l with config := config.getD l.config }
  | some req =>
    let els := l.elements.filter fun e => req.contains e
    if els = [] then none else some { l with elements := els, config := config.getD l.config }

/-- the body of the loop at lines 381-387: one field assignment; a requested element the input does
not have is skipped -/
def fstep (f : String → Grid Tok → Grid Tok) (l : Laser) (e : String) : Laser :=
  if l.elements.contains e then l.setField e (f e (l.field e)) else l

/-- lines 376-387: `elements = args.filter_elements or laser.elements`, then the loop -/
def filterStep (f : String → Grid Tok → Grid Tok) (sel : Option (List String)) (l : Laser) : Laser :=
  let elements := match sel with
    | none => l.elements
    | some s => if s.isEmpty then l.elements else s
  elements.foldl (fstep f) l

/-- is element `n` of image `l` selected by `--elements` (all elements when the option is absent) -/
def selected (sel : Option (List String)) (l : Laser) (n : String) : Bool :=
  l.elements.contains n && (match sel with
    | none => true
    | some s => s.isEmpty || s.contains n)

/-- selected elements hold the filter applied to the original field, everything else is unchanged:
`done` pairs every selected element of the image with the filter of its ORIGINAL field (each filter
call is made once, outside the pixel function) -/
def filterSpec (f : String → Grid Tok → Grid Tok) (sel : Option (List String)) (l : Laser) : Laser :=
  let done : List (String × Grid Tok) :=
    (l.elements.filter (selected sel l)).map fun n => (n, f n (l.field n))
  let get : Nat → Nat → Px := fun i j n =>
    match done.lookup n with
    | some g => g.get i j
    | none => l.data.get i j n
  { l with data := { l.data with get := get } }

/-- `__main__.stack`: the arrays must have the same fields (otherwise `np.concatenate` fails);
config of the first input -/
def stackLasers (o : Orient) (pad : Tok) (ls : List Laser) : Option Laser :=
  match ls with
  | [] => none
  | l0 :: _ =>
    if ls.all (fun l => l.elements == l0.elements) then
      (stack o (fun _ => pad) (ls.map (·.data))).map fun g =>
        { elements := l0.elements, data := g, config := l0.config, calib := l0.calib }
    else none

def stackLasersSpec (o : Orient) (pad : Tok) (ls : List Laser) : Option Laser :=
  match ls with
  | [] => none
  | l0 :: _ =>
    if ls.all (fun l => l.elements == l0.elements) then
      some { elements := l0.elements, data := stackSpec o (fun _ => pad) (ls.map (·.data)), config := l0.config,
             calib := l0.calib }
    else none

/-! ## files -/

inductive Content
  | npz (l : Laser)
  | csv (g : Grid Tok)
  /-- `io.vtk.save(path, laser.data, spacing)`: every element of the image; the spacing is computed
  from the configuration -/
  | vtk (l : Laser)

structure File where
  path : Path
  content : Content

/-- lines 260-278 -/
def save (l : Laser) (p : Path) : Except Fail (List File) :=
  if lower p.suffix == ".csv" then
    pure (l.elements.map fun n => ⟨p.withStem (p.stem ++ "_" ++ n), .csv (l.field n)⟩)
  else if lower p.suffix == ".npz" then
    pure [⟨p, .npz l⟩]
  else if lower p.suffix == ".vtk" then
    pure [⟨p, .vtk l⟩]
  else throw .crash

/-- the files the property expects for image `l` at output `p` in format `format` -/
def specFiles (format : String) (l : Laser) (p : Path) : List File :=
  if format = ".csv" then
    l.elements.map fun n => ⟨{ p with stem := p.stem ++ "_" ++ n }, .csv (l.field n)⟩
  else if format = ".npz" then [⟨p, .npz l⟩]
  else [⟨p, .vtk l⟩]

/-! ## the whole run -/

structure Input where
  path : Path
  present : Bool
  laser : Laser

inductive Cmd
  | convert (config : Option Cfg) (elements : Option (List String))
  /-- `f k` is the library filter (type, window and threshold fixed) as applied to input `k` -/
  | filter (f : Nat → String → Grid Tok → Grid Tok) (sel : Option (List String))
  | stack (o : Orient) (pad : Tok)

def Cmd.isStack : Cmd → Bool
  | .stack _ _ => true
  | _ => false

/-- the `--elements` of the command, if any -/
def Cmd.requested : Cmd → Option (List String)
  | .convert _ e => e
  | .filter _ s => s
  | .stack _ _ => none

structure Args where
  cmd : Cmd
  inputs : List Input
  format : String
  output : Option Path
  isDir : Path → Bool

inductive Status | ok | error
  deriving DecidableEq, Repr

structure Result where
  status : Status
  files : List File

def validFormats : List String := [".csv", ".npz", ".vtk"]

/-- `create_parser_and_parse_args` after the loaders ran -/
def parse (a : Args) : Except Fail (List Path) := do
  if a.inputs.isEmpty then throw .usage                        -- nargs="+"
  if a.inputs.any (fun i => !i.present) then throw .usage      -- type=check_exists
  if !validFormats.contains a.format then throw .usage         -- choices=valid_formats
  let outs ← deriveOutputs a.cmd.isStack (a.inputs.map (·.path)) a.format a.output a.isDir
  let valid := a.inputs.flatMap (·.laser.elements)
  match a.cmd.requested with
  | some els => if !els.all valid.contains then throw .usage
  | none => pure ()
  pure outs

/-- the loop of `main` over `zip(lasers, inputs, outputs)`; files written so far stay on a failure -/
def loop (cmd : Cmd) : List (Nat × Laser × Path) → List File → Result
  | [], acc => ⟨.ok, acc⟩
  | (k, l, out) :: rest, acc =>
    match cmd with
    | .convert cfg els =>
      match convertStep cfg els l with
      | none => loop cmd rest acc
      | some l' =>
        match save l' out with
        | .ok fs => loop cmd rest (acc ++ fs)
        | .error _ => ⟨.error, acc⟩
    | .filter f sel =>
      match save (filterStep (f k) sel l) out with
      | .ok fs => loop cmd rest (acc ++ fs)
      | .error _ => ⟨.error, acc⟩
    | .stack _ _ => ⟨.error, acc⟩

def enum {α} (l : List α) : List (Nat × α) := (List.range l.length).zip l

/-- `main` -/
def run (a : Args) : Result :=
  match parse a with
  | .error _ => ⟨.error, []⟩
  | .ok outs =>
    match a.cmd with
    | .stack o pad =>
      match stackLasers o pad (a.inputs.map (·.laser)), outs with
      | some l, out :: _ =>
        match save l out with
        | .ok fs => ⟨.ok, fs⟩
        | .error _ => ⟨.error, []⟩
      | _, _ => ⟨.error, []⟩
    | cmd => loop cmd (enum ((a.inputs.map (·.laser)).zip outs)) []

/-- what the property says a run leaves behind -/
def specRun (a : Args) : Result :=
  let paths := a.inputs.map (·.path)
  let known (els : Option (List String)) : Bool :=
    match els with
    | none => true
    | some els => els.all fun e => a.inputs.any fun i => i.laser.elements.contains e
  if a.inputs.isEmpty || a.inputs.any (fun i => !i.present) || !validFormats.contains a.format
      || !known a.cmd.requested then ⟨.error, []⟩
  else
    match specOutputs a.cmd.isStack paths a.format a.output a.isDir with
    | none => ⟨.error, []⟩
    | some outs =>
      match a.cmd with
      | .stack o pad =>
        match stackLasersSpec o pad (a.inputs.map (·.laser)), outs with
        | some l, out :: _ => ⟨.ok, specFiles a.format l out⟩
        | _, _ => ⟨.error, []⟩
      | .convert cfg els =>
        ⟨.ok, ((a.inputs.map (·.laser)).zip outs).flatMap fun (l, out) =>
          match restrictSpec cfg els l with
          | none => []
          | some l' => specFiles a.format l' out⟩
      | .filter f sel =>
        ⟨.ok, (enum ((a.inputs.map (·.laser)).zip outs)).flatMap fun (k, l, out) =>
          specFiles a.format (filterSpec (f k) sel l) out⟩

/-- file `f` is the output `out` itself or one of its per-element text images -/
def placedAt (f : File) (out : Path) : Prop :=
  f.path = out ∨ ∃ n, f.path = { out with stem := out.stem ++ "_" ++ n }

/-! ## sameness of results

Images are functions whose values outside the shape nobody can observe, so "the run leaves behind what
the specification says" is stated with the relations below and not as an equation between `Result`s:
the same files in the same order, each at the same path, of the same kind, with the same element names,
configuration and shape, and the same value at every pixel of the image (every field name).  In this
model the equation holds as well (`run_eq_specRun` in `PewProofs/Cli.lean`), because model and
specification fill the positions outside the shape alike. -/

/-- same shape, same value at every pixel inside the shape -/
def GridEq {α} (g g' : Grid α) : Prop :=
  g.h = g'.h ∧ g.w = g'.w ∧ ∀ i j, i < g.h → j < g.w → g.get i j = g'.get i j

/-- same element names in the same order, same configuration, same calibrations, same shape, and at
every pixel inside the shape the same value of every field -/
def LaserEq (l l' : Laser) : Prop :=
  l.elements = l'.elements ∧ l.config = l'.config ∧ l.calib = l'.calib ∧ GridEq l.data l'.data

def ContentEq : Content → Content → Prop
  | .npz l, .npz l' => LaserEq l l'
  | .csv g, .csv g' => GridEq g g'
  | .vtk l, .vtk l' => LaserEq l l'
  | _, _ => False

def FileEq (f f' : File) : Prop := f.path = f'.path ∧ ContentEq f.content f'.content

/-- the same files, in the same order -/
def FilesEq : List File → List File → Prop
  | [], [] => True
  | f :: fs, f' :: fs' => FileEq f f' ∧ FilesEq fs fs'
  | _, _ => False

/-- same exit status, same files -/
def RunEq (r r' : Result) : Prop := r.status = r'.status ∧ FilesEq r.files r'.files

/-- what the property expects of one turn of the loop of `main` for input number `k`: the image the
library calls give (`none` = skipped), ... -/
def specStep (cmd : Cmd) (k : Nat) (l : Laser) : Option Laser :=
  match cmd with
  | .convert cfg els => restrictSpec cfg els l
  | .filter f sel => some (filterSpec (f k) sel l)
  | .stack _ _ => none

/-- ... and its files at output `out`, in the format the suffix of `out` names -/
def specItem (cmd : Cmd) (x : Nat × Laser × Path) : List File :=
  match specStep cmd x.1 x.2.1 with
  | none => []
  | some l' => specFiles (lower x.2.2.suffix) l' x.2.2

/-- image `l` has been written to output `out` in format `format`: among the files `fs` there is
the .npz / .vtk file at exactly `out` holding an image that is the same as `l` (`LaserEq`: element
names in order, configuration, shape, every pixel of every element), or, for .csv, for every element
`n` of `l` the text image `<stem>_<n><suffix>` beside `out` holding the same grid as `l.field n` -/
def Written (fs : List File) (format : String) (l : Laser) (out : Path) : Prop :=
  (format = ".npz" → ∃ f ∈ fs, f.path = out ∧ ∃ m, f.content = .npz m ∧ LaserEq m l) ∧
  (format = ".vtk" → ∃ f ∈ fs, f.path = out ∧ ∃ m, f.content = .vtk m ∧ LaserEq m l) ∧
  (format = ".csv" → ∀ n ∈ l.elements, ∃ f ∈ fs,
      f.path = { out with stem := out.stem ++ "_" ++ n } ∧ ∃ g, f.content = .csv g ∧ GridEq g (l.field n))

/-! ## loading: `load` (lines 13-72) and the front end of `main`

The library loaders and predicates are opaque: a `Source` records what `load` can ask about a path
and what each library call it may make returns. -/

/-- how a library call ends: with a result, with a `ValueError` (or a subclass such as
`UnicodeDecodeError`), or with any other exception -/
inductive Outcome (α : Type)
  | ok (a : α)
  | valueError
  | otherError

/-- `(data, params)` of a loader called with `full=True` (`io.textimage.load` has no parameters) -/
structure Loaded where
  elements : List String
  data : Grid Px
  params : Params

/-- the library calls `load` chooses between -/
inductive Loader
  /-- `io.agilent.load(path, collection_methods=methods, full=True)` -/
  | agilent (methods : List String)
  /-- `io.perkinelmer.load(path, full=True)` -/
  | perkinelmer
  /-- `io.csv.load(path, full=True)` -/
  | csvdir
  /-- `io.npz.load(path)` -/
  | npz
  /-- `io.thermo.load(path, full=True)` -/
  | thermo
  /-- `io.textimage.load(path, name="_element_")` -/
  | textimage
  deriving DecidableEq, Repr

structure Source where
  path : Path
  /-- `check_exists` -/
  present : Bool
  /-- `path.is_dir()` -/
  isDir : Bool
  /-- `io.perkinelmer.is_valid_directory(path)` -/
  perkinValid : Bool
  /-- `io.csv.is_valid_directory(path)` -/
  csvValid : Bool
  /-- `io.thermo.icap_csv_sample_format(path)` -/
  sniff : Outcome String
  /-- how `io.agilent.load_info(path)` ends -/
  info : Outcome Unit
  /-- the loaders that return `(data, params)` -/
  call : Loader → Outcome Loaded
  /-- `io.npz.load(path)`: a complete image with its stored configuration -/
  npz : Outcome Laser

/-- `path.suffix.lower()` -/
def Source.sfx (s : Source) : String := lower s.path.suffix

/-- `Laser(data=data, config=config, info=info)` with the configuration `cfg` makes of the parameters -/
def Loaded.toLaser (cfg : Params → Cfg) (x : Loaded) : Laser :=
  { elements := x.elements, data := x.data, config := cfg x.params }

def agilentMethods : List (List String) := [["batch_xml", "batch_csv"], ["acq_method_xml"]]

/-- lines 27-36: `data = None; for methods in …: try: data, params = io.agilent.load(…);
info.update(io.agilent.load_info(path)); break; except ValueError: pass`.  The second argument is
what `data, params` hold so far: a `ValueError` of `load_info` is caught by the same `except`, AFTER
the assignment, so the loop goes on with the data in hand.  Any other exception — of the loader or
of `load_info` — leaves `load`. -/
def agilentLoop (s : Source) : List (List String) → Option (Loader × Loaded) →
    Except Fail (Option (Loader × Loaded))
  | [], data => .ok data
  | m :: ms, data =>
    match s.call (.agilent m) with
    | .ok x =>
      match s.info with
      | .ok _ => .ok (some (.agilent m, x))                     -- break
      | .valueError => agilentLoop s ms (some (.agilent m, x))   -- except ValueError: pass
      | .otherError => .error .crash
    | .valueError => agilentLoop s ms data
    | .otherError => .error .crash

/-- a single library call inside `load`: a `ValueError` reaches `parser.error` (exit status 2, usage
text), any other exception is a traceback (exit status 1) -/
def callOnce (s : Source) (ld : Loader) : Except Fail (Loader × Loaded) :=
  match s.call ld with
  | .ok x => .ok (ld, x)
  | .valueError => .error .usage
  | .otherError => .error .crash

/-- `load`, lines 13-72, as the code branches: directory or not, then the lower-cased suffix.  The
result names the library call whose data the image holds.  `.usage`: a `ValueError` (raised by
`load` itself for an unknown extension or a batch no method can read, or by a library call), which
`create_parser_and_parse_args` turns into `parser.error("argument input: …")`. -/
def loadMech (d : Tok × Tok × Tok) (s : Source) : Except Fail (Loader × Laser) :=
  let finish : Loader × Loaded → Loader × Laser := fun x => (x.1, x.2.toLaser (configOf d.1 d.2.1 d.2.2))
  if s.isDir then
    if s.sfx == ".b" then
      match agilentLoop s agilentMethods none with
      | .error e => .error e
      | .ok none => .error .usage                 -- raise ValueError("unable to import batch …")
      | .ok (some x) => .ok (finish x)
    else if s.perkinValid then (callOnce s .perkinelmer).map finish
    else if s.csvValid then (callOnce s .csvdir).map finish
    else .error .usage                            -- raise ValueError("unknown extention …")
  else
    if s.sfx == ".npz" then
      match s.npz with                            -- `return laser`: the stored configuration is kept
      | .ok l => .ok (.npz, l)
      | .valueError => .error .usage
      | .otherError => .error .crash
    else if s.sfx == ".csv" then
      match s.sniff with
      | .ok fmt =>
        if fmt == "columns" || fmt == "rows" then (callOnce s .thermo).map finish
        else (callOnce s .textimage).map finish
      | .valueError => .error .usage
      | .otherError => .error .crash
    else if s.sfx == ".txt" || s.sfx == ".text" then (callOnce s .textimage).map finish
    else .error .usage

/-! ### specification of loading: a table -/

/-- one row of the table of supported inputs: when it applies, and the library calls that may
deliver the image, in the order in which they are tried -/
structure Row where
  name : String
  guard : Source → Bool
  candidates : List Loader

def sniffIs (s : Source) (p : String → Bool) : Bool :=
  match s.sniff with
  | .ok fmt => p fmt
  | _ => false

def isThermo (fmt : String) : Bool := fmt == "columns" || fmt == "rows"

/-! when each row applies -/
def isAgilentBatch (s : Source) : Bool := s.isDir && s.sfx == ".b"
def isPerkinDir (s : Source) : Bool := s.isDir && s.sfx != ".b" && s.perkinValid
def isCsvDir (s : Source) : Bool := s.isDir && s.sfx != ".b" && !s.perkinValid && s.csvValid
def isNpzFile (s : Source) : Bool := !s.isDir && s.sfx == ".npz"
def isThermoCsv (s : Source) : Bool := !s.isDir && s.sfx == ".csv" && sniffIs s isThermo
def isTextImage (s : Source) : Bool :=
  !s.isDir && ((s.sfx == ".csv" && sniffIs s (fun f => !isThermo f)) || s.sfx == ".txt" || s.sfx == ".text")

def rowAgilent : Row :=
  { name := "Agilent batch: a directory named *.b (any case)",
    guard := isAgilentBatch, candidates := agilentMethods.map .agilent }
def rowPerkin : Row :=
  { name := "PerkinElmer directory: any other directory that holds *.xl files",
    guard := isPerkinDir, candidates := [.perkinelmer] }
def rowCsvDir : Row :=
  { name := "CSV directory: any other directory that holds *.csv files and no *.xl file",
    guard := isCsvDir, candidates := [.csvdir] }
def rowNpz : Row :=
  { name := "pew image: a file named *.npz (any case)",
    guard := isNpzFile, candidates := [.npz] }
def rowThermo : Row :=
  { name := "Thermo iCap CSV: a file named *.csv (any case) with 'MainRuns' in line 1 or 3",
    guard := isThermoCsv, candidates := [.thermo] }
def rowText : Row :=
  { name := "text image: any other readable *.csv file, or a file named *.txt / *.text (any case)",
    guard := isTextImage, candidates := [.textimage] }

/-- the supported inputs.  The guards exclude one another (`PewTheorems.C20.table_exclusive`), so
the order of the rows means nothing. -/
def table : List Row := [rowAgilent, rowPerkin, rowCsvDir, rowNpz, rowThermo, rowText]

/-- what the library call `ld` on this path gives, as the image `load` is to return: an .npz is
returned as stored; `(data, params)` become an image with the configuration rule `configSpec` -/
def Source.image (d : Tok × Tok × Tok) (s : Source) (ld : Loader) : Outcome Laser :=
  match ld with
  | .npz => s.npz
  | _ =>
    match s.call ld with
    | .ok x => .ok (x.toLaser (configSpec d.1 d.2.1 d.2.2))
    | .valueError => .valueError
    | .otherError => .otherError

def Outcome.isValueError {α} : Outcome α → Bool
  | .valueError => true
  | _ => false

def Outcome.isOther {α} : Outcome α → Bool
  | .otherError => true
  | _ => false

def okOf {α β} (x : α × Outcome β) : Option (α × β) :=
  match x.2 with
  | .ok b => some (x.1, b)
  | _ => none

/-- which of the attempted library calls delivers the image; `info` is how `load_info` ends for this
path (consulted after a successful Agilent call only: `Source.infoFor`).  Ordinarily the first call that does not end in a
`ValueError` decides: its result is the image, or its (other) exception ends the run.  When
`load_info` fails with a `ValueError`, every call is made — unless one ends in another exception —
and the last successful one delivers.  When `load_info` fails otherwise, the first successful call
is followed by that failure.  No successful call: usage error. -/
def choose {α} (info : Outcome Unit) (os : List (Loader × Outcome α)) : Except Fail (Loader × α) :=
  match info with
  | .valueError =>
    if os.any (·.2.isOther) then .error .crash
    else match (os.filterMap okOf).getLast? with
      | some x => .ok x
      | none => .error .usage
  | .ok _ =>
    match os.find? (fun o => !o.2.isValueError) with
    | none => .error .usage
    | some o =>
      match o.2 with
      | .ok a => .ok (o.1, a)
      | _ => .error .crash
  | .otherError =>
    match os.find? (fun o => !o.2.isValueError) with
    | none => .error .usage
    | some _ => .error .crash

/-- `load_info` is called for Agilent batches only -/
def Source.infoFor (s : Source) (row : Row) : Outcome Unit :=
  if row.candidates.all (fun ld => match ld with | .agilent _ => true | _ => false) then s.info else .ok ()

/-- the specification of `load`: a `.csv` file that cannot be sniffed is rejected; otherwise the
(at most one) row of the table that applies names the candidates and `choose` picks among their
outcomes; no row: the input is not supported (usage error, nothing is loaded) -/
def loadSpec (d : Tok × Tok × Tok) (s : Source) : Except Fail (Loader × Laser) :=
  match table.filter (·.guard s) with
  | [row] => choose (s.infoFor row) (row.candidates.map fun ld => (ld, s.image d ld))
  | _ =>
    if !s.isDir && s.sfx == ".csv" && s.sniff.isOther then .error .crash else .error .usage

/-! ### the front end of `main` -/

structure CmdLine where
  cmd : Cmd
  /-- `--calibrate` was given -/
  calibrate : Bool
  sources : List Source
  format : String
  output : Option Path
  isDir : Path → Bool
  /-- the fields of `Config()` -/
  defaults : Tok × Tok × Tok

/-- the arguments after `args.lasers = [load(input) for input in args.input]` -/
def CmdLine.args (c : CmdLine) (ls : List (Loader × Laser)) : Args :=
  { cmd := c.cmd, format := c.format, output := c.output, isDir := c.isDir,
    inputs := (c.sources.zip ls).map fun x => { path := x.1.path, present := x.1.present, laser := x.2.2 } }

/-- `main` from the command line on, with `load` and the rest as parameters: `check_exists` rejects a
missing input while the arguments are parsed; then every input is loaded, in order, and the first
failure ends the run (nothing has been written yet); `--calibrate` is an unknown option for
`convert` / `filter` and `raise NotImplementedError` in `stack`; then the run proper -/
def mainWith (load : Source → Except Fail (Loader × Laser)) (runner : Args → Result) (c : CmdLine) : Result :=
  if c.sources.any (fun s => !s.present) then ⟨.error, []⟩
  else
    match c.sources.mapM load with
    | .error _ => ⟨.error, []⟩
    | .ok ls => if c.calibrate then ⟨.error, []⟩ else runner (c.args ls)

/-- `main` -/
def mainRun (c : CmdLine) : Result := mainWith (loadMech c.defaults) run c

/-- what the property says of a command line -/
def specMain (c : CmdLine) : Result := mainWith (loadSpec c.defaults) specRun c

/-! ## storage types (`dtype`) of the fields

Every loader but `io.npz.load` returns float64 fields; an .npz keeps whatever its fields were stored
as (float32, integers, big-endian, …).  Values stay tokens of their float64 widening; what NumPy does
when a value is put into a field of another storage type is an opaque function (`Casting.cast`), as
is the type `np.concatenate` promotes to (`Casting.promote`, `np.result_type`). -/

/-- a storage type, by its NumPy name -/
abbrev DType := String

structure Casting where
  /-- the value a field of storage type `t` holds after `v` was assigned to it -/
  cast : DType → Tok → Tok
  /-- `np.result_type(*types)`: the type `np.concatenate` gives the joined field -/
  promote : List DType → DType

def Grid.map {α β} (f : α → β) (g : Grid α) : Grid β :=
  { h := g.h, w := g.w, get := fun i j => f (g.get i j) }

/-- a pixel (every field) put into fields of the storage types `ty` -/
def castPx (C : Casting) (ty : String → DType) (p : Px) : Px := fun n => C.cast (ty n) (p n)

/-- `__main__.stack` with the storage types: `np.pad(d, …, constant_values=pad)` holds the pad value
in the types of `d` itself; `np.concatenate` converts every padded input to the promoted types. -/
def stackT (C : Casting) (o : Orient) (pad : Tok) (ds : List (Grid Px × (String → DType))) :
    Option (Grid Px) :=
  let out : String → DType := fun n => C.promote (ds.map (·.2 n))
  match o with
  | .horizontal =>
    let maxY := maxOf (ds.map (·.1.h))
    concat hcat (ds.map fun d =>
      (d.1.pad (maxY - d.1.h) 0 (castPx C d.2 fun _ => pad)).map (castPx C out))
  | .vertical =>
    let maxX := maxOf (ds.map (·.1.w))
    concat vcat (ds.map fun d =>
      (d.1.pad 0 (maxX - d.1.w) (castPx C d.2 fun _ => pad)).map (castPx C out))

/-- the change C20-c2 (a preallocated output of the FIRST input's types, filled by slice assignment):
every value — of every input, and the pad value — is converted to the first input's types -/
def stackFirstT (C : Casting) (o : Orient) (pad : Tok) (ds : List (Grid Px × (String → DType))) :
    Option (Grid Px) :=
  match ds with
  | [] => none
  | d0 :: _ => (stack o (fun _ => pad) (ds.map (·.1))).map (Grid.map (castPx C d0.2))

/-- the type `np.concatenate` gives field `n` of the stack of inputs `0 … len-1` whose field types are `ty k` -/
def promotedType (C : Casting) (ty : Nat → String → DType) (len : Nat) (n : String) : DType :=
  C.promote ((List.range len).map fun k => ty k n)

def stackLasersT (C : Casting) (o : Orient) (pad : Tok) (ls : List (Laser × (String → DType))) : Option Laser :=
  match ls with
  | [] => none
  | l0 :: _ =>
    if ls.all (fun l => l.1.elements == l0.1.elements) then
      (stackT C o pad (ls.map fun l => (l.1.data, l.2))).map fun g =>
        { elements := l0.1.elements, data := g, config := l0.1.config, calib := l0.1.calib }
    else none

/-- `laser.data[element] = func(laser.data[element], …)`: the result of the filter is stored in the
field, i.e. converted to the field's storage type -/
def storedFilter (C : Casting) (ty : Nat → String → DType) (f : Nat → String → Grid Tok → Grid Tok) :
    Nat → String → Grid Tok → Grid Tok :=
  fun k e g => (f k e g).map (C.cast (ty k e))

/-- `main` with the storage types of the loaded images (`ty k` = field types of input `k`): `filter`
stores each result in its field, `stack` pads and promotes; `convert` moves no value -/
def runT (C : Casting) (ty : Nat → String → DType) (a : Args) : Result :=
  match a.cmd with
  | .convert _ _ => run a
  | .filter f sel => run { a with cmd := .filter (storedFilter C ty f) sel }
  | .stack o pad =>
    match parse a with
    | .error _ => ⟨.error, []⟩
    | .ok outs =>
      match stackLasersT C o pad ((enum (a.inputs.map (·.laser))).map fun x => (x.2, ty x.1)), outs with
      | some l, out :: _ =>
        match save l out with
        | .ok fs => ⟨.ok, fs⟩
        | .error _ => ⟨.error, []⟩
      | _, _ => ⟨.error, []⟩

/-- the conditions of `PewTheorems.C20.runT_refines_spec` on the storage types, for the arguments `a` -/
def TypesHold (C : Casting) (ty : Nat → String → DType) (a : Args) : Prop :=
  (∀ f sel, a.cmd = .filter f sel → ∀ k (hk : k < a.inputs.length),
    ∀ n ∈ a.inputs[k].laser.elements, ∀ i j,
      C.cast (ty k n) ((f k n (a.inputs[k].laser.field n)).get i j) = (f k n (a.inputs[k].laser.field n)).get i j) ∧
  (∀ o pad, a.cmd = .stack o pad →
    (∀ k, k < a.inputs.length → ∀ n, C.cast (ty k n) pad = pad) ∧
    (∀ n, C.cast (promotedType C ty a.inputs.length n) pad = pad) ∧
    (∀ k (hk : k < a.inputs.length) i j, i < a.inputs[k].laser.data.h → j < a.inputs[k].laser.data.w → ∀ n,
      C.cast (promotedType C ty a.inputs.length n) (a.inputs[k].laser.data.get i j n)
        = a.inputs[k].laser.data.get i j n))

/-- `main` from the paths on, with storage types -/
def mainRunT (C : Casting) (ty : Nat → String → DType) (c : CmdLine) : Result :=
  mainWith (loadMech c.defaults) (runT C ty) c

/-! ## objects: `args.lasers` holds references

`main` works on the OBJECTS `load` returned: `laser.config = …`, `laser.remove(…)` and
`laser.data[element] = …` change the object in place.  `heap` is the list of objects, a work item
names its object by index.  `create_parser_and_parse_args` builds `args.lasers = [load(input) for
input in args.input]`: one fresh object per command-line argument (`freshRefs`), also when a path is
named twice. -/

/-- one turn of the loop on the object itself: the object after the statements, and what is saved
(`none` = "skipping") -/
def stepObj (cmd : Cmd) (k : Nat) (l : Laser) : Laser × Option Laser :=
  match cmd with
  | .convert cfg els =>
    let l1 := match cfg with
      | some c => { l with config := c }
      | none => l
    match els with
    | none => (l1, some l1)
    | some req =>
      let l2 := l1.remove (l1.elements.filter fun e => !req.contains e)
      (l2, if l2.elements.length = 0 then none else some l2)
  | .filter f sel => let l' := filterStep (f k) sel l; (l', some l')
  | .stack _ _ => (l, none)

/-- the loop of `main` over `(input number, object reference, output)` -/
def loopRef (cmd : Cmd) : List (Nat × Nat × Path) → List Laser → List File → Result
  | [], _, acc => ⟨.ok, acc⟩
  | (k, r, out) :: rest, heap, acc =>
    match cmd, heap[r]? with
    | .stack _ _, _ => ⟨.error, acc⟩
    | _, none => ⟨.error, acc⟩
    | cmd, some l =>
      let (obj, saved) := stepObj cmd k l
      let heap' := heap.set r obj
      match saved with
      | none => loopRef cmd rest heap' acc
      | some l' =>
        match save l' out with
        | .ok fs => loopRef cmd rest heap' (acc ++ fs)
        | .error _ => ⟨.error, acc⟩

/-- `[load(input) for input in args.input]`: argument `k` is object `k` -/
def freshRefs (n : Nat) : List Nat := List.range n

/-- the change C20-c1 (`lasers: dict[Path, Laser]`, a path is loaded the first time it is seen):
argument `k` is the object of the first argument with the same path -/
def sharedRefs (paths : List Path) : List Nat := paths.map fun p => paths.idxOf p

/-- `main` on objects: argument `k` works on object `refs[k]` of the heap `load` filled; `stack`
changes no object (`np.pad` / `np.concatenate` build new arrays) -/
def runRef (refs : List Nat) (a : Args) : Result :=
  match parse a with
  | .error _ => ⟨.error, []⟩
  | .ok outs =>
    match a.cmd with
    | .stack _ _ => run a
    | cmd => loopRef cmd (enum (refs.zip outs)) (a.inputs.map (·.laser)) []

/-! ## what is on disk afterwards -/

/-- the files left after writing `fs` in order: a later file replaces an earlier one at the same path -/
def finalFiles : List File → List File
  | [] => []
  | f :: fs => if fs.any (fun g => g.path == f.path) then finalFiles fs else f :: finalFiles fs

/-- the content at path `p` after writing `fs` in order -/
def lastAt (fs : List File) (p : Path) : Option Content :=
  (fs.reverse.find? fun f => f.path == p).map (·.content)

end Pew.Cli
