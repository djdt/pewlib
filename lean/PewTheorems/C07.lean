import PewProofs.LaserEditMulti

/-! # C07 — property theorems (statements only depend on `PewModel.LaserEdit`)

`State` is the mechanism (per-layer ordered field lists + insertion-ordered calibration dict),
`Spec` the plain dictionary `name ↦ (data per layer, calibration)`, `abs : State → Spec` the
abstraction, `entry s n` what the dictionary view of `s` holds under `n`.
`Inv s`: at least one layer, all layers have the same field names, names distinct, calibration
keys distinct and (as a set) equal to the field names.  Everything is proved for every state that
satisfies `Inv` and every operation / operation list — no bound on sizes or lengths.

Below the content level sits the object level (`World`: a heap of array cells, `Calibration`, `Config`,
dict objects with identities; `hstep`; `view : World → State`).  The clauses of the property about
reads ("never modify what is stored") and about the constructor ("copied, so later edits by the caller
do not leak in") are theorems about that level (`get_allocates_only`, `construct_objects`,
`foreign_edit_invisible`, `history_view`); what is *not* detached from the caller is stated as well
(`stored_write_visible`, `write_through_view`, `add_stores_reference`).

Several lasers may live in one memory and may have been built from the same arguments — the same Python list
of layers, the same array, the same calibration dict, the same config object (`MWorld`, `mstep`; an `SRRLaser`
keeps its layers in a list object of its own, `self.data = list(data)`).  `multi_call`, `multi_construct`,
`multi_load`, `shared_arguments_invisible` and `multi_history_view` say that every laser goes on agreeing with
its own dictionary whatever is done to the others, and that the caller's list is left alone. -/
namespace Pew.LaserEdit

/-- One operation of the mechanism is the same operation on the dictionary — including *whether*
it succeeds: `add` exactly for a fresh name (and one array per layer), `remove` exactly for distinct
present names, `rename` exactly when no two present names end up with the same name, reads exactly
for a present element (or all) of an existing layer. -/
theorem step_refines (s : State) (h : Inv s) (op : Op) : (step s op).map abs = (abs s).step op :=
  step_refines' h op

/-- A successful operation keeps the invariant (so elements = calibration keys, all distinct, all
layers alike) and never changes the image shape, the kind or the configuration. -/
theorem inv_preserved (s s' : State) (h : Inv s) (op : Op) (hs : step s op = some s') :
    Inv s' ∧ s'.shape = s.shape ∧ s'.cfg = s.cfg ∧ s'.srr = s.srr :=
  have hf := step_frame h hs
  ⟨step_inv h hs, hf.2.2.2, hf.2.2.1, hf.2.1⟩

/-- Any history: running the mechanism and then looking at it as a dictionary is running the
dictionary operations on the dictionary view of the start. -/
theorem history_refines (s : State) (h : Inv s) (ops : List Op) :
    (run s ops).map abs = (abs s).run ops :=
  run_refines' ops h

/-- After any successful history the laser is well-formed again and its shape and configuration are
those it started with. -/
theorem history_inv (s s' : State) (h : Inv s) (ops : List Op) (hs : run s ops = some s') :
    Inv s' ∧ s'.shape = s.shape ∧ s'.cfg = s.cfg :=
  run_frame ops h hs

/-! ## corollaries in the words of the property -/

/-- the element tuple and the calibration keys are the same set (and both duplicate-free, and every
layer has exactly these fields), after any successful history -/
theorem elements_eq_calibration_keys (s s' : State) (h : Inv s) (ops : List Op)
    (hs : run s ops = some s') :
    (∀ n, n ∈ s'.elements ↔ n ∈ keys s'.cal) ∧ s'.elements.Nodup ∧ (keys s'.cal).Nodup ∧
      ∀ l ∈ s'.layers, keys l.fields = s'.elements := by
  have h' := (history_inv s s' h ops hs).1
  exact ⟨fun n => (h'.cal_iff n).symm, h'.nodup, h'.cal_nodup, h'.2.1⟩

/-- `rename` succeeds exactly for maps that are injective on the present names after filling in
the identity for unmentioned names (so the image may not collide with an untouched name, but may
reuse names that the same map frees) -/
theorem rename_succeeds_iff (s : State) (h : Inv s) (m : NameMap) :
    (rename s m).isSome ↔ ∀ a ∈ s.elements, ∀ b ∈ s.elements, sub m a = sub m b → a = b := by
  rw [rename_eq h, Option.isSome_ite, List.nodup_map_iff_inj_on h.nodup]

/-- data and calibration travel together under rename: whatever was stored under a present name
`n` (data in every layer, and calibration) is afterwards stored under `names.get(n, n)` — swaps,
cycles, chains onto freed names included -/
theorem rename_travels (s s' : State) (h : Inv s) (m : NameMap) (hs : rename s m = some s')
    (n : Name) (hn : n ∈ s.elements) : entry s' (sub m n) = entry s n := by
  obtain ⟨hnd, rfl⟩ := (rename_some_iff h).1 hs
  exact entry_rename h hnd hn

/-- after a rename exactly the images of the old names are present -/
theorem rename_elements (s s' : State) (h : Inv s) (m : NameMap) (hs : rename s m = some s') :
    s'.elements = s.elements.map (sub m) := by
  obtain ⟨_, rfl⟩ := (rename_some_iff h).1 hs
  exact elementsOf_map (Layer.keys_renamed m) rfl s.layers

/-- an element the map does not mention keeps its name, data and calibration -/
theorem rename_untouched (s s' : State) (h : Inv s) (m : NameMap) (hs : rename s m = some s')
    (n : Name) (hn : n ∈ s.elements) (hm : get? m n = none) : entry s' n = entry s n := by
  have := rename_travels s s' h m hs n hn
  simpa [sub, hm] using this

/-- swapping two present elements always succeeds and exchanges data *and* calibration; every
other name is as before -/
theorem rename_swap (s : State) (h : Inv s) (a b : Name) (ha : a ∈ s.elements) (hb : b ∈ s.elements)
    (hab : a ≠ b) :
    ∃ s', rename s [(a, b), (b, a)] = some s' ∧ entry s' a = entry s b ∧ entry s' b = entry s a ∧
      ∀ k, k ≠ a → k ≠ b → entry s' k = entry s k := by
  have hsub := sub_pair a b b a
  obtain ⟨s', hs', htr⟩ := rename_of_injective h [(a, b), (b, a)] (sub_swap_inj a b)
  refine ⟨s', hs', ?_, ?_, fun k hka hkb => ?_⟩
  · rw [← htr b, hsub, if_neg hab, if_pos rfl]
  · rw [← htr a, hsub, if_pos rfl]
  · rw [← htr k, hsub, if_neg (Ne.symm hka), if_neg (Ne.symm hkb)]

/-- a chain onto a freed name: `{a: b, b: c}` with `c` not present succeeds; `b` gets what `a` had,
`c` gets what `b` had, `a` is gone -/
theorem rename_chain (s : State) (h : Inv s) (a b c : Name) (ha : a ∈ s.elements) (hb : b ∈ s.elements)
    (hab : a ≠ b) (hc : c ∉ s.elements) :
    ∃ s', rename s [(a, b), (b, c)] = some s' ∧ entry s' b = entry s a ∧ entry s' c = entry s b ∧
      entry s' a = none := by
  have hsub := sub_pair a b b c
  have hne : ∀ x ∈ s.elements, x ≠ c := fun x hx hh => hc (hh ▸ hx)
  obtain ⟨s', hs', htr, hno⟩ := rename_of_inj h [(a, b), (b, c)] fun x hx y hy =>
    sub_chain_inj a b c (hne x hx) (hne y hy)
  refine ⟨s', hs', ?_, ?_, hno a fun x _ => sub_chain_ne a b c x hab (Ne.symm (hne a ha))⟩
  · rw [← htr a ha, hsub, if_pos rfl]
  · rw [← htr b hb, hsub, if_neg hab, if_pos rfl]

/-- `add` succeeds only with one array per layer, each of exactly its layer's shape (the code's
`assert data.shape == self.data.shape`), stores exactly the given data and calibration under the new
name, and leaves every layer's shape and everything else as it was -/
theorem add_entry (s s' : State) (h : Inv s) (n : Name) (ds : List ArrIn) (c : Nat)
    (hs : add s n ds c = some s') :
    ds.map (·.1) = s.layers.map (·.shape) ∧ s'.layers.map (·.shape) = s.layers.map (·.shape) ∧
    entry s' n = some (ds.map (·.2), c) ∧ ∀ k, k ≠ n → entry s' k = entry s k := by
  have hf := (step_frame h (op := .add n ds c) hs).1
  obtain ⟨⟨hn, hsh⟩, rfl⟩ := (add_some_iff h).1 hs
  exact ⟨hsh, hf, (entry_add h hn hsh c n).trans (if_pos rfl), fun k hk => (entry_add h hn hsh c k).trans (if_neg hk)⟩

/-- removed elements are gone from the data of every layer and from the calibrations; untouched
elements keep their data and calibration -/
theorem remove_entry (s s' : State) (h : Inv s) (ns : List Name) (hs : remove s ns = some s') :
    (∀ n ∈ ns, entry s' n = none ∧ n ∉ keys s'.cal ∧ ∀ l ∈ s'.layers, n ∉ keys l.fields) ∧
      ∀ k, k ∉ ns → entry s' k = entry s k := by
  have h' : Inv s' := step_inv h (op := .remove ns) hs
  obtain ⟨_, rfl⟩ := (remove_some_iff h).1 hs
  refine ⟨fun n hn => ?_, fun k hk => (entry_remove s ns k).trans (if_pos hk)⟩
  have hgone := (entry_remove s ns n).trans (if_neg (not_not.2 hn))
  have hne := (entry_eq_none_iff _ n).1 hgone
  exact ⟨hgone, mt (h'.cal_iff n).1 hne, (h'.all_layers_iff (n ∉ ·)).2 hne⟩

/-- what an entry of the dictionary view is, in terms of the stored state: present names map to
the data found under that name in every layer and the calibration found under that name -/
theorem entry_stored (s : State) (h : Inv s) (n : Name) (hn : n ∈ s.elements) :
    ∃ c, get? s.cal n = some c ∧
      entry s n = some (s.layers.map (fun l => (get? l.fields n).getD 0), c) ∧
      ∀ l ∈ s.layers, (get? l.fields n).isSome := by
  obtain ⟨c, hc⟩ := get?_of_mem_keys ((h.cal_iff n).2 hn)
  refine ⟨c, hc, ?_, ?_⟩
  · rw [entry_eq, if_pos hn]; simp [dataIn, calIn, hc]
  · intro l hl
    rw [get?_isSome_iff, h.layer_keys hl]; exact hn

/-- a read returns what the dictionary holds: the element's (or every element's) data of that
layer and, when calibrated, the element's own calibration -/
theorem read_refines (s : State) (h : Inv s) (layer : Nat) (t : Option Name) (c : Bool) :
    read s layer t c = (abs s).read layer t c :=
  read_refines' h layer t c

/-- every item a successful read returns is the stored data of that element in that layer, and a
calibrated read names that element's own calibration -/
theorem read_items (s : State) (h : Inv s) (layer : Nat) (t : Option Name) (c : Bool) (out : ReadOut)
    (hr : read s layer t c = some out) :
    ∀ item ∈ out, ∃ ds cal, entry s item.1 = some (ds, cal) ∧ ds[layer]? = some item.2.1 ∧
      item.2.2 = (if c then some cal else none) :=
  fun item hi =>
  have ⟨e, h1, h2⟩ := Spec.read_items (by rw [abs_map_keys]; exact h.nodup) (read_refines s h .. ▸ hr) item hi
  ⟨e.1, e.2, h1, h2⟩

/-- a freshly constructed laser is well-formed and stands for the dictionary of its arguments:
every element with its data and the calibration given for it (the default otherwise) -/
theorem construct_refines (srr : Bool) (ls : List Layer) (given : Option Dict) (cfg : Nat)
    (hl : LayersOK ls) (hg : GivenOK ls given) :
    Inv (mkState srr ls given cfg) ∧ abs (mkState srr ls given cfg) = Spec.construct srr ls given cfg :=
  ⟨mkState_inv cfg hl hg, mkState_abs cfg hl hg⟩

/-- the constructor keeps every key of the calibration dict it is given (also keys that name no element):
the new laser is well-formed exactly when the given keys all name elements.  (`(keys g).Nodup`: a Python
dict has every key once.) -/
theorem construct_inv_iff (srr : Bool) (ls : List Layer) (given : Option Dict) (cfg : Nat) (hl : LayersOK ls)
    (hnd : ∀ g, given = some g → (keys g).Nodup) :
    (Inv (mkState srr ls given cfg) ↔ GivenOK ls given) ∧
    ∀ x, x ∈ keys (mkState srr ls given cfg).cal ↔ x ∈ elementsOf ls ∨ ∃ g, given = some g ∧ x ∈ keys g :=
  ⟨mkState_inv_iff cfg hl hnd, fun x => mem_keys_initCal (elementsOf ls) given x⟩

/-- `stepE` (the calls with their exceptions) succeeds exactly when `step` does, with the same result -/
theorem stepE_ok_iff (s s' : State) (op : Op) : stepE s op = .ok s' ↔ step s op = some s' := by
  rw [← stepE_toOption, Res.toOption_ok]

/-- A failing `add` raises before anything is assigned when the laser has one layer (`Laser`); in general it
leaves calibrations, configuration, kind and all shapes alone, and the laser is either exactly as before
or no longer well-formed (some layers have the new field, a later one does not). -/
theorem add_fail (s s' : State) (h : Inv s) (n : Name) (ds : List ArrIn) (c : Nat) (e : Err)
    (hs : stepE s (.add n ds c) = .fail e s') :
    s'.cal = s.cal ∧ s'.cfg = s.cfg ∧ s'.srr = s.srr ∧ s'.layers.map (·.shape) = s.layers.map (·.shape) ∧
      (s' = s ∨ ¬ Inv s') ∧ (s.layers.length = 1 → s' = s) :=
  addE_fail h hs

/-- A failing `remove` raises `KeyError` after the fields have been dropped from every layer and the names
before the failing one have been popped from the calibrations: the failing name is not (or no longer) a
key.  The laser is well-formed afterwards exactly if every present name of the list had been popped. -/
theorem remove_fail (s s' : State) (h : Inv s) (ns : List Name) (e : Err) (hs : stepE s (.remove ns) = .fail e s') :
    e = .key ∧ s'.layers = s.layers.map (·.drop ns) ∧ s'.cfg = s.cfg ∧ s'.srr = s.srr ∧
      (∃ k, k < ns.length ∧ s'.cal = s.cal.filter (fun x => decide (x.1 ∉ ns.take k)) ∧
        ∀ x, ns[k]? = some x → x ∉ keys s'.cal) ∧
      (Inv s' ↔ ∀ n ∈ ns, n ∈ s.elements → n ∉ keys s'.cal) :=
  removeE_fail h hs

/-- A failing `rename` (two fields would get the same name: `ValueError`) and a failing read leave the
laser exactly as it was. -/
theorem rename_get_fail_atomic (s s' : State) (h : Inv s) (e : Err) :
    (∀ m, stepE s (.rename m) = .fail e s' → e = .value ∧ s' = s) ∧
    (∀ layer t c, stepE s (.get layer t c) = .fail e s' → s' = s) := by
  refine ⟨fun m hs => renameE_fail h hs, fun layer t c hs => ?_⟩
  simp only [stepE] at hs
  split at hs
  · simp at hs
  · simp only [Res.fail.injEq] at hs; exact hs.2.symm

/-! ## the object level: identities, aliasing, who can change what -/

/-- A call on the laser, run on the heap of objects and seen through `view`, is that call of the content
level — success or exception, result or half-edited state — and the laser's references stay valid. -/
theorem call_refines (w : World) (hv : Valid w) (op : HOp) (ha : ArgsOK w.heap op) (hc : op.isCall = true) :
    (hstep w op).map view = stepE (view w) (absOp w.heap op) ∧ Valid (hstep w op).state :=
  ⟨(hstep_spec w hv op ha hc).sim, (hstep_spec w hv op ha hc).valid⟩

/-- Reads never modify what is stored.  A successful `get` returns the stored values (`readE`), leaves the
laser object alone, only allocates: every cell, `Calibration`, config, offsets array and dict that existed
keeps its content.  What it returns is new memory — except for a single element of a `Laser` read
uncalibrated or through an identity calibration (`returnsView`): that is the stored column itself and
nothing is allocated. -/
theorem get_allocates_only (w : World) (hv : Valid w) (layer : Nat) (t : Option Name) (c : Bool) (r : RRes)
    (h' : Heap) (hg : hGet w layer t c = .ok (r, h')) :
    readE (view w) layer t c = .ok r.items ∧ view ⟨h', w.laser⟩ = view w ∧
    w.heap.cells.length ≤ h'.cells.length ∧ (∀ i, i < w.heap.cells.length → h'.cells[i]? = w.heap.cells[i]?) ∧
    h'.cals = w.heap.cals ∧ h'.cfgs = w.heap.cfgs ∧ h'.offs = w.heap.offs ∧ h'.dicts = w.heap.dicts ∧
    (returnsView w t c → ∃ a n i, w.laser.data[layer]? = some a ∧ t = some n ∧ get? a.fields n = some i ∧
      r.cells = [(n, i)] ∧ h' = w.heap) ∧
    (¬ returnsView w t c → r.allNew w.heap) := by
  have hs := hGet_spec w layer t c
  rw [hg] at hs
  obtain ⟨h1, h2, h3, h4⟩ := hs
  exact ⟨h1, (view_ext hv h2.ext (by simp)).1, h2.cells_le, h2.cells, h2.cals, h2.cfgs, h2.offs, h2.dicts, h3, h4⟩

/-- …and a failing `get` raises what the content level says -/
theorem get_error (w : World) (hv : Valid w) (layer : Nat) (t : Option Name) (c : Bool) (e : Err)
    (hg : hGet w layer t c = .error e) : readE (view w) layer t c = .error e := by
  have hs := hGet_spec w layer t c
  rwa [hg] at hs

/-- The constructors, on objects: the new laser stands for `mkState` of the contents of its arguments; its
data arrays are the caller's arrays themselves (by reference); its dict, every `Calibration` in it and
its config are objects that did not exist before (copies); a copied config holds the *same* offsets array
as the caller's; no memory cell is written.  Hypotheses: the arrays and the given calibrations exist. -/
theorem construct_objects (h : Heap) (srr : Bool) (data : List Arr) (given config : Option Nat) (w : World)
    (hd : ∀ a ∈ data, ∀ e ∈ a.fields, e.2 < h.cells.length)
    (hg : ∀ g, given = some g → ∀ e ∈ h.dict g, e.2 < h.cals.length)
    (hw : hConstruct h srr data given config = some w) :
    view w = mkState srr (data.map (viewLayer h)) (given.map (fun g => viewDict h (h.dict g)))
        ((config.map (fun k => (h.cfgOf k).scal)).getD 0) ∧
    Valid w ∧ w.laser.data = data ∧
    h.dicts.length ≤ w.laser.cal ∧ (∀ e ∈ w.heap.dict w.laser.cal, h.cals.length ≤ e.2) ∧
    h.cfgs.length ≤ w.laser.cfg ∧
    (∀ k, config = some k → (w.heap.cfgOf w.laser.cfg).offs = (h.cfgOf k).offs) ∧ w.heap.cells = h.cells := by
  have s := hConstruct_spec h srr data given config w hd hg hw
  exact ⟨s.view_eq, s.fresh.valid, s.data_eq, s.fresh.dict, s.fresh.cals, s.fresh.cfg, s.offs_eq, s.cells_eq⟩

/-- in particular the new laser references none of the `Calibration`, dict and config objects that existed
before the call — whatever the caller passed and whatever else it holds -/
theorem construct_separate (h : Heap) (srr : Bool) (data : List Arr) (given config : Option Nat) (w : World)
    (hd : ∀ a ∈ data, ∀ e ∈ a.fields, e.2 < h.cells.length)
    (hg : ∀ g, given = some g → ∀ e ∈ h.dict g, e.2 < h.cals.length)
    (hw : hConstruct h srr data given config = some w) (F : Foreign)
    (hF : (∀ k ∈ F.cals, k < h.cals.length) ∧ (∀ k ∈ F.dicts, k < h.dicts.length) ∧ (∀ k ∈ F.cfgs, k < h.cfgs.length)) :
    Sep F w :=
  (hConstruct_spec h srr data given config w hd hg hw).fresh.sep hF.1 hF.2.1 hF.2.2

/-- Later edits by the caller do not leak in: whoever holds a `Calibration`, dict or config object the
laser does not reference may assign its attributes, write its arrays, delete and insert keys, rebind its
offsets — the laser (as seen through `view`) is unchanged, still valid and still separate. -/
theorem foreign_edit_invisible (F : Foreign) (w : World) (hv : Valid w) (hs : Sep F w) (op : HOp)
    (ha : Allowed F w.heap op) (hc : op.isCall = false) :
    ∃ w', hstep w op = .ok w' ∧ view w' = view w ∧ w'.laser = w.laser ∧ Valid w' ∧ Sep F w' := by
  obtain ⟨h2, h4, h5⟩ := foreign_edit hv hs ha hc
  exact ⟨_, hstep_edit w op hc, h2, rfl, h4, h5⟩

/-- Any history: calls on the laser — with arrays and calibrations the caller created
beforehand and does not write to, none of the calibrations being a foreign one —, reads, and edits of the
foreign objects by their holders, interleaved in any order.  If all calls succeed, the laser's contents
are those of the content-level run in which the reads and the edits do nothing (`absOp` maps them to
`get` / `callerEdit`), and the laser is still separate from the foreign objects. -/
theorem history_view (F : Foreign) (w w' : World) (ops : List HOp) (hv : Valid w) (hs : Sep F w)
    (hall : ∀ op ∈ ops, Allowed F w.heap op) (hr : hrun w ops = some w') :
    run (view w) (ops.map (absOp w.heap)) = some (view w') ∧ Valid w' ∧ Sep F w' :=
  have ⟨h1, t⟩ := history_view_from F w.heap ops w w' ⟨hv, hs, Stable.refl F _⟩ hall hr
  ⟨h1, t.valid, t.sep⟩

/-- What is NOT detached (1): an in-place write into a memory cell of a stored array — by the caller through
the array it handed to the constructor (stored by reference), or by anyone through a returned view — is a
write to the stored element: the next read returns the written value. -/
theorem stored_write_visible (w : World) (hv : Valid w) (layer : Nat) (a : Arr) (n : Name) (i v : Nat)
    (ha : w.laser.data[layer]? = some a) (hi : get? a.fields n = some i) :
    readE (view (hstep w (.writeCell i v)).state) layer (some n) false = .ok [(n, v, none)] := by
  have hlt : i < w.heap.cells.length := hv.data_ok a (List.mem_of_getElem? ha) (n, i) (get?_mem hi)
  rw [hstep_writeCell]
  simp only [readE, view, List.getElem?_map, ha, Option.map_some, readLayerE, viewLayer, get?_mapV, hi,
    Bool.false_eq_true, if_false, cell_set_self hlt]

/-- …so writing through the array returned by a view-returning `get` changes the stored data -/
theorem write_through_view (w : World) (hv : Valid w) (layer : Nat) (n : Name) (c : Bool) (r : RRes) (h' : Heap)
    (v : Nat) (hg : hGet w layer (some n) c = .ok (r, h')) (hr : returnsView w (some n) c) :
    ∃ i, r.cells = [(n, i)] ∧
      readE (view (hstep ⟨h', w.laser⟩ (.writeCell i v)).state) layer (some n) false = .ok [(n, v, none)] := by
  have hs := hGet_spec w layer (some n) c
  rw [hg] at hs
  obtain ⟨_, _, h3, _⟩ := hs
  obtain ⟨a, n', i, ha, hn, hi, hc, hh⟩ := h3 hr
  simp only [Option.some.injEq] at hn
  subst hn hh
  exact ⟨i, hc, stored_write_visible w hv layer a n i v ha hi⟩

/-- What is NOT detached (2): `add` stores the caller's `Calibration` object itself; when its holder changes
it afterwards, the laser's calibration of that element changes with it. -/
theorem add_stores_reference (w w' : World) (hv : Valid w) (n : Name) (xs : List ArrIn) (k c : Nat)
    (ha : ArgsOK w.heap (.add n xs (some k))) (hs : hstep w (.add n xs (some k)) = .ok w') :
    get? (w'.heap.dict w'.laser.cal) n = some k ∧
      get? (view (hstep w' (.setCal k c)).state).cal n = some c := by
  obtain ⟨⟨_, _, hk⟩, hx⟩ := hAdd_spec w hv n xs (some k) ha.1 ha.2
  rw [show hAdd w n xs (some k) = .ok w' from hs] at hk
  have h2 : get? (w'.heap.dict w'.laser.cal) n = some k := by rw [(hx w' hs).2, get?_dictSet, if_pos rfl]; rfl
  refine ⟨h2, ?_⟩
  have hk' : k < w'.heap.cals.length := Nat.lt_of_lt_of_le (ha.2 k rfl) hk.ext.cals_le
  rw [hstep_setCal]
  show get? (viewDict _ (w'.heap.dict w'.laser.cal)) n = some c
  rw [viewDict, get?_mapV, h2, Option.map_some, calOf_set_self hk']

/-- Memory: after a successful `add` and after `remove` every stored column is new memory (copies); after a
successful `rename` every layer occupies exactly the cells it occupied before (`rename_fields` returns a view). -/
theorem memory_after_edit (w : World) (hv : Valid w) :
    (∀ n xs cal w', ArgsOK w.heap (.add n xs cal) → hstep w (.add n xs cal) = .ok w' →
      ∀ a ∈ w'.laser.data, ∀ e ∈ a.fields, w.heap.cells.length ≤ e.2) ∧
    (∀ ns, ∀ a ∈ (hstep w (.remove ns)).state.laser.data, ∀ e ∈ a.fields, w.heap.cells.length ≤ e.2) ∧
    (∀ m w', hstep w (.rename m) = .ok w' →
      w'.laser.data.map (fun a => a.fields.map (·.2)) = w.laser.data.map (fun a => a.fields.map (·.2))) := by
  refine ⟨fun n xs cal w' ha hs => ((hAdd_spec w hv n xs cal ha.1 ha.2).2 w' hs).1,
    fun ns => (hRemove_spec w hv ns).2, fun m w' hs => ?_⟩
  have := (hRename_spec w hv m).2
  rwa [show hRename w m = .ok w' from hs] at this

/-- saving and loading (the stored stack handed to the constructor with the stored calibrations)
gives a well-formed laser of the same kind that stands for the same dictionary -/
theorem roundtrip_refines (s : State) (h : Inv s) (hk : KindOK s) :
    ∃ s', roundTrip s = some s' ∧ Inv s' ∧ KindOK s' ∧ abs s' = abs s := by
  refine ⟨_, roundTrip_some hk, mkState_inv s.cfg h.layersOK h.givenOK, hk, ?_⟩
  rw [mkState_abs s.cfg h.layersOK h.givenOK]
  exact construct_abs_self h

/-- …and on objects: the loaded laser stands for the content-level constructor applied to what was stored,
occupies only new memory and references no `Calibration`, dict or config object that existed before the
load — in particular none of the saved laser's, which the caller may go on using -/
theorem roundtrip_objects (w w' : World) (hv : Valid w) (hw : hRoundTrip w = some w') :
    view w' = mkState w.laser.srr (view w).layers (some (view w).cal) (view w).cfg ∧ Valid w' ∧
    (∀ a ∈ w'.laser.data, ∀ e ∈ a.fields, w.heap.cells.length ≤ e.2) ∧
    ∀ F : Foreign, (∀ k ∈ F.cals, k < w.heap.cals.length) → (∀ k ∈ F.dicts, k < w.heap.dicts.length) →
      (∀ k ∈ F.cfgs, k < w.heap.cfgs.length) → Sep F w' :=
  have ⟨s1, s3, s4⟩ := hRoundTrip_spec w w' hv hw
  ⟨s1, s4.valid, s3, fun _ => s4.sep⟩

/-! ## several lasers in one memory -/

/-- A method of laser `i` among several lasers (`MValid`: all references exist, no two lasers have their dict
object or their list of layers in common).  Laser `i` does what the content level says — success or exception,
result or half-edited state; EVERY OTHER laser stores exactly what it stored; every list object other than
laser `i`'s own (the caller's in particular) holds what it held; the world stays well-formed. -/
theorem multi_call (m : MWorld) (hv : MValid m) (i : Nat) (o : MObj) (hi : m.lasers[i]? = some o) (op : HOp)
    (ha : ArgsOK m.heap op) (hc : op.isCall = true) :
    (mstep m (.call i op)).map (fun m' => mview m' i) = (stepE (view (m.world o)) (absOp m.heap op)).map some ∧
    (∀ j, j ≠ i → mview (mstep m (.call i op)).state j = mview m j) ∧
    (∀ k, o.data ≠ .list k → (mstep m (.call i op)).state.listOf k = m.listOf k) ∧
    (mstep m (.call i op)).state.lasers.length = m.lasers.length ∧
    (mstep m (.call i op)).state.lists.length = m.lists.length ∧ MValid (mstep m (.call i op)).state := by
  obtain ⟨o', p, ⟨q1, q2, q3⟩, ⟨_, f2, f3⟩, _⟩ := call_placed m hv hi op ha hc rfl
  rw [mstep_call_state hi]
  refine ⟨?_, f2, fun k hk => p.listOf k (mt (q3 k).1 hk), q1, q2, f3⟩
  rw [mstep_call hi, ← show _ = stepE (view (m.world o)) (absOp m.heap op) from
    (hstep_spec (m.world o) (hv.valid hi) op ha hc).sim]
  generalize hstep (m.world o) op = r at p
  cases r <;> exact congrArg _ p.mview_self

/-- A constructor call next to the lasers that exist, with ANY existing objects as arguments — also ones another
laser was built from.  The new laser stands for `mkState` of the contents of its arguments; the lasers that
existed store what they stored; every list object that existed holds what it held, and an `SRRLaser` keeps its
layers in a list object that did not exist before (not in the caller's); its dict, every `Calibration` in it and its
config are objects that did not exist before (so it is `Sep` from whatever existed); the world stays well-formed.
Hypotheses: the arrays' cells and the given calibrations exist. -/
theorem multi_construct (m m' : MWorld) (hv : MValid m) (srr : Bool) (data : DataRef) (given config : Option Nat)
    (hd : ∀ a ∈ data.layers m, ∀ e ∈ a.fields, e.2 < m.heap.cells.length)
    (hg : ∀ g, given = some g → ∀ e ∈ m.heap.dict g, e.2 < m.heap.cals.length)
    (hm : mConstruct m srr data given config = some m') :
    ∃ o', m'.lasers = m.lasers ++ [o'] ∧
      mview m' m.lasers.length = some (mkState srr ((data.layers m).map (viewLayer m.heap))
        (given.map (fun g => viewDict m.heap (m.heap.dict g))) ((config.map (fun k => (m.heap.cfgOf k).scal)).getD 0)) ∧
      (∀ j, j < m.lasers.length → mview m' j = mview m j) ∧
      (∀ k, k < m.lists.length → m'.listOf k = m.listOf k) ∧
      (srr = true → o'.data = .list m.lists.length) ∧ (∀ k, k < m.lists.length → o'.data ≠ .list k) ∧
      m.heap.dicts.length ≤ o'.cal ∧ m.heap.cfgs.length ≤ o'.cfg ∧
      (∀ e ∈ m'.heap.dict o'.cal, m.heap.cals.length ≤ e.2) ∧
      (∀ k, config = some k → (m'.heap.cfgOf o'.cfg).offs = (m.heap.cfgOf k).offs) ∧ MValid m' ∧
      (∀ F : Foreign, (∀ k ∈ F.cals, k < m.heap.cals.length) → (∀ k ∈ F.dicts, k < m.heap.dicts.length) →
        (∀ k ∈ F.cfgs, k < m.heap.cfgs.length) → Sep F (m'.world o')) := by
  obtain ⟨w, o', s, p, ⟨q1, q2, q3, q4⟩, f2, f3⟩ := mConstruct_spec hv hd hg hm
  exact ⟨o', q1, by rw [p.mview_self, s.view_eq], f2, fun k hk => p.listOf k (q4 k hk), q3, q4,
    by rw [p.cal]; exact s.fresh.dict, by rw [q2]; exact s.fresh.cfg, by rw [p.heap, p.cal]; exact s.fresh.cals,
    by rw [p.heap, q2]; exact s.offs_eq, f3, fun F => p.world ▸ s.fresh.sep⟩

/-- Saving laser `i` and loading the file, next to the lasers that exist (the saved one lives on): the loaded
laser stands for the content-level constructor applied to what laser `i` stores, occupies only new memory, keeps
its layers in no list that existed, references no `Calibration`, dict or config that existed; every laser that
existed — the saved one too — stores what it stored; the world stays well-formed. -/
theorem multi_load (m m' : MWorld) (hv : MValid m) (i : Nat) (o : MObj) (hi : m.lasers[i]? = some o)
    (hm : mLoad m i = some m') :
    ∃ o', m'.lasers = m.lasers ++ [o'] ∧
      mview m' m.lasers.length = some (mkState o.srr (view (m.world o)).layers (some (view (m.world o)).cal)
        (view (m.world o)).cfg) ∧
      (∀ j, j < m.lasers.length → mview m' j = mview m j) ∧
      (∀ k, k < m.lists.length → m'.listOf k = m.listOf k) ∧ (∀ k, k < m.lists.length → o'.data ≠ .list k) ∧
      (∀ a ∈ (m'.world o').laser.data, ∀ e ∈ a.fields, m.heap.cells.length ≤ e.2) ∧ MValid m' ∧
      (∀ F : Foreign, (∀ k ∈ F.cals, k < m.heap.cals.length) → (∀ k ∈ F.dicts, k < m.heap.dicts.length) →
        (∀ k ∈ F.cfgs, k < m.heap.cfgs.length) → Sep F (m'.world o')) := by
  obtain ⟨w, hc, rfl⟩ := Option.map_eq_some_iff.1 (mLoad_eq hi ▸ hm)
  obtain ⟨s1, s3, s4⟩ := hRoundTrip_spec (m.world o) w (hv.valid hi) hc
  obtain ⟨o', p, q1, _, _, q4⟩ := push_placed m hv w
  obtain ⟨f2, f3⟩ := p.frame_new hv s4
  exact ⟨o', q1, by rw [p.mview_self, s1]; rfl, f2, fun k hk => p.listOf k (q4 k hk), q4, by rw [p.world]; exact s3,
    f3, fun F => by rw [p.world]; exact s4.sep⟩

theorem call_other {m : MWorld} (hv : MValid m) {i j : Nat} {o : MObj} (hi : m.lasers[i]? = some o) {data : DataRef}
    (hne : ∀ k, data = .list k → o.data ≠ .list k) (hji : j ≠ i) {op : HOp} (ha : ArgsOK m.heap op) (hc : op.isCall = true) :
    mview (mstep m (.call i op)).state j = mview m j ∧ data.layers (mstep m (.call i op)).state = data.layers m ∧
      MValid (mstep m (.call i op)).state :=
  have ⟨_, f2, f3, _, _, f6⟩ := multi_call m hv i o hi op ha hc
  ⟨f2 j hji, DataRef.layers_congr fun k e => f3 k (hne k e), f6⟩

/-- Two lasers built one after the other from the SAME arguments — the same list object of layers (or the same
array), the same calibration dict, the same config object.  Both stand for the contents of the arguments; and
whatever method is then called on one of them, with whatever arguments and whether it succeeds or raises: the
OTHER one stores exactly what it stored, and the list the caller handed to both holds what it held. -/
theorem shared_arguments_invisible (m m1 m2 : MWorld) (hv : MValid m) (srr : Bool) (data : DataRef)
    (given config : Option Nat)
    (hd : ∀ a ∈ data.layers m, ∀ e ∈ a.fields, e.2 < m.heap.cells.length) (hk : data.below m.lists.length)
    (hg : ∀ g, given = some g → g < m.heap.dicts.length ∧ ∀ e ∈ m.heap.dict g, e.2 < m.heap.cals.length)
    (hcf : ∀ c, config = some c → c < m.heap.cfgs.length)
    (h1 : mConstruct m srr data given config = some m1) (h2 : mConstruct m1 srr data given config = some m2) :
    m2.lasers.length = m.lasers.length + 2 ∧
    mview m2 m.lasers.length = some (mkState srr ((data.layers m).map (viewLayer m.heap))
      (given.map (fun g => viewDict m.heap (m.heap.dict g))) ((config.map (fun k => (m.heap.cfgOf k).scal)).getD 0)) ∧
    mview m2 (m.lasers.length + 1) = mview m2 m.lasers.length ∧
    MValid m2 ∧ data.layers m2 = data.layers m ∧
    (∀ i j, (i = m.lasers.length ∧ j = m.lasers.length + 1) ∨ (i = m.lasers.length + 1 ∧ j = m.lasers.length) →
      ∀ op, ArgsOK m2.heap op → op.isCall = true →
        mview (mstep m2 (.call i op)).state j = mview m2 j ∧
        data.layers (mstep m2 (.call i op)).state = data.layers m ∧ MValid (mstep m2 (.call i op)).state) := by
  obtain ⟨w1, o1, s1, p1, ⟨a1, _, _, a8⟩, _, aV⟩ := mConstruct_spec hv hd (fun g hgg => (hg g hgg).2) h1
  -- the first construction only allocated and pushed a new list: in `m1` the arguments exist and show what they showed in `m`
  obtain ⟨hB, hk1, hd1, hg1, hA, hG, hC⟩ :=
    args_kept (m1 := m1) (p1.heap ▸ s1.fresh.ext) p1.lists_le (fun k hk => p1.listOf k (a8 k hk)) hd hk hg hcf
  obtain ⟨w2, o2, s2, p2, ⟨b1, _, _, b8⟩, b3, bV⟩ := mConstruct_spec aV hd1 hg1 h2
  have hlen1 : m1.lasers.length = m.lasers.length + 1 := by rw [a1]; simp
  have hp : mview m2 m.lasers.length = some (view w1) := (b3 _ (by omega)).trans p1.mview_self
  have b2 : mview m2 (m.lasers.length + 1) = some (view w1) := by
    rw [← hlen1, p2.mview_self, s2.view_eq, hA, hG, hC, ← s1.view_eq]
  have hl2 : data.layers m2 = data.layers m :=
    (DataRef.layers_congr fun k e => p2.listOf k (b8 k (by subst e; exact hk1))).trans hB
  have ho1 : m2.lasers[m.lasers.length]? = some o1 := by rw [p2.at_ne _ (by omega)]; exact p1.at_i
  have ho2 : m2.lasers[m.lasers.length + 1]? = some o2 := hlen1 ▸ p2.at_i
  refine ⟨by rw [b1]; simp [hlen1], by rw [hp, s1.view_eq], by rw [b2, hp], bV, hl2, ?_⟩
  rintro i j (⟨rfl, rfl⟩ | ⟨rfl, rfl⟩)
  · exact fun op ha hc => hl2 ▸ call_other bV ho1 (fun k e => a8 k (by subst e; exact hk)) (by omega) ha hc
  · exact fun op ha hc => hl2 ▸ call_other bV ho2 (fun k e => b8 k (by subst e; exact hk1)) (by omega) ha hc

/-- Any history over several lasers: methods of any of the lasers — with arrays and calibrations
the caller created beforehand and does not write to, none of the calibrations being a foreign one —, edits of the
foreign objects `F` (Calibration, dict, config objects no laser references) and of the foreign lists `L` (list
objects no laser keeps its layers in: the caller's) by their holders, interleaved in any order.  If everything
succeeds, EVERY laser's contents are those of the content-level run of ITS OWN calls (`projOp`: calls on other
lasers, reads and edits do nothing), the foreign lists that were not assigned hold what they held, and the world is
still well-formed and separate. -/
theorem multi_history_view (F : Foreign) (L : List Nat) (m m' : MWorld) (ops : List MOp) (hv : MValid m)
    (hs : MSep F L m) (hall : ∀ op ∈ ops, MAllowed F L m.heap op) (hr : mrun m ops = some m') :
    (∀ (j : Nat) (o : MObj), m.lasers[j]? = some o → ∃ o', m'.lasers[j]? = some o' ∧
      run (view (m.world o)) (ops.map (projOp m.heap j)) = some (view (m'.world o'))) ∧
    m'.lasers.length = m.lasers.length ∧
    (∀ k ∈ L, (∀ op ∈ ops, ∀ l, op ≠ .setList k l) → m'.listOf k = m.listOf k) ∧ MValid m' ∧ MSep F L m' :=
  have ⟨h1, h2, h3, t⟩ := multi_history_from F L m.heap ops m m' ⟨hv, hs, Stable.refl F _⟩ hall hr
  ⟨h1, h2, h3, t.valid, t.sep⟩

/-! ## non-vacuity -/

instance (w : World) (t : Option Name) (c : Bool) : Decidable (returnsView w t c) :=
  match t with
  | none => isFalse (not_returnsView_none w c)
  | some n => decidable_of_iff _ (returnsView_some_iff w n c).symm

instance (F : Foreign) (h : Heap) (op : HOp) : Decidable (Allowed F h op) := by
  cases op <;> unfold Allowed <;> infer_instance

instance (F : Foreign) (L : List Nat) (h : Heap) (op : MOp) : Decidable (MAllowed F L h op) := by
  cases op <;> unfold MAllowed <;> infer_instance

def exLayer : Layer := { shape := [2, 3], fields := [("A", 1), ("B", 3), ("C", 5)] }
def exState : State := constructLaser exLayer (some [("C", 1), ("A", 2)]) 1
def exSRR : State := mkState true [exLayer, { shape := [2, 3], fields := [("A", 7), ("B", 9), ("C", 11)] }] none 1

example : LayersOK [exLayer] ∧ GivenOK [exLayer] (some [("C", 1), ("A", 2)]) := by decide +kernel
example : Inv exState ∧ KindOK exState := by decide +kernel
example : Inv exSRR ∧ KindOK exSRR := by decide +kernel
/-- swap, 3-cycle, remove, chain onto the freed name, add, reads and a caller edit: all succeed -/
example : (run exState [.callerEdit, .rename [("A", "B"), ("B", "A")],
    .rename [("A", "B"), ("B", "C"), ("C", "A")], .get 0 none true, .remove ["C"],
    .rename [("A", "B"), ("B", "C")], .add "A" [([2, 3], 7)] 3, .get 0 (some "A") true]).isSome = true := by decide +kernel
example : (rename exState [("A", "B"), ("B", "A")]).map (fun s => (s.elements, s.cal))
    = some (["B", "A", "C"], [("B", 2), ("A", 0), ("C", 1)]) := by decide +kernel
example : (rename exSRR [("A", "B"), ("B", "C"), ("C", "A")]).map (fun s => entry s "A")
    = some (some ([5, 11], 0)) := by decide +kernel
example : "A" ∈ exState.elements ∧ "B" ∈ exState.elements ∧ "A" ≠ "B" ∧ "D" ∉ exState.elements := by decide +kernel
example : (roundTrip exSRR).isSome = true := by decide +kernel
example : read exState 0 none true = some [("A", 1, some 2), ("B", 3, some 0), ("C", 5, some 1)] ∧
    read exSRR 1 (some "B") false = some [("B", 9, none)] := by decide +kernel
example : (add exState "D" [([2, 3], 9)] 4).isSome = true ∧ (remove exState ["B", "A"]).isSome = true := by decide +kernel
/-- the success conditions are real: duplicates, absent names and collisions are rejected -/
example : add exState "A" [([2, 3], 9)] 4 = none ∧ add exState "D" [([3], 9)] 4 = none ∧
    add exState "D" [([2, 3], 9), ([2, 3], 11)] 4 = none ∧ remove exState ["D"] = none ∧ remove exState ["A", "A"] = none ∧
    rename exState [("A", "B")] = none ∧ rename exState [("A", "D"), ("B", "D")] = none := by decide +kernel

/-- `SRRLaser.add` with a wrong shape in the second layer: the first layer already has the new field -/
example : stepE exSRR (.add "D" [([2, 3], 13), ([3], 15)] 4) = .fail .assertion
    { exSRR with layers := [{ shape := [2, 3], fields := [("A", 1), ("B", 3), ("C", 5), ("D", 13)] },
                            { shape := [2, 3], fields := [("A", 7), ("B", 9), ("C", 11)] }] } ∧
    ¬ Inv (stepE exSRR (.add "D" [([2, 3], 13), ([3], 15)] 4)).state := by decide +kernel
/-- …with a wrong shape in the first layer, a name that exists, or the wrong number of arrays: nothing happened -/
example : stepE exSRR (.add "D" [([3], 13), ([2, 3], 15)] 4) = .fail .assertion exSRR ∧
    stepE exSRR (.add "A" [([2, 3], 13), ([2, 3], 15)] 4) = .fail .value exSRR ∧
    stepE exSRR (.add "D" [([2, 3], 13)] 4) = .fail .assertion exSRR ∧
    stepE exState (.add "D" [([3], 13)] 4) = .fail .assertion exState := by decide +kernel
/-- `remove`: present names before the absent one leave a well-formed laser, after it not -/
example : (stepE exState (.remove ["A", "D"])).err = some .key ∧ Inv (stepE exState (.remove ["A", "D"])).state ∧
    (stepE exState (.remove ["A", "D"])).state.elements = ["B", "C"] ∧
    (stepE exState (.remove ["D", "A"])).err = some .key ∧ ¬ Inv (stepE exState (.remove ["D", "A"])).state ∧
    keys (stepE exState (.remove ["D", "A"])).state.cal = ["A", "B", "C"] ∧
    (stepE exState (.remove ["A", "A"])).err = some .key ∧ stepE exState (.remove ["D"]) = .fail .key exState := by
  decide +kernel
example : stepE exState (.rename [("A", "B")]) = .fail .value exState ∧
    stepE exState (.get 0 (some "D") true) = .fail .value exState ∧
    stepE exSRR (.get 2 none false) = .fail .index exSRR := by decide +kernel
/-- a stray key given to the constructor is kept: the new laser is not well-formed; `remove` of the stray key
repairs it; a rename onto the stray key loses the renamed element's calibration -/
example : LayersOK [exLayer] ∧ ¬ GivenOK [exLayer] (some [("Zz", 1), ("A", 2)]) ∧
    ¬ Inv (constructLaser exLayer (some [("Zz", 1), ("A", 2)]) 1) ∧
    (constructLaser exLayer (some [("Zz", 1), ("A", 2)]) 1).cal = [("A", 2), ("B", 0), ("C", 0), ("Zz", 1)] ∧
    ((stepE (constructLaser exLayer (some [("Zz", 1), ("A", 2)]) 1) (.remove ["Zz"])).toOption.map
      (fun s => decide (Inv s))) = some true ∧
    ((stepE (constructLaser exLayer (some [("Zz", 1), ("A", 2)]) 1) (.rename [("A", "Zz")])).toOption.map
      (fun s => s.cal)) = some [("Zz", 1), ("B", 0), ("C", 0)] := by decide +kernel

/-- the caller's objects: an array with cells 0,1,2, two calibrations, a dict `{C: cal 0, A: cal 1}`, a config -/
def exHeap : Heap := { cells := [1, 3, 5], cals := [1, 2], cfgs := [⟨1, none⟩], offs := [], dicts := [[("C", 0), ("A", 1)]] }
def exArr : Arr := { shape := [2, 3], fields := [("A", 0), ("B", 1), ("C", 2)] }
def exWorld : World := (hConstruct exHeap false [exArr] (some 0) (some 0)).getD ⟨exHeap, ⟨false, [], 0, 0⟩⟩
def exForeign : Foreign := { cals := [0, 1], dicts := [0], cfgs := [0] }

example : hConstruct exHeap false [exArr] (some 0) (some 0) = some exWorld ∧ view exWorld = exState := by decide +kernel
example : Valid exWorld ∧ Sep exForeign exWorld ∧ exWorld.laser.data = [exArr] ∧
    exWorld.heap.dict exWorld.laser.cal = [("A", 6), ("B", 3), ("C", 5)] := by decide +kernel
/-- a raw single-element read is a view; calibrated by a non-identity calibration it is new memory; an
all-element read is a copy -/
example : (hGet exWorld 0 (some "B") false).toOption.map (·.1.cells) = some [("B", 1)] ∧
    (hGet exWorld 0 (some "B") true).toOption.map (·.1.cells) = some [("B", 1)] ∧
    (hGet exWorld 0 (some "A") true).toOption.map (·.1.cells) = some [("A", 3)] ∧
    (hGet exWorld 0 none true).toOption.map (·.1.cells) = some [("A", 3), ("B", 4), ("C", 5)] := by decide +kernel
example : returnsView exWorld (some "B") true ∧ ¬ returnsView exWorld (some "A") true ∧
    ¬ returnsView exWorld none false := by decide +kernel
example : (hRoundTrip exWorld).map (fun w => (view w, decide (Valid w), w.laser.data)) =
    some (exState, true, [{ shape := [2, 3], fields := [("A", 3), ("B", 4), ("C", 5)] }]) := by decide +kernel
/-- a history: the caller edits everything it gave, the laser is edited and read; all calls succeed -/
def exOps : List HOp := [.setCal 0 9, .setDict 0 [("Q", 1)], .setCfg 0 7, .rename [("A", "B"), ("B", "A")],
  .get 0 (some "A") true, .add "D" [([2, 3], 0)] none, .setCal 1 11, .remove ["C"]]
example : (hrun exWorld exOps).isSome = true ∧ ∀ op ∈ exOps, Allowed exForeign exWorld.heap op := by
  decide +kernel
/-- writing through the returned view of "B" changes the stored "B"; the calibration handed to `add` stays shared -/
example : (view (hstep exWorld (.writeCell 1 99)).state).layers = [{ shape := [2, 3], fields := [("A", 1), ("B", 99), ("C", 5)] }] ∧
    ((hstep exWorld (.add "D" [([2, 3], 0)] (some 0))).toOption.map
      (fun w => (view (hstep w (.setCal 0 42)).state).cal)) = some [("A", 2), ("B", 0), ("C", 1), ("D", 42)] := by decide +kernel
/-- `copy.copy(config)` of an `SRRConfig`: a new config object holding the same offsets array -/
example : let h : Heap := { cells := [1, 3], cals := [], cfgs := [⟨1, some 0⟩], offs := [5], dicts := [] }
    (hConstruct h true [⟨[2, 2], [("A", 0)]⟩, ⟨[2, 2], [("A", 1)]⟩] none (some 0)).map
      (fun w => (w.laser.cfg, (w.heap.cfgOf w.laser.cfg).offs, cfgOffsets (hstep w (.writeOffsets 0 8)).state,
                 cfgOffsets (hstep w (.setOffsets 0 8)).state)) = some (1, some 0, some 8, some 5) := by decide +kernel

/-- the caller's objects: two layers (cells 0–3), ONE list object holding them, two calibrations, a dict, an `SRRConfig` -/
def exMHeap : Heap := { cells := [1, 3, 5, 7], cals := [1, 2], cfgs := [⟨1, some 0⟩], offs := [0], dicts := [[("B", 0), ("A", 1)]] }
def exL0 : Arr := { shape := [2, 2], fields := [("A", 0), ("B", 1)] }
def exL1 : Arr := { shape := [2, 2], fields := [("A", 2), ("B", 3)] }
def exM0 : MWorld := { heap := exMHeap, lists := [[exL0, exL1]], lasers := [] }
/-- two `SRRLaser`s built from the same list object, the same dict and the same config -/
def exM1 : MWorld := (mConstruct exM0 true (.list 0) (some 0) (some 0)).getD exM0
def exM2 : MWorld := (mConstruct exM1 true (.list 0) (some 0) (some 0)).getD exM0
def exMForeign : Foreign := { cals := [0, 1], dicts := [0], cfgs := [0] }

example : MValid exM0 ∧ mConstruct exM0 true (.list 0) (some 0) (some 0) = some exM1 ∧
    mConstruct exM1 true (.list 0) (some 0) (some 0) = some exM2 := by decide +kernel
example : MValid exM2 ∧ MSep exMForeign [0] exM2 ∧ exM2.lasers.map (·.data) = [.list 1, .list 2] ∧
    mview exM2 0 = mview exM2 1 ∧ (mview exM2 0).map (fun s => (s.elements, s.cal)) = some (["A", "B"], [("A", 2), ("B", 1)]) := by
  decide +kernel
/-- add / swap / remove on the first: the second, and the caller's list, are what they were; the first changed -/
example : let r := mstep exM2 (.call 0 (.add "C" [([2, 2], 0), ([2, 2], 2)] (some 0)))
    r.err = none ∧ mview r.state 1 = mview exM2 1 ∧ r.state.listOf 0 = [exL0, exL1] ∧
    (mview r.state 0).map (·.elements) = some ["A", "B", "C"] := by decide +kernel
example : let r := mstep exM2 (.call 1 (.rename [("A", "B"), ("B", "A")]))
    r.err = none ∧ mview r.state 0 = mview exM2 0 ∧ r.state.listOf 0 = [exL0, exL1] ∧
    (mview r.state 1).map (·.cal) = some [("B", 2), ("A", 1)] := by decide +kernel
/-- a failing call on one (second layer of the wrong shape: half-edited) leaves the other alone, too -/
example : let r := mstep exM2 (.call 0 (.add "C" [([2, 2], 0), ([3], 2)] none))
    r.err = some .assertion ∧ mview r.state 1 = mview exM2 1 ∧ mview r.state 0 ≠ mview exM2 0 := by decide +kernel
/-- what `MValid` excludes: were the second laser to keep its layers in the FIRST one's list object (a constructor
that stores the list it is given), a remove on the first would take the element out of the second one's data —
whose calibrations still name it -/
example : let bad : MWorld := { exM2 with lasers := exM2.lasers.map (fun o => { o with data := .list 1 }) }
    ¬ MValid bad ∧
    (mview (mstep bad (.call 0 (.remove ["A"]))).state 1).map (fun s => (s.elements, keys s.cal, decide (Inv s)))
      = some (["B"], ["A", "B"], false) := by decide +kernel
/-- a loaded laser next to the saved one -/
example : (mLoad exM2 0).map (fun m => (decide (MValid m), m.lasers.length, decide (mview m 2 = mview m 0))) = some (true, 3, true) := by
  decide +kernel
/-- a history over both lasers, the caller editing everything it handed over — its list too -/
def exMOps : List MOp := [.call 0 (.rename [("A", "B"), ("B", "A")]), .edit (.setCal 0 9), .setList 0 [exL1],
  .call 1 (.add "C" [([2, 2], 0), ([2, 2], 2)] none), .edit (.setDict 0 []), .call 0 (.remove ["A"]),
  .call 1 (.get 1 (some "C") true), .edit (.setCfg 0 5), .setList 0 []]
example : (mrun exM2 exMOps).isSome = true ∧ ∀ op ∈ exMOps, MAllowed exMForeign [0] exM2.heap op := by
  decide +kernel
example : (mrun exM2 exMOps).map (fun m => ((mview m 0).map (·.elements), (mview m 1).map (·.elements))) =
    some (some ["B"], some ["A", "B", "C"]) := by decide +kernel

end Pew.LaserEdit
