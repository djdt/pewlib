import PewProofs.Npz

/-! The property theorems of C01.  Seven registered theorems that proofs of later ones use stand where they are proved:
`unpack_pack_info`, `config_roundtrip` (PewProofs/NpzCodec.lean), `compareVersion_eq_spec`, `compareVersion_error`
(PewProofs/NpzVersion.lean), `finishInfo_spec` (PewProofs/NpzInfo.lean), `loadConfig_legacy_class`, `load_legacy_class`
(PewProofs/Npz.lean). -/
namespace Pew.Npz

/-- non-vacuity of `unpack_pack_info`: two keys that collide once tabs are spaces (first place, last value), a `File Path` entry -/
example : noNulEnd (packInfoRaw [(['a','\t','b'], ['1','\t']), (['a',' ','b'], ['2']), (kFilePath, ['x'])]) = true ∧
    infoSpec [(['a','\t','b'], ['1','\t']), (['a',' ','b'], ['2']), (kFilePath, ['x'])] = [(['a',' ','b'], ['2'])] := by
  decide +kernel

/-- `Calibration.from_array (to_array cal size) = cal` for every calibration inside the quantifier
(`Cal.ok`: unit and weighting name ≤ 32 code points without trailing NUL; rsq / error not NaN; no
row that is NaN in x, y *and* weight; built-in weighting ⇒ no stored weights, custom ⇒ one weight
per point) and every padding size ≥ the number of points.  Covers 0 points, partially-NaN rows,
custom weights (NaN weights included) and all seven built-in weightings.  `hsize` is the precondition
of pewlib's `to_array`, which raises below it; the model pads by truncated subtraction, and the round
trip (`fromArray_toArray`) holds for every size. -/
theorem cal_roundtrip (c : Cal) (size : Nat) (hok : c.ok = true) (hsize : c.points.length ≤ size) :
    Cal.fromArray (c.toArray size) = c :=
  fromArray_toArray c size hok

/-- a 3-point `1/x` calibration with a half-NaN row -/
def exCalX : Cal :=
  { intercept := fzero, gradient := fone, unit := ['p','p','m'], rsq := some (Flt.num 5), error := none,
    points := [(Flt.num 1, Flt.num 2), (qnan, Flt.num 4), (Flt.num 3, Flt.num 6)],
    weighting := ['1','/','x'], weights := [] }

/-- a custom-weight calibration of another length, with a NaN weight on a half-NaN row -/
def exCalCustom : Cal :=
  { intercept := fzero, gradient := fone, unit := [], rsq := none, error := some (Flt.num 9),
    points := [(Flt.num 1, Flt.num 1), (Flt.num 2, qnan)],
    weighting := ['c','u','s','t','o','m'], weights := [Flt.num 7, qnan] }

/-- non-vacuity of `cal_roundtrip` -/
example : exCalX.ok = true ∧ exCalCustom.ok = true ∧ Cal.default.ok = true := by decide +kernel

/-- The packed calibration table unpacks to the dict it was made of: same elements in the same
order, every calibration intact although all were padded to the common (largest) length.
Hypotheses: distinct element names without trailing NUL, every calibration inside the quantifier. -/
theorem calibrations_roundtrip (d : List (Str × Cal)) (hn : (keys d).Nodup)
    (hk : ∀ kc ∈ d, noNulEnd kc.1 = true) (hc : ∀ kc ∈ d, kc.2.ok = true) :
    unpackCalibration (packCalibration d) = d := by
  rw [unpackCalibration, packCalibration, List.map_map, Lists.map_eq_self _ d fun kc hkc => ?_]
  · exact dictOfList_of_nodup d hn
  · rw [Function.comp, stripNul_of_noNulEnd _ (hk kc hkc), fromArray_toArray _ _ (hc kc hkc)]

/-- non-vacuity: two elements whose calibrations have 3 and 2 points -/
example : (keys [(['A'], exCalX), (['B','\t','b'], exCalCustom)]).Nodup ∧ maxLen [(['A'], exCalX), (['B','\t','b'], exCalCustom)] = 3 := by
  decide +kernel

/-- SRRConfig((0,2),(1,3)) with 125 warm-up samples at scan time 1/10 (state: size 6, offsets 0 and 2) -/
def exSRR : SRR :=
  { spotsize := Flt.num 1, speed := Flt.num 2, scantime := 1 / 10, warmupN := 125, subSize := 6, subOffsets := [0, 2] }

/-- non-vacuity of `config_roundtrip`: inside the quantifier, and the state the constructor computes from these arguments -/
example : exSRR.ok = true ∧ SRR.mk' id (Flt.num 1) (Flt.num 2) (1 / 10) (25 / 2) [(0, 2), (1, 3)] = exSRR := by decide +kernel

/-- exact evaluation (`fl = id`, what the driver runs) satisfies the rounding hypothesis -/
example : ∀ x : Rat, |id x - x| ≤ |x| / 2 ^ 53 := by
  intro x; simp only [id, sub_self, abs_zero]; exact div_nonneg (abs_nonneg x) (by norm_num)

/-- `finishInfo_spec` on examples: `Name` is the stem when none is stored and the stored one otherwise; a stored `File Path` is
overwritten -/
example : dictGet (finishInfo ⟨['s'], ['/','s']⟩ ['1'] [(['k'], ['v'])]) kName = some ['s']
    ∧ dictGet (finishInfo ⟨['s'], ['/','s']⟩ ['1'] [(kName, ['n']), (kFilePath, ['o'])]) kName = some ['n']
    ∧ dictGet (finishInfo ⟨['s'], ['/','s']⟩ ['1'] [(kName, ['n']), (kFilePath, ['o'])]) kFilePath = some ['/','s'] := by
  decide +kernel

/-- **Saving then loading gives the laser back**: for every laser inside the quantifier (`Laser.ok`, which
asks for one calibration per element **in any order of the calibration dict**) `load (save L)` succeeds
and returns `normalise L`: data, dtypes, names and configuration identical, every element with the
calibration the saved laser held under that element's name (`calByName`); info with tabs as spaces,
without the old `File Path`, plus `Name` / `File Path` / `File Version`. -/
theorem load_save (fl : Rat → Rat) (hfl : ∀ x, |fl x - x| ≤ |x| / 2 ^ 53) (p : PathInfo) (ver time : Str)
    (L : Laser) (hL : L.ok = true) (hv : versionOk ver = true) (ht : noNulEnd time = true) :
    (save fl ver time L >>= load fl p) = .ok (normalise p ver L) := by
  have F := okFacts L hL
  obtain ⟨d, hd, -, -⟩ := data_roundtrip L F.layers F.native
  obtain ⟨hdig, h7, h8⟩ := (versionOk_iff ver).mp hv
  simp only [save, cal_nonempty L F, hd, bind, Except.bind, pure, Except.pure, Bool.false_eq_true, if_false]
  exact load_written fl hfl p L F _ ver (infoSpec L.info) L.cal hd rfl
    (loadHeader_new _ ver _ time rfl (not_mem_of_digits_dots ver hdig '\t' rfl)
      (tab_not_mem_classOf L.config) ht)
    (loadInfo_packed _ ver L.info h7 rfl F.info)
    ((loadCal_new _ ver _ h8 rfl).trans (congrArg _ (calibrations_roundtrip L.cal F.cnodup
      (fun kc hkc => F.nul kc.1 (F.csub kc.1 (List.mem_map_of_mem hkc))) F.cal)))
    (defaults_update L.fields L.cal F.nodup F.cnodup F.csub)

/-- a 2-element raster laser: a 3-point `1/x` calibration with a half-NaN row, a custom-weight
calibration of another length, info with colliding keys and a `File Path` -/
def exLaser : Laser :=
  { kind := .laser, fields := [(['A'], ['<','f','8']), (['B','\t','b'], ['<','f','4'])],
    layers := [⟨[1, 2], [[1, 2], [3, 4]]⟩],
    cal := [(['A'], exCalX), (['B','\t','b'], exCalCustom)],
    config := .raster (Flt.num 1) (Flt.num 2) (Flt.num 3),
    info := [(['a','\t','b'], ['1']), (['a',' ','b'], ['2','\t']), (kFilePath, ['x'])] }

/-- a 2-layer SRR laser with SRRConfig((0,2),(1,3)) -/
def exSRRLaser : Laser :=
  { kind := .srr, fields := [(['A'], ['<','f','8'])],
    layers := [⟨[1, 2], [[1], [2]]⟩, ⟨[1, 2], [[3], [4]]⟩],
    cal := [(['A'], Cal.default)], config := .srr exSRR, info := [] }

/-- non-vacuity of `load_save` -/
example : exLaser.ok = true ∧ exSRRLaser.ok = true := by decide +kernel

/-- the same laser after `c = laser.calibration.pop("A"); laser.calibration["A"] = c`: the calibration
dict lists `A` last, the data fields are unchanged; inside the quantifier, and its by-name form is the
dict of `exLaser` -/
def exLaserPerm : Laser := { exLaser with cal := [(['B','\t','b'], exCalCustom), (['A'], exCalX)] }

example : exLaserPerm.ok = true ∧ keys exLaserPerm.cal ≠ keys exLaserPerm.fields
    ∧ calByName exLaserPerm.fields exLaserPerm.cal = exLaser.cal := by decide +kernel

/-- **A laser without elements cannot be saved**: `pack_calibration` takes `max()` of an empty
sequence.  (`Laser.ok` therefore asks for an element.) -/
theorem save_no_elements (fl : Rat → Rat) (ver time : Str) (L : Laser) (h : L.cal = []) :
    save fl ver time L = .error .valueError := by
  simp [save, h]; rfl

/-- the constructors give one calibration per element: no element, no calibration -/
example : (mkLaser .laser [] [⟨[1, 1], [[]]⟩] [] (.raster fzero fzero fzero) []).cal = [] := rfl

theorem ok_has_element (L : Laser) (h : L.ok = true) : L.fields ≠ [] :=
  (okFacts L h).ne

/-- **Loading is a fixpoint.**  Let `L₁ = normalise L` be what the first load returns.  Then saving
and loading `L₁` again succeeds, the result is the same Python object as `L₁` (all fields equal,
the info dicts equal as mappings — only `File Path` has moved to the end of the insertion order),
and from then on nothing changes at all.  Hypotheses beyond `load_save`: no info value ends in NUL
(any of them can become the last one), the file stem has no tab (it becomes the `Name`) and no
trailing NUL. -/
theorem load_fixpoint (fl : Rat → Rat) (hfl : ∀ x, |fl x - x| ≤ |x| / 2 ^ 53) (p : PathInfo) (ver time : Str)
    (L : Laser) (hL : L.ok = true) (hv : versionOk ver = true) (ht : noNulEnd time = true)
    (hi : infoNoNul L.info = true) (hst : tabFree p.stem = true) (hsn : noNulEnd p.stem = true) :
    (save fl ver time (normalise p ver L) >>= load fl p) = .ok (normalise p ver (normalise p ver L))
    ∧ (normalise p ver (normalise p ver L)).same (normalise p ver L)
    ∧ normalise p ver (normalise p ver (normalise p ver L)) = normalise p ver (normalise p ver L) := by
  have g := loadedInfo_finishInfo p ver L.info hst hv
  refine ⟨load_save fl hfl p ver time _ (ok_normalise p ver L hL hi hsn (noNulEnd_of_versionOk ver hv)).1 hv ht, ?_,
    normalise_fixpoint p ver L hst hv⟩
  rw [normalise_normalise p ver L g]
  exact ⟨rfl, rfl, rfl, fun _ => rfl, rfl, dictGet_moveEnd _ kFilePath p.resolved g.fpath⟩

/-- **Chains of any length.**  One generation gives `normalise L`; every chain of two or more
generations gives exactly `normalise (normalise L)`, which is the same object as `normalise L`
(`load_fixpoint`). -/
theorem generations_fixpoint (fl : Rat → Rat) (hfl : ∀ x, |fl x - x| ≤ |x| / 2 ^ 53) (p : PathInfo) (ver time : Str)
    (L : Laser) (hL : L.ok = true) (hv : versionOk ver = true) (ht : noNulEnd time = true)
    (hi : infoNoNul L.info = true) (hst : tabFree p.stem = true) (hsn : noNulEnd p.stem = true) (n : Nat) :
    generations fl ver time p 1 L = .ok (normalise p ver L)
    ∧ generations fl ver time p (n + 2) L = .ok (normalise p ver (normalise p ver L)) := by
  have gen := fun n => generations_eq_iterate fl ver time p (normalise p ver)
    (fun L => L.ok = true ∧ infoNoNul L.info = true)
    (fun L h => load_save fl hfl p ver time L h.1 hv ht)
    (fun L h => ok_normalise p ver L h.1 h.2 hsn (noNulEnd_of_versionOk ver hv)) n L ⟨hL, hi⟩
  -- `normalise^[n + 2] L` is `normalise^[n]` of the fixpoint `normalise (normalise L)`
  exact ⟨gen 1, (gen (n + 2)).trans (congrArg _
    (Function.iterate_fixed (normalise_fixpoint p ver L hst hv) n))⟩

/-- non-vacuity of the fixpoint hypotheses: info with colliding keys and a `File Path` entry -/
example : infoNoNul [(['a','\t','b'], ['1']), (['a',' ','b'], ['2','\t']), (kFilePath, ['x', NUL])] = true
    ∧ tabFree ['l','a','s','e','r'] = true ∧ noNulEnd ['l','a','s','e','r'] = true
    ∧ versionOk ['0','.','1','0','.','2'] = true := by decide +kernel

/-- **Old layouts against their specification.**  A 0.6-layout file describing `L` and declaring
version `ver` loads to `specOld`: to the laser with its name when `ver` is of the 0.6 generation, and
is rejected with `ValueError` when `ver` is older than 0.6.0 or not comparable with it.  (A 0.6-layout
file declaring 0.7.0 or newer lacks the members that version is expected to have; the property does
not speak about such files, `hv` excludes them.) -/
theorem loadV06_eq_spec (fl : Rat → Rat) (hfl : ∀ x, |fl x - x| ≤ |x| / 2 ^ 53) (p : PathInfo) (ver : Str)
    (L : Laser) (hL : L.ok = true) (hvn : noNulEnd ver = true)
    (hname : noNulEnd ((dictGet L.info kName).getD []) = true)
    (hv : version06Ok ver = true ∨ cmpGe ver v060 = false) :
    (saveV06 fl ver L >>= load fl p) = specOld true p ver L := by
  have F := okFacts L hL
  obtain ⟨d, hd, -, -⟩ := data_roundtrip L F.layers F.native
  rw [saveV06, hd, stripNul_of_noNulEnd ver hvn, stripNul_of_noNulEnd _ hname, specOld_eq]
  refine load_old_eq fl hfl p L F _ ver _ hd rfl rfl rfl rfl rfl fun h6 => ?_
  obtain ⟨-, -, h7, h8⟩ := (version06Ok_iff ver).mp (hv.resolve_right (h6 ▸ Bool.noConfusion))
  exact ⟨h8, loadInfo_old _ ver _ h7 rfl⟩

/-- the same for the 0.7 layout -/
theorem loadV07_eq_spec (fl : Rat → Rat) (hfl : ∀ x, |fl x - x| ≤ |x| / 2 ^ 53) (p : PathInfo) (ver : Str)
    (L : Laser) (hL : L.ok = true) (hvn : noNulEnd ver = true)
    (hv : version07Ok ver = true ∨ cmpGe ver v060 = false) :
    (saveV07 fl ver L >>= load fl p) = specOld false p ver L := by
  have F := okFacts L hL
  obtain ⟨d, hd, -, -⟩ := data_roundtrip L F.layers F.native
  rw [saveV07, hd, stripNul_of_noNulEnd ver hvn, specOld_eq]
  refine load_old_eq fl hfl p L F _ ver _ hd rfl rfl rfl rfl rfl fun h6 => ?_
  obtain ⟨-, -, h7, h8⟩ := (version07Ok_iff ver).mp (hv.resolve_right (h6 ▸ Bool.noConfusion))
  exact ⟨h8, loadInfo_packed _ ver L.info h7 rfl F.info⟩

/-- both branches of the hypothesis are inhabited: generation versions with a non-numeric tail or
fewer components, rejected and uncomparable versions -/
example : version06Ok ['0','.','6','.','0','.','x'] = true ∧ version06Ok ['0','.','6'] = true
    ∧ version07Ok ['0','.','7','.','3','.','d','e','v','1'] = true
    ∧ cmpGe ['0','.','5','.','9'] v060 = false ∧ cmpGe ['0','.','6','.','0','r','c','1'] v060 = false
    ∧ cmpGe ['0','.','x'] v060 = false := by decide +kernel

/-- a 0.7-generation file of `L` (`_version`, `_class`, packed info, one `calibration_<element>`
member per element, each with its own length) loads to `normalise L` with that file version -/
theorem load_saveV07 (fl : Rat → Rat) (hfl : ∀ x, |fl x - x| ≤ |x| / 2 ^ 53) (p : PathInfo) (ver : Str)
    (L : Laser) (hL : L.ok = true) (hv : version07Ok ver = true) :
    (saveV07 fl ver L >>= load fl p) = .ok (normalise p ver L) := by
  obtain ⟨hn, h6, -⟩ := (version07Ok_iff ver).mp hv
  rw [loadV07_eq_spec fl hfl p ver L hL hn (Or.inl hv), specOld_eq, if_pos h6]
  rfl

/-- a 0.6-generation file of `L` (only a `name` member instead of the info) loads to `L` with the
info reduced to its name -/
theorem load_saveV06 (fl : Rat → Rat) (hfl : ∀ x, |fl x - x| ≤ |x| / 2 ^ 53) (p : PathInfo) (ver : Str)
    (L : Laser) (hL : L.ok = true) (hv : version06Ok ver = true)
    (hname : noNulEnd ((dictGet L.info kName).getD []) = true) :
    (saveV06 fl ver L >>= load fl p) = .ok (normaliseV06 p ver L) := by
  obtain ⟨hn, h6, -⟩ := (version06Ok_iff ver).mp hv
  rw [loadV06_eq_spec fl hfl p ver L hL hn hname (Or.inl hv), specOld_eq, if_pos h6]
  rfl

/-- **The three layouts agree.**  Files describing `L` in the 0.6, 0.7 and 0.8+ layouts all load,
and to the same laser: identical kind, fields, data layers and configuration, every element with the
calibration `L` holds under its name (whatever the order of `L`'s calibration dict); the
0.7 and 0.8+ infos are both `infoSpec L.info` finished with their own file version, the 0.6 info
is the name finished the same way. -/
theorem layouts_agree (fl : Rat → Rat) (hfl : ∀ x, |fl x - x| ≤ |x| / 2 ^ 53) (p : PathInfo)
    (ver time v07 v06 : Str) (L : Laser) (hL : L.ok = true) (hv : versionOk ver = true) (ht : noNulEnd time = true)
    (h7 : version07Ok v07 = true) (h6 : version06Ok v06 = true)
    (hname : noNulEnd ((dictGet L.info kName).getD []) = true) :
    ∃ A B C, (saveV06 fl v06 L >>= load fl p) = .ok A ∧ (saveV07 fl v07 L >>= load fl p) = .ok B ∧
      (save fl ver time L >>= load fl p) = .ok C ∧
      (A.kind = L.kind ∧ A.fields = L.fields ∧ A.layers = L.layers ∧ A.cal = calByName L.fields L.cal ∧ A.config = L.config) ∧
      (B.kind = L.kind ∧ B.fields = L.fields ∧ B.layers = L.layers ∧ B.cal = calByName L.fields L.cal ∧ B.config = L.config) ∧
      (C.kind = L.kind ∧ C.fields = L.fields ∧ C.layers = L.layers ∧ C.cal = calByName L.fields L.cal ∧ C.config = L.config) ∧
      A.info = finishInfo p v06 [(kName, (dictGet L.info kName).getD [])] ∧
      B.info = finishInfo p v07 (infoSpec L.info) ∧ C.info = finishInfo p ver (infoSpec L.info) :=
  ⟨_, _, _, load_saveV06 fl hfl p v06 L hL h6 hname, load_saveV07 fl hfl p v07 L hL h7,
    load_save fl hfl p ver time L hL hv ht,
    ⟨rfl, rfl, rfl, rfl, rfl⟩, ⟨rfl, rfl, rfl, rfl, rfl⟩, ⟨rfl, rfl, rfl, rfl, rfl⟩, rfl, rfl, rfl⟩

example : version06Ok ['0','.','6','.','1','2'] = true ∧ version06Ok ['0','.','6'] = true
    ∧ version07Ok ['0','.','7','.','0'] = true ∧ version07Ok ['0','.','7','.','1','0'] = true
    ∧ version07Ok ['0','.','1','0','.','2'] = false ∧ version06Ok ['0','.','5','.','9'] = false := by decide +kernel

def exPath : PathInfo := ⟨['s'], ['/','s']⟩

/-- **Old files upgrade cleanly.**  Load a 0.6- or 0.7-layout file of `L`, save the loaded object with
the current `save` and load that file: the result is `normalise` (current version) of what the old file
loaded to — data, calibrations (by name) and configuration of `L`, the info the old layout carried, and
`File Version` now the current one.  Hypotheses beyond those of `load_saveV06` / `load_saveV07`: the
current version string is one `save` writes, no info value and neither the name nor the file stem ends
in NUL. -/
theorem old_layout_upgrade (fl : Rat → Rat) (hfl : ∀ x, |fl x - x| ≤ |x| / 2 ^ 53) (p : PathInfo)
    (ver time v07 v06 : Str) (L : Laser) (hL : L.ok = true) (hv : versionOk ver = true) (ht : noNulEnd time = true)
    (h7 : version07Ok v07 = true) (h6 : version06Ok v06 = true)
    (hname : noNulEnd ((dictGet L.info kName).getD []) = true)
    (hi : infoNoNul L.info = true) (hsn : noNulEnd p.stem = true) :
    (saveV06 fl v06 L >>= load fl p >>= fun L1 => save fl ver time L1 >>= load fl p)
        = .ok (normalise p ver (normaliseV06 p v06 L))
    ∧ (saveV07 fl v07 L >>= load fl p >>= fun L1 => save fl ver time L1 >>= load fl p)
        = .ok (normalise p ver (normalise p v07 L)) := by
  constructor
  · rw [load_saveV06 fl hfl p v06 L hL h6 hname]
    exact load_save fl hfl p ver time _ (ok_loaded p v06 L hL [(kName, (dictGet L.info kName).getD [])]
      (fun kv hkv => List.mem_singleton.mp hkv ▸ hname) hsn ((version06Ok_iff v06).mp h6).1).1 hv ht
  · rw [load_saveV07 fl hfl p v07 L hL h7]
    exact load_save fl hfl p ver time _ (ok_normalise p v07 L hL hi hsn ((version07Ok_iff v07).mp h7).1).1 hv ht

/-- after the upgrade `File Version` is the current version, whatever the old file declared -/
example : dictGet (normalise exPath ['0','.','1','0','.','2'] (normaliseV06 exPath ['0','.','6','.','7'] exLaser)).info kFileVersion
    = some ['0','.','1','0','.','2'] := by decide +kernel

example : legacyOf (classOf (.raster fzero fzero fzero)) = ['L','a','s','e','r']
    ∧ legacyOf (classOf (.srr exSRR)) = ['S','R','R','L','a','s','e','r']
    ∧ legacyOf (classOf (.spot fzero fzero)) = ['S','p','o','t'] := by decide +kernel

/-- a 0.7-layout file written with the legacy class names loads to the same laser -/
theorem load_saveV07_legacy (fl : Rat → Rat) (hfl : ∀ x, |fl x - x| ≤ |x| / 2 ^ 53) (p : PathInfo) (ver : Str)
    (L : Laser) (hL : L.ok = true) (hv : version07Ok ver = true) :
    ((saveV07 fl ver L).map (·.mapCls legacyOf) >>= load fl p) = .ok (normalise p ver L) :=
  (legacy_bind_load fl p _).trans (load_saveV07 fl hfl p ver L hL hv)

/-- the same for the 0.6 layout -/
theorem load_saveV06_legacy (fl : Rat → Rat) (hfl : ∀ x, |fl x - x| ≤ |x| / 2 ^ 53) (p : PathInfo) (ver : Str)
    (L : Laser) (hL : L.ok = true) (hv : version06Ok ver = true)
    (hname : noNulEnd ((dictGet L.info kName).getD []) = true) :
    ((saveV06 fl ver L).map (·.mapCls legacyOf) >>= load fl p) = .ok (normaliseV06 p ver L) :=
  (legacy_bind_load fl p _).trans (load_saveV06 fl hfl p ver L hL hv hname)

/-- files whose declared version is older than 0.6.0, or cannot be compared with it (a non-numeric
component reached before a difference; numeric as `parseNat` reads it, ASCII digits only — a component like `+7` or
`1_0`, which Python's `int()` accepts, counts as non-numeric here and is not modelled), are rejected with `ValueError`
whatever else they contain -/
theorem load_rejects (fl : Rat → Rat) (p : PathInfo) (f : NpzFile) (v : Str) (hh : f.header = none)
    (hv : f.version = some v) (hlt : cmpGe v v060 = false) : load fl p f = .error .valueError := by
  rw [load, loadHeader_old f v hh hv, hlt]
  rfl

/-- files older than 0.6.0 are rejected with `ValueError` whatever else they contain -/
theorem load_rejects_old (fl : Rat → Rat) (p : PathInfo) (f : NpzFile) (v : Str) (hh : f.header = none)
    (hv : f.version = some v) (hlt : cmpLt v v060 = true) : load fl p f = .error .valueError :=
  load_rejects fl p f v hh hv (cmpGe_of_cmpLt v v060 hlt)

/-- **Every element comes back with its own calibration.**  For a laser inside the quantifier —
whatever the order of its calibration dict — the loaded laser's calibration dict has the elements as
keys, in element order, and holds under every key exactly what the saved laser held under it: the two
dicts are equal as Python dicts. -/
theorem load_save_calibration_by_name (fl : Rat → Rat) (hfl : ∀ x, |fl x - x| ≤ |x| / 2 ^ 53) (p : PathInfo)
    (ver time : Str) (L : Laser) (hL : L.ok = true) (hv : versionOk ver = true) (ht : noNulEnd time = true) :
    ∃ R, (save fl ver time L >>= load fl p) = .ok R ∧ keys R.cal = keys L.fields
      ∧ ∀ k, dictGet R.cal k = dictGet L.cal k :=
  ⟨_, load_save fl hfl p ver time L hL hv ht, keys_calByName _ _, dictGet_calByName_ok L (okFacts L hL)⟩

/-- **The order of the calibration dict is irrelevant**: saving the laser with its calibration dict in
any other order (any permutation `d` of it: an entry popped and re-inserted, the dict reassigned,
rebuilt by `rename`) and loading gives the same object as saving and loading the laser itself. -/
theorem load_save_cal_order_irrelevant (fl : Rat → Rat) (hfl : ∀ x, |fl x - x| ≤ |x| / 2 ^ 53) (p : PathInfo)
    (ver time : Str) (L : Laser) (hL : L.ok = true) (hv : versionOk ver = true) (ht : noNulEnd time = true)
    (d : List (Str × Cal)) (hd : d.Perm L.cal) :
    (save fl ver time { L with cal := d } >>= load fl p) = (save fl ver time L >>= load fl p) := by
  obtain ⟨hL', hnorm⟩ := ok_perm L hL d hd
  rw [load_save fl hfl p ver time _ hL' hv ht, load_save fl hfl p ver time L hL hv ht, hnorm]

/-- non-vacuity: `exLaserPerm` is `exLaser` with a permuted calibration dict -/
example : exLaserPerm.cal.Perm exLaser.cal := List.Perm.swap _ _ _

/-- the same for the two historical layouts: the per-element members are looked up by name -/
theorem load_saveV07_cal_order_irrelevant (fl : Rat → Rat) (hfl : ∀ x, |fl x - x| ≤ |x| / 2 ^ 53) (p : PathInfo)
    (ver : Str) (L : Laser) (hL : L.ok = true) (hv : version07Ok ver = true)
    (d : List (Str × Cal)) (hd : d.Perm L.cal) :
    (saveV07 fl ver { L with cal := d } >>= load fl p) = (saveV07 fl ver L >>= load fl p) := by
  obtain ⟨hL', hnorm⟩ := ok_perm L hL d hd
  rw [load_saveV07 fl hfl p ver _ hL' hv, load_saveV07 fl hfl p ver L hL hv, hnorm]

/-- `compare_version` compares the numeric components pairwise, first difference decides, and a
common prefix compares equal: for all version strings whose components are decimal numbers -/
theorem compareVersion_spec (va vb : Str) (as bs : List Nat)
    (ha : (splitOn '.' va).mapM parseNat = .ok as) (hb : (splitOn '.' vb).mapM parseNat = .ok bs) :
    compareVersion va vb = .ok (lexZip as bs) := by
  rw [mapM_parseNat] at ha hb
  split at ha <;> cases ha
  split at hb <;> cases hb
  exact cmpComponents_of_isNum _ _ ‹_› ‹_›

theorem lexZip_antisymm (as bs : List Nat) : lexZip bs as = - lexZip as bs := by
  induction as generalizing bs with
  | nil => cases bs <;> rfl
  | cons a as ih =>
    cases bs with
    | nil => rfl
    | cons b bs =>
      rcases Nat.lt_trichotomy a b with h | h | h
      · simp only [lexZip, gt_iff_lt, if_pos h, if_neg (Nat.lt_asymm h)]
        rfl
      · simp only [lexZip, h, gt_iff_lt, Nat.lt_irrefl, if_false]
        exact ih bs
      · simp only [lexZip, gt_iff_lt, if_pos h, if_neg (Nat.lt_asymm h)]

/-- "0.10.2" is newer than "0.8.0" (numeric, not lexicographic on characters); "0.6" and "0.6.0"
compare equal; "0.5.12" is older than "0.6.0" -/
example : compareVersion ['0','.','1','0','.','2'] v080 = .ok 1 ∧ compareVersion ['0','.','6'] v060 = .ok 0
    ∧ compareVersion ['0','.','5','.','1','2'] v060 = .ok (-1) := by decide +kernel

/-- "0.6.0.x" (non-numeric tail beyond the three components of "0.6.0") compares equal; "1.x" is newer
(decided before `x` is read); "0.x" and "0.6.0rc1" raise; the lengths may differ either way -/
example : compareSpec ['0','.','6','.','0','.','x'] v060 = .ok 0 ∧ compareSpec ['1','.','x'] v060 = .ok 1
    ∧ compareSpec ['0','.','x'] v060 = .error .valueError
    ∧ compareSpec ['0','.','6','.','0','r','c','1'] v060 = .error .valueError
    ∧ compareSpec ['0','.','7'] v060 = .ok 1 ∧ compareSpec ['0'] v060 = .ok 0
    ∧ compareSpec ['0','.','5','.','x'] v060 = .ok (-1) := by decide +kernel

/-- **Every file of a history describes the object as it is at that moment.**  Run any sequence of
steps — calls of the public mutators (`Op`: calibration dict and calibration edits, info edits,
configuration attributes, `warmup` and `subpixel_offsets` setters, `set_equal_subpixel_offsets`,
configuration replaced, `add` / `remove` / `rename`), `save` + `load`, going on with the loaded object —
through the mechanism (`save` writes a file, `load` reads it).  If every state that gets saved is inside
the quantifier (`historyOk`), the object returned by each load is `normalise` of the state the laser had
when it was saved (`specHistory` never looks at a file, let alone an earlier one). -/
theorem history_roundtrip (fl : Rat → Rat) (hfl : ∀ x, |fl x - x| ≤ |x| / 2 ^ 53) (ver time : Str)
    (hv : versionOk ver = true) (ht : noNulEnd time = true)
    (steps : List Step) (cur : Laser) (last : Option Laser) (h : historyOk fl ver steps cur last = true) :
    runHistory fl ver time steps cur last = specHistory fl ver steps cur last := by
  induction steps generalizing cur last with
  | nil => rfl
  | cons st r ih =>
    cases st with
    | op o =>
      rw [runHistory, specHistory]
      rw [historyOk, historyOks] at h
      cases ho : applyOp fl cur o with
      | error e => rfl
      | ok c => exact ih c last (by rwa [ho] at h)
    | save p =>
      rw [historyOk, historyOks, List.all_cons, Bool.and_eq_true] at h
      rw [runHistory, specHistory, load_save fl hfl p ver time cur h.1 hv ht]
      exact congrArg _ (ih cur _ h.2)
    | adopt =>
      cases last with
      | none => rfl
      | some l => exact ih l _ h

/-- SRRConfig((0,3),(2,3)) with 6 warm-up samples at scan time 1/4 -/
def exSRR2 : SRR :=
  { spotsize := Flt.num 1, speed := Flt.num 2, scantime := 1 / 4, warmupN := 6, subSize := 3, subOffsets := [0, 2] }

def exSRRLaser2 : Laser := { exSRRLaser with config := .srr exSRR2 }

/-- save, `set_equal_subpixel_offsets(2)`, move a calibration to the end of the dict, save, go on with
the loaded object, set the warm-up to 2 s, set an info value that ends in a tab, save -/
def exSteps : List Step :=
  [.save exPath, .op (.cfg (.equalOffsets 2)), .op (.calMoveEnd ['A']), .save exPath, .adopt,
   .op (.cfg (.warmup 2)), .op (.infoSet ['k'] ['v','\t']), .save exPath]

/-- non-vacuity of `history_roundtrip`: the hypothesis holds, three files are written, the second load
has the equal offsets (size 2, offsets 0 and 1), not those of the first file, the third 8 warm-up samples -/
example : historyOk id ['0','.','1','0','.','2'] exSteps exSRRLaser2 none = true
    ∧ (specHistory id ['0','.','1','0','.','2'] exSteps exSRRLaser2 none).map (fun r => r.toOption.map (·.config))
      = [some (.srr exSRR2), some (.srr { exSRR2 with subSize := 2, subOffsets := [0, 1] }),
         some (.srr { exSRR2 with subSize := 2, subOffsets := [0, 1], warmupN := 8 })] := by
  decide +kernel

/-- `c = laser.calibration.pop(k); laser.calibration[k] = c` keeps a laser inside the quantifier, moves
the entry to the end of the dict and changes nothing of the mapping -/
theorem calMoveEnd_ok (fl : Rat → Rat) (L : Laser) (hL : L.ok = true) (k : Str) (hk : k ∈ keys L.cal) :
    ∃ L', applyOp fl L (.calMoveEnd k) = .ok L' ∧ L'.ok = true
      ∧ keys L'.cal = (keys L.cal).filter (· ≠ k) ++ [k] ∧ ∀ k', dictGet L'.cal k' = dictGet L.cal k' := by
  obtain ⟨c, hc⟩ := exists_dictGet_of_mem_keys L.cal k hk
  have hne := not_mem_keys_dictErase L.cal k
  have hkeys : keys (dictInsert (dictErase L.cal k) k c) = (keys L.cal).filter (· ≠ k) ++ [k] := by
    rw [keys_dictInsert_of_not_mem _ _ _ hne, keys_dictErase]
  have hget : ∀ k', dictGet (dictInsert (dictErase L.cal k) k c) k' = dictGet L.cal k' :=
    dictInsert_of_not_mem _ k c hne ▸ dictGet_moveEnd L.cal k c hc
  exact ⟨{ L with cal := dictInsert (dictErase L.cal k) k c }, by rw [applyOp, hc]; rfl,
    ok_of_same_mapping L hL _
      (nodup_keys_dictInsert _ _ _ (keys_dictErase L.cal k ▸ (okFacts L hL).cnodup.filter _)) hget,
    hkeys, hget⟩

example : applyOp id exLaser (.calMoveEnd ['A']) = .ok exLaserPerm := by decide +kernel

/-- the two writers of the sub-pixel offsets keep an SRR configuration inside the quantifier:
`set_equal_subpixel_offsets(w)` for `w ≥ 1`, the `subpixel_offsets` setter for a non-empty list of
offsets with non-zero sizes -/
theorem offsets_writers_ok (c : SRR) (hc : c.ok = true) :
    (∀ w, 0 < w → (c.setEqualOffsets w).ok = true)
    ∧ ∀ o : List (Int × Int), o ≠ [] → (∀ od ∈ o, od.2 ≠ 0) → (c.setOffsets o).ok = true := by
  obtain ⟨hs, -, -, hN⟩ := (SRR.ok_iff c).mp hc
  refine ⟨fun w hw => (SRR.ok_iff _).mpr ⟨hs, hw, fun h => by simp [SRR.setEqualOffsets, hw.ne'] at h, hN⟩,
    fun o hne hd => (SRR.ok_iff _).mpr ⟨hs, lcmList_pos _ fun x hx => ?_, fun h => hne (List.map_eq_nil_iff.mp h), hN⟩⟩
  obtain ⟨od, hod, rfl⟩ := List.mem_map.mp hx
  exact hd od hod

example : (exSRR2.setEqualOffsets 4).subOffsets = [0, 1, 2, 3] ∧ (exSRR2.setOffsets [(0, 2), (1, 3), (2, 4)]).subSize = 12
    ∧ (exSRR2.setOffsets [(0, 2), (1, 3), (2, 4)]).subOffsets = [0, 4, 6] := by decide +kernel

/-- **Configuration calls keep the configuration inside the quantifier and never change its class**:
every attribute assignment, the `subpixel_offsets` setter (non-zero sizes), `set_equal_subpixel_offsets`
and the `warmup` setter (at most 2⁵⁰ samples) applied to a configuration that is `Config.ok` give one that
is — so `config_roundtrip`, hence `history_roundtrip`, applies to the file written after the call. -/
theorem config_calls_ok (fl : Rat → Rat) (c c' : Config) (hc : c.ok = true) (o : CfgOp) (h : c.apply fl o = .ok c')
    (ho : match o with
      | .offsets ofs => ∀ od ∈ ofs, od.2 ≠ 0
      | .warmup s => ∀ r, c = .srr r → (roundHalfEven (fl (s / r.scantime))).natAbs ≤ 2 ^ 50
      | _ => True) : c'.ok = true ∧ c'.isSRR = c.isSRR := by
  cases c with
  | raster a b d => cases o <;> cases h <;> exact ⟨rfl, rfl⟩
  | spot a b => cases o <;> cases h <;> exact ⟨rfl, rfl⟩
  | srr r =>
    have hr : r.ok = true := hc
    obtain ⟨hs, hsz, hoff, hN⟩ := (SRR.ok_iff r).mp hr
    cases o with
    | spotsize f => cases h; exact ⟨hr, rfl⟩
    | speed f => cases h; exact ⟨hr, rfl⟩
    | spotsizeY f => cases h
    | scantime f =>
      rw [Config.apply] at h
      split at h
      · split at h
        · next hq => cases h; exact ⟨(SRR.ok_iff _).mpr ⟨hq, hsz, hoff, hN⟩, rfl⟩
        · cases h
      · cases h
    | warmup s => cases h; exact ⟨(SRR.ok_iff _).mpr ⟨hs, hsz, hoff, ho r rfl⟩, rfl⟩
    | offsets ofs =>
      rw [Config.apply] at h
      split at h
      · cases h
      · next hne => cases h; exact ⟨(offsets_writers_ok r hr).2 ofs hne ho, rfl⟩
    | equalOffsets w =>
      rw [Config.apply] at h
      split at h
      · cases h
      · next hw => cases h; exact ⟨(offsets_writers_ok r hr).1 w (Nat.pos_of_ne_zero hw), rfl⟩

example : (Config.srr exSRR2).apply id (.equalOffsets 3) = .ok (.srr { exSRR2 with subSize := 3, subOffsets := [0, 1, 2] })
    ∧ (Config.srr exSRR2).apply id (.scantime (fltOfRat (1 / 2))) = .ok (.srr { exSRR2 with scantime := 1 / 2 })
    ∧ (Config.raster fzero fzero fzero).apply id (.equalOffsets 3) = .error .unmodelled := by decide +kernel

/-- the `warmup` setter under float rounding: when the exact quotient `seconds / scantime` is at most
2⁴⁰ in size and at least 2⁻¹⁰ away from every half-integer (`warmupDetermined`, evaluated by the driver
for every generated history), every rounding function within relative error 2⁻⁵³ gives the number of
samples the exact evaluation gives -/
theorem warmup_setter_robust (fl : Rat → Rat) (hfl : ∀ x, |fl x - x| ≤ |x| / 2 ^ 53) (c : SRR) (seconds : Rat)
    (h : warmupDetermined seconds c.scantime = true) : c.setWarmup fl seconds = c.setWarmup id seconds := by
  simp only [SRR.setWarmup, id, setWarmup_robust fl hfl seconds c.scantime h]

example : warmupDetermined (43 / 10) (1 / 10) = true ∧ warmupDetermined (5 / 4) (1 / 2) = false := by decide +kernel

/-- the SRR constructor under float rounding: when the exact quotient `warmup / scantime` is decided
(`warmupDetermined`), every rounding function within relative error 2⁻⁵³ builds the state the exact
evaluation builds (the driver constructs the initial state of a history exactly) -/
theorem srr_constructor_robust (fl : Rat → Rat) (hfl : ∀ x, |fl x - x| ≤ |x| / 2 ^ 53) (a b : Flt) (s w : Rat)
    (o : List (Int × Int)) (h : warmupDetermined w s = true) : SRR.mk' fl a b s w o = SRR.mk' id a b s w o := by
  rw [SRR.mk'_eq_setters, SRR.mk'_eq_setters]
  exact warmup_setter_robust fl hfl _ w h

/-! ## SRR layers are stacked into a native-order array (known finding `C01-srr-byteorder`) -/

/-- `exSRRLaser` with its field stored big-endian -/
def exSRRSwapped : Laser := { exSRRLaser with fields := [(['A'], ['>','f','8'])] }

/-- **The byte order of SRR fields is not kept** — the model follows the code here, and `Laser.ok`
excludes such lasers: the stacked array `save` writes is native, so the laser loads with `'<f8'`
(and would not equal `normalise`, which keeps `'>f8'`).  A `Laser` (one array) keeps its byte order:
`load_save` covers it. -/
theorem srr_byteorder_not_kept :
    exSRRSwapped.ok = false
    ∧ (save id ['0','.','1','0','.','2'] ['0'] exSRRSwapped >>= load id exPath).map (·.fields) = .ok [(['A'], ['<','f','8'])]
    ∧ (normalise exPath ['0','.','1','0','.','2'] exSRRSwapped).fields = [(['A'], ['>','f','8'])]
    ∧ ({ exLaser with fields := [(['A'], ['>','f','8']), (['B','\t','b'], ['>','i','2'])] } : Laser).ok = true := by
  decide +kernel

end Pew.Npz
