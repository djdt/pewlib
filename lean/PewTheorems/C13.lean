import PewProofs.FiltersRounding
import PewProofs.FiltersF64
import Mathlib.Analysis.Real.Sqrt

/-! # C13 — property theorems (the registered statements mention only `PewModel.Filters` and Mathlib's `ℝ`, `|·|`; the helper
`rollingMean2_local` is stated with `win2` of `PewProofs.Filters`) -/
namespace Pew.Filters

/-! ## the window of an interior pixel is its true neighbourhood -/

/-- 1-D, any pad statistic: the window of a pixel at least `h` from both ends contains no padded
value — it is `x[i-h .. i+h]`. -/
theorem interior_window1 (stat : List Rat → Rat) (h i : Nat) (x : List Rat)
    (hi : h ≤ i) (hn : i + h < x.length) :
    slice i (2 * h + 1) (pad1 stat h x) = slice (i - h) (2 * h + 1) x :=
  slice_pad1_interior stat h i x hi hn

example : slice 2 5 (pad1 mean 2 [1, 2, 3, 4, 5, 6]) = [1, 2, 3, 4, 5] := by decide

/-- 2-D, independent odd window sizes, the axis order of the code (rows are axis 0): the window of
a pixel at least `(h0, h1)` from the borders is rows `i-h0..i+h0`, columns `j-h1..j+h1` of `x`. -/
theorem interior_window2 (stat : List Rat → Rat) (h0 h1 i j n1 : Nat) (x : List (List Rat))
    (hrect : ∀ r ∈ x, r.length = n1)
    (hi : h0 ≤ i) (hn : i + h0 < x.length) (hj : h1 ≤ j) (hm : j + h1 < n1) :
    window2 i j (2 * h0 + 1) (2 * h1 + 1) (pad2 stat h0 h1 x)
      = (slice (i - h0) (2 * h0 + 1) x).map (slice (j - h1) (2 * h1 + 1)) :=
  win2_interior stat h0 h1 i j n1 x hrect hi hn hj hm

example : window2 1 2 3 5 (pad2 median 1 2 [[1, 2, 3, 4, 5], [6, 7, 8, 9, 10], [11, 12, 13, 14, 15]])
    = [[1, 2, 3, 4, 5], [6, 7, 8, 9, 10], [11, 12, 13, 14, 15]] := by decide

/-! ## the masked element of window i is pixel i (every pixel, border included) -/

theorem centre_is_self1 (stat : List Rat → Rat) (h i : Nat) (x : List Rat) (hi : i < x.length) :
    (slice i (2 * h + 1) (pad1 stat h x))[h]? = some x[i] := by
  rw [getElem?_slice, if_pos (by omega)]
  unfold pad1
  rw [getElem?_padEnds, if_neg (by omega), if_pos (by omega)]
  simp [hi]

theorem centre_is_self2 (stat : List Rat → Rat) (h0 h1 i j : Nat) (x : List (List Rat))
    (hi : i < x.length) (hj : j < x[i].length) :
    ((window2 i j (2 * h0 + 1) (2 * h1 + 1) (pad2 stat h0 h1 x))[h0]?).bind (fun r => r[h1]?)
      = some (x[i][j]) := by
  unfold window2 pad2
  rw [List.getElem?_map, getElem?_slice, if_pos (by omega), List.getElem?_map, getElem?_padEnds,
    if_neg (by omega), if_pos (by omega)]
  have e : i + h0 - h0 = i := by omega
  simp only [e, List.getElem?_eq_getElem hi, Option.map_some, Option.bind_some]
  exact centre_is_self1 stat h1 j x[i] hj

/-! ## the squared outlier test is the code's test -/

/-- For a threshold `t ≥ 0` and a variance `v ≥ 0`, the model's squared test `d² > t²·v` is the
code's `|d| > t·σ` with `σ = √v` (over the reals, where the standard deviation lives). -/
theorem sq_form_iff (d t v : Rat) (ht : 0 ≤ t) (hv : 0 ≤ v) :
    (|(d : ℝ)| > (t : ℝ) * Real.sqrt (v : ℝ)) ↔ d * d > t * t * v := by
  have ha : (0 : ℝ) ≤ (t : ℝ) * Real.sqrt (v : ℝ) := mul_nonneg (by exact_mod_cast ht) (Real.sqrt_nonneg _)
  have hv' : (0 : ℝ) ≤ (v : ℝ) := by exact_mod_cast hv
  have e1 : ((t : ℝ) * Real.sqrt (v : ℝ)) ^ 2 = (t : ℝ) * t * v := by
    rw [mul_pow, Real.sq_sqrt hv']; ring
  have e2 : |(d : ℝ)| ^ 2 = (d : ℝ) * d := by rw [sq_abs]; ring
  rw [gt_iff_lt, ← pow_lt_pow_iff_left₀ ha (abs_nonneg _) (two_ne_zero), e1, e2]
  constructor
  · intro h; exact_mod_cast h
  · intro h; exact_mod_cast h

/-- the variance the test is applied to is never negative -/
theorem popvar_nonneg (l : List Rat) : 0 ≤ popvar l :=
  mean_map_nonneg _ (fun _ => mul_self_nonneg _) l

/-- "By MORE than the threshold times the spread": a pixel whose deviation equals the threshold times
the spread exactly is kept — mean filter in the squared form, median filter in the linear form; one that
exceeds it is replaced.  (With `out_cases_*`: an interior pixel exactly on the boundary comes back
unchanged.  The check demands this wherever `meanDecisionExact` certifies an exact float evaluation.) -/
theorem boundary_is_kept (c : Cell) (t : Rat) :
    (c.d * c.d = t * t * c.s → c.outSq (some t) = c.x) ∧ (c.d = t * c.s → c.outLin (some t) = c.x) ∧
    (c.d * c.d > t * t * c.s → c.outSq (some t) = c.repl) ∧ (c.d > t * c.s → c.outLin (some t) = c.repl) := by
  refine ⟨fun h => ?_, fun h => ?_, fun h => ?_, fun h => ?_⟩
  · simp [Cell.outSq, Cell.outlierSq, h]
  · simp [Cell.outLin, Cell.outlierLin, h]
  · simp [Cell.outSq, Cell.outlierSq, h]
  · simp [Cell.outLin, Cell.outlierLin, h]

/-- the planted window of the tie class: neighbours `2, 18, 2, 18` (mean 10, variance 64), pixel `25`
(window mean 13, deviation 12), threshold `3/2`: `12² = (3/2)²·64`, kept; pixel `30` is replaced; and a
float evaluation of the first is exact (`meanDecisionExact`, binary64) -/
example : (specMeanCell1 2 [2, 18, 25, 2, 18] 2).d = 12 ∧ (specMeanCell1 2 [2, 18, 25, 2, 18] 2).s = 64 ∧
    (specMeanCell1 2 [2, 18, 25, 2, 18] 2).outSq (some (3 / 2)) = 25 ∧
    (specMeanCell1 2 [2, 18, 30, 2, 18] 2).outSq (some (3 / 2)) = 10 ∧
    meanDecisionExact 53 (-1074) (some (3 / 2)) 25 [2, 18, 25, 2, 18] [2, 18, 2, 18] = true ∧
    meanDecisionExact 53 (-1074) (some (3 / 2)) (1 / 10) [1 / 10, 1 / 5, 1 / 10] [1 / 10, 1 / 10] = false := by
  decide +kernel

/-! ## interior pixels do not depend on how the border is padded

`np.pad` rounds the pad values of an integer image to integers (half to even) before the windows are
cut; the model's `meanCellsP*` / `medianCellsP*` take the pad statistic as a parameter (`π = rint ∘ mean`
for integer images; `meanCells*` / `medianCells*` are the instances with the exact statistic).  Whatever
the pad statistic, the cell of an interior pixel is the cell of the definition. -/

theorem cells_are_P (b b0 b1 : Nat) (x : List Rat) (y : List (List Rat)) :
    meanCells1 b x = meanCellsP1 mean b x ∧ meanCells2 b0 b1 y = meanCellsP2 mean b0 b1 y ∧
    medianCells1 b x = medianCellsP1 median median b x ∧
    medianCells2 b0 b1 y = medianCellsP2 median median b0 b1 y := ⟨rfl, rfl, rfl, rfl⟩

theorem interior_any_pad_mean2 (π : List Rat → Rat) (h0 h1 n1 : Nat) (x : List (List Rat)) (i j : Nat)
    (hrect : ∀ r ∈ x, r.length = n1)
    (hi : h0 ≤ i) (hn : i + h0 < x.length) (hj : h1 ≤ j) (hm : j + h1 < n1) :
    ((meanCellsP2 π (2 * h0 + 1) (2 * h1 + 1) x)[i]?).bind (fun r => r[j]?)
      = some (specMeanCell2 h0 h1 x i j) := by
  rw [meanCellsP2, cellsG2_eq π _ h0 h1 n1 x hrect, mapIdx2_at _ x n1 i j hrect (by omega) (by omega), half_odd, half_odd,
    win2_interior π h0 h1 i j n1 x hrect hi hn hj hm,
    maskCentre2_interior h0 h1 i j n1 x hrect hi hn hj hm]
  rfl

/-- pixel (1, 2) of a 3×5 image, window 3×5 -/
example : (∀ r ∈ ([[1, 2, 3, 4, 5], [6, 7, 8, 9, 10], [11, 12, 13, 14, 15]] : List (List Rat)), r.length = 5) ∧
    (1 : Nat) ≤ 1 ∧ 1 + 1 < 3 ∧ (2 : Nat) ≤ 2 ∧ 2 + 2 < 5 := by decide

/-- 1-D: the same for a line (the image of one row). -/
theorem interior_any_pad_mean1 (π : List Rat → Rat) (h : Nat) (x : List Rat) (i : Nat)
    (hi : h ≤ i) (hn : i + h < x.length) :
    (meanCellsP1 π (2 * h + 1) x)[i]? = some (specMeanCell1 h x i) := by
  have := interior_any_pad_mean2 π 0 h x.length [x] 0 i (rect_row x) (Nat.le_refl 0) Nat.one_pos hi hn
  rwa [meanCellsP2_row, specMeanCell2_row h x i hi (by omega)] at this

/-- pixel 2 of a six-sample integer signal, window 5 -/
example : (2 : Nat) ≤ 2 ∧ 2 + 2 < ([1, 2, 4, 7, 5, 3] : List Rat).length := by decide

/-- the rounded pad of an integer image: the window of pixel 1 of `[1, 2, 4, 7, 5, 3]` (window 5) starts
with the pad value `rint (3/2) = 2`, the exact model has `3/2` there; pixel 2 sees neither -/
example : (slice 1 5 (pad1 (fun l => rint (mean l)) 2 [1, 2, 4, 7, 5, 3])).head? = some 2 ∧
    (slice 1 5 (pad1 mean 2 [1, 2, 4, 7, 5, 3])).head? = some (3 / 2) ∧
    rint (5 / 2) = 2 ∧ rint (7 / 2) = 4 ∧ rint (-5 / 2) = -2 := by decide +kernel

theorem interior_any_pad_median2 (π1 π2 : List Rat → Rat) (h0 h1 n1 : Nat) (x : List (List Rat)) (i j : Nat)
    (hrect : ∀ r ∈ x, r.length = n1)
    (hi : 2 * h0 ≤ i) (hn : i + 2 * h0 < x.length) (hj : 2 * h1 ≤ j) (hm : j + 2 * h1 < n1) :
    ((medianCellsP2 π1 π2 (2 * h0 + 1) (2 * h1 + 1) x)[i]?).bind (fun r => r[j]?)
      = some (specMedianCell2 h0 h1 x i j) := by
  obtain ⟨dl, dr⟩ := diffsP2_shape π1 h0 h1 n1 x hrect
  have a1 : h0 ≤ i := by omega
  have a2 : i + h0 < x.length := by omega
  have a3 : h1 ≤ j := by omega
  have a4 : j + h1 < n1 := by omega
  -- the window of the deviations is unpadded, the pixel being `h` from the border; a deviation in it belongs to a
  -- pixel up to `h` nearer the border, whose own window is unpadded because the pixel is `2·h` from the border
  rw [medianCellsP2_eq π1 π2 h0 h1 n1 x hrect, mapIdx2_at _ x n1 i j hrect (by omega) (by omega), medianCellAt2,
    win2_interior π2 h0 h1 i j n1 _ dr a1 (dl ▸ a2) a3 a4,
    map_slice_slice_eq _ _ _ _ _ (fun r c => diffAt2 h0 h1 x (i - h0 + r) (j - h1 + c)) (by omega)
      (fun r hr c hc => diffsP2_interior π1 h0 h1 n1 x hrect _ _ (by omega) (by omega) (by omega) (by omega)),
    win2_interior π1 h0 h1 i j n1 x hrect a1 a2 a3 a4]
  rfl

theorem interior_any_pad_median1 (π1 π2 : List Rat → Rat) (h : Nat) (x : List Rat) (i : Nat)
    (hi : 2 * h ≤ i) (hn : i + 2 * h < x.length) :
    (medianCellsP1 π1 π2 (2 * h + 1) x)[i]? = some (specMedianCell1 h x i) := by
  have := interior_any_pad_median2 π1 π2 0 h x.length [x] 0 i (rect_row x) (Nat.le_refl 0) Nat.one_pos hi hn
  rwa [medianCellsP2_row, specMedianCell2_row] at this

example : 2 * 1 ≤ 2 ∧ 2 + 2 * 1 < ([3, 1, 4, 1, 5] : List Rat).length := by decide
example : 2 * 1 ≤ 2 ∧ 2 + 2 * 1 < 5 ∧ 2 * 2 ≤ 4 ∧ 4 + 2 * 2 < 9 := by decide

/-! ## every interior pixel is the input or — exactly for outliers — the local replacement -/

/-- Mean filter, 1-D.  For a pixel at least `h` from both ends the mechanism (pad, windows, centre
mask) computes exactly the cell of the definition: deviation from the mean of the `2h+1`
neighbours, variance and mean of the `2h` neighbours without the pixel; the output is the
replacement if `(x-m)² > t²·var` and the input otherwise. -/
theorem out_cases_mean1 (h : Nat) (t : Option Rat) (x : List Rat) (i : Nat)
    (hi : h ≤ i) (hn : i + h < x.length) :
    (meanCells1 (2 * h + 1) x)[i]? = some (specMeanCell1 h x i) ∧
    (rollingMean1 (2 * h + 1) t x)[i]? =
      some (if (specMeanCell1 h x i).outlierSq t then (specMeanCell1 h x i).repl else at1 x i) := by
  have : (meanCells1 (2 * h + 1) x)[i]? = some (specMeanCell1 h x i) := interior_any_pad_mean1 mean h x i hi hn
  refine ⟨this, ?_⟩
  rw [rollingMean1, List.getElem?_map, this]
  rfl

/-- hypotheses hold for the spike at index 3 of a 7-vector, window 3 -/
example : (1 : Nat) ≤ 3 ∧ 3 + 1 < ([0, 0, 0, 9, 0, 1, 0] : List Rat).length := by decide

/-- Mean filter, 2-D, independent odd window sizes. -/
theorem out_cases_mean2 (h0 h1 n1 : Nat) (t : Option Rat) (x : List (List Rat)) (i j : Nat)
    (hrect : ∀ r ∈ x, r.length = n1)
    (hi : h0 ≤ i) (hn : i + h0 < x.length) (hj : h1 ≤ j) (hm : j + h1 < n1) :
    ((meanCells2 (2 * h0 + 1) (2 * h1 + 1) x)[i]?).bind (fun r => r[j]?)
      = some (specMeanCell2 h0 h1 x i j) ∧
    ((rollingMean2 (2 * h0 + 1) (2 * h1 + 1) t x)[i]?).bind (fun r => r[j]?) =
      some (if (specMeanCell2 h0 h1 x i j).outlierSq t then (specMeanCell2 h0 h1 x i j).repl
            else at2 x i j) := by
  have : ((meanCells2 (2 * h0 + 1) (2 * h1 + 1) x)[i]?).bind (fun r => r[j]?)
      = some (specMeanCell2 h0 h1 x i j) := interior_any_pad_mean2 mean h0 h1 n1 x i j hrect hi hn hj hm
  refine ⟨this, ?_⟩
  rw [rollingMean2, getElem?_bind_map, this]
  rfl

example : rollingMean2 3 3 (some 1) [[0, 0, 0], [0, 9, 0], [0, 0, 0]] = [[0, 0, 0], [0, 0, 0], [0, 0, 0]] := by
  decide +kernel

/-- Median filter, 1-D.  For a pixel at least `2h` from both ends (its neighbours' windows are
unpadded too): deviation from the neighbourhood median against `t · 1.4826 ·` the median of the
neighbours' own deviations; the replacement is the neighbourhood median. -/
theorem out_cases_median1 (h : Nat) (t : Option Rat) (x : List Rat) (i : Nat)
    (hi : 2 * h ≤ i) (hn : i + 2 * h < x.length) :
    (medianCells1 (2 * h + 1) x)[i]? = some (specMedianCell1 h x i) ∧
    (rollingMedian1 (2 * h + 1) t x)[i]? =
      some (if (specMedianCell1 h x i).outlierLin t then medAt1 h x i else at1 x i) := by
  have : (medianCells1 (2 * h + 1) x)[i]? = some (specMedianCell1 h x i) :=
    interior_any_pad_median1 median median h x i hi hn
  refine ⟨this, ?_⟩
  rw [rollingMedian1, List.getElem?_map, this]
  rfl

example : 2 * 1 ≤ 3 ∧ 3 + 2 * 1 < ([0, 1, 0, 9, 0, 1, 0] : List Rat).length := by decide

/-- Median filter, 2-D: pixels at least `(2·h0, 2·h1)` from the borders. -/
theorem out_cases_median2 (h0 h1 n1 : Nat) (t : Option Rat) (x : List (List Rat)) (i j : Nat)
    (hrect : ∀ r ∈ x, r.length = n1)
    (hi : 2 * h0 ≤ i) (hn : i + 2 * h0 < x.length) (hj : 2 * h1 ≤ j) (hm : j + 2 * h1 < n1) :
    ((medianCells2 (2 * h0 + 1) (2 * h1 + 1) x)[i]?).bind (fun r => r[j]?)
      = some (specMedianCell2 h0 h1 x i j) ∧
    ((rollingMedian2 (2 * h0 + 1) (2 * h1 + 1) t x)[i]?).bind (fun r => r[j]?) =
      some (if (specMedianCell2 h0 h1 x i j).outlierLin t then medAt2 h0 h1 x i j else at2 x i j) := by
  have : ((medianCells2 (2 * h0 + 1) (2 * h1 + 1) x)[i]?).bind (fun r => r[j]?)
      = some (specMedianCell2 h0 h1 x i j) :=
    interior_any_pad_median2 median median h0 h1 n1 x i j hrect hi hn hj hm
  refine ⟨this, ?_⟩
  rw [rollingMedian2, getElem?_bind_map, this]
  rfl

example : 2 * 1 ≤ 2 ∧ 2 + 2 * 1 < 5 ∧ 2 * 2 ≤ 4 ∧ 4 + 2 * 2 < 9 := by decide

/-! ## the output has the shape of the input -/

theorem shape_preserved2_mean (h0 h1 n1 : Nat) (t : Option Rat) (x : List (List Rat))
    (hrect : ∀ r ∈ x, r.length = n1) :
    (rollingMean2 (2 * h0 + 1) (2 * h1 + 1) t x).length = x.length ∧
    ∀ r ∈ rollingMean2 (2 * h0 + 1) (2 * h1 + 1) t x, r.length = n1 := by
  rw [rollingMean2_eq_mapIdx2 h0 h1 n1 t x hrect]
  exact mapIdx2_shape _ x n1 hrect

theorem shape_preserved2_median (h0 h1 n1 : Nat) (t : Option Rat) (x : List (List Rat))
    (hrect : ∀ r ∈ x, r.length = n1) :
    (rollingMedian2 (2 * h0 + 1) (2 * h1 + 1) t x).length = x.length ∧
    ∀ r ∈ rollingMedian2 (2 * h0 + 1) (2 * h1 + 1) t x, r.length = n1 := by
  rw [rollingMedian2_eq_mapIdx2 h0 h1 n1 t x hrect]
  exact mapIdx2_shape _ x n1 hrect

theorem shape_preserved1 (h : Nat) (t : Option Rat) (x : List Rat) :
    (rollingMean1 (2 * h + 1) t x).length = x.length ∧
    (rollingMedian1 (2 * h + 1) t x).length = x.length := by
  have a := (shape_preserved2_mean 0 h x.length t [x] (rect_row x)).2
  have b := (shape_preserved2_median 0 h x.length t [x] (rect_row x)).2
  rw [rollingMean2_row] at a
  rw [rollingMedian2_row] at b
  exact ⟨a _ (List.mem_singleton_self _), b _ (List.mem_singleton_self _)⟩

/-! ## an infinite threshold changes nothing -/

theorem inf_threshold_unchanged2_mean (h0 h1 n1 : Nat) (x : List (List Rat))
    (hrect : ∀ r ∈ x, r.length = n1) :
    rollingMean2 (2 * h0 + 1) (2 * h1 + 1) none x = x := by
  rw [rollingMean2_eq_mapIdx2 h0 h1 n1 none x hrect]
  exact mapIdx2_eq_self _ _ fun _ _ _ _ => rfl

theorem inf_threshold_unchanged2_median (h0 h1 n1 : Nat) (x : List (List Rat))
    (hrect : ∀ r ∈ x, r.length = n1) :
    rollingMedian2 (2 * h0 + 1) (2 * h1 + 1) none x = x := by
  rw [rollingMedian2_eq_mapIdx2 h0 h1 n1 none x hrect]
  exact mapIdx2_eq_self _ _ fun _ _ _ _ => rfl

theorem inf_threshold_unchanged1 (h : Nat) (x : List Rat) :
    rollingMean1 (2 * h + 1) none x = x ∧ rollingMedian1 (2 * h + 1) none x = x := by
  have a := inf_threshold_unchanged2_mean 0 h x.length [x] (rect_row x)
  have b := inf_threshold_unchanged2_median 0 h x.length [x] (rect_row x)
  rw [rollingMean2_row, List.singleton_inj] at a
  rw [rollingMedian2_row, List.singleton_inj] at b
  exact ⟨a, b⟩

/-! ## border pixels (in fact every pixel): the output stays within the real pixels of the window -/

/-- 1-D, both filters, every pixel `i` and every pair of bounds `L ≤ · ≤ U` that holds for the real
pixels `x[max 0 (i-h) .. i+h]` of its window: the output pixel is the input pixel or the
replacement, and in either case lies within the bounds — every padded value is a mean (median) of
real pixels of that same window, so the replacement is a mean (median) of values within the bounds. -/
theorem border_in_range1 (h : Nat) (t : Option Rat) (x : List Rat) (i : Nat) (L U : Rat)
    (h1 : 1 ≤ h) (hi : i < x.length) (hreal : ∀ v ∈ realWin1 h x i, L ≤ v ∧ v ≤ U) :
    (∃ o, (rollingMean1 (2 * h + 1) t x)[i]? = some o ∧ L ≤ o ∧ o ≤ U) ∧
    (∃ o, (rollingMedian1 (2 * h + 1) t x)[i]? = some o ∧ L ≤ o ∧ o ≤ U) := by
  have := rolling2_keeps (fun v => L ≤ v ∧ v ≤ U) 0 h x.length t [x] 0 i (keeps_mean L U _) (keeps_median L U _)
    (rect_row x) (.inr h1) Nat.one_pos hi (by rwa [realWin2_row])
  rwa [rollingMean2_row, rollingMedian2_row] at this

/-- the same with the bounds the check evaluates: minimum and maximum of the real pixels -/
theorem border_in_range1_minmax (h : Nat) (t : Option Rat) (x : List Rat) (i : Nat)
    (h1 : 1 ≤ h) (hi : i < x.length) :
    (∃ o, (rollingMean1 (2 * h + 1) t x)[i]? = some o ∧
      minL (realWin1 h x i) ≤ o ∧ o ≤ maxL (realWin1 h x i)) ∧
    (∃ o, (rollingMedian1 (2 * h + 1) t x)[i]? = some o ∧
      minL (realWin1 h x i) ≤ o ∧ o ≤ maxL (realWin1 h x i)) :=
  border_in_range1 h t x i _ _ h1 hi (fun v hv => ⟨minL_le _ v hv, le_maxL _ v hv⟩)

example : realWin1 2 [5, 1, 7, 3, 9, 4] 1 = [5, 1, 7, 3] := by decide

/-- 2-D, both filters, every pixel: the same statement for the `(2·h0+1)×(2·h1+1)` window; the corner
pads are statistics of statistics of real pixels of the window. -/
theorem border_in_range2 (h0 h1 n1 : Nat) (t : Option Rat) (x : List (List Rat)) (i j : Nat) (L U : Rat)
    (hrect : ∀ r ∈ x, r.length = n1) (hh0 : 1 ≤ h0) (hi : i < x.length) (hj : j < n1)
    (hreal : ∀ v ∈ realWin2 h0 h1 x i j, L ≤ v ∧ v ≤ U) :
    (∃ o, ((rollingMean2 (2 * h0 + 1) (2 * h1 + 1) t x)[i]?).bind (fun r => r[j]?) = some o ∧ L ≤ o ∧ o ≤ U) ∧
    (∃ o, ((rollingMedian2 (2 * h0 + 1) (2 * h1 + 1) t x)[i]?).bind (fun r => r[j]?) = some o ∧ L ≤ o ∧ o ≤ U) :=
  rolling2_keeps _ h0 h1 n1 t x i j (keeps_mean L U _) (keeps_median L U _) hrect (.inl hh0) hi hj hreal

theorem border_in_range2_minmax (h0 h1 n1 : Nat) (t : Option Rat) (x : List (List Rat)) (i j : Nat)
    (hrect : ∀ r ∈ x, r.length = n1) (hh0 : 1 ≤ h0) (hi : i < x.length) (hj : j < n1) :
    (∃ o, ((rollingMean2 (2 * h0 + 1) (2 * h1 + 1) t x)[i]?).bind (fun r => r[j]?) = some o ∧
      minL (realWin2 h0 h1 x i j) ≤ o ∧ o ≤ maxL (realWin2 h0 h1 x i j)) ∧
    (∃ o, ((rollingMedian2 (2 * h0 + 1) (2 * h1 + 1) t x)[i]?).bind (fun r => r[j]?) = some o ∧
      minL (realWin2 h0 h1 x i j) ≤ o ∧ o ≤ maxL (realWin2 h0 h1 x i j)) :=
  border_in_range2 h0 h1 n1 t x i j _ _ hrect hh0 hi hj (fun v hv => ⟨minL_le _ v hv, le_maxL _ v hv⟩)

example : realWin2 1 1 [[1, 2, 3], [4, 5, 6], [7, 8, 9]] 0 2 = [2, 3, 5, 6] := by decide

/-! ## the constant clause for every arithmetic

The mean filter is an instance of `rollingG*` (pad statistic, masked mean and outlier decision left open), and
`rollingG*` returns a constant image unchanged as soon as pad statistic and masked mean return `c` for up to
`b0·b1` copies of `c` — whatever the outlier decision, hence for every threshold and every way of
computing window mean and spread. -/

theorem rollingMean1_is_G (b : Nat) (t : Option Rat) (x : List Rat) :
    rollingMean1 b t x
      = rollingG1 mean mean (fun xi w => (meanCell xi w (w.eraseIdx (b / 2))).outlierSq t) b x := by
  unfold rollingMean1 meanCells1 rollingG1 cellsG1
  rw [List.map_zipWith]
  rfl

theorem rollingMean2_is_G (b0 b1 : Nat) (t : Option Rat) (x : List (List Rat)) :
    rollingMean2 b0 b1 t x
      = rollingG2 mean mean
          (fun xi w => (meanCell xi w.flatten (maskCentre2 (b0 / 2) (b1 / 2) w)).outlierSq t) b0 b1 x := by
  unfold rollingMean2 meanCells2 rollingG2 cellsG2
  rw [List.map_zipWith]
  congr 1
  funext row wrow
  rw [List.map_zipWith]
  rfl

/-- 1-D.  `N` bounds the number of copies the two statistics must get right; a window has `2h+1`. -/
theorem constant_unchanged_any_arithmetic1 (π μm : List Rat → Rat) (dec : Rat → List Rat → Bool)
    (N h : Nat) (x : List Rat) (c : Rat) (h1 : 1 ≤ h) (hN : 2 * h + 1 ≤ N)
    (hπ : ∀ l : List Rat, l ≠ [] → l.length ≤ N → (∀ v ∈ l, v = c) → π l = c)
    (hμ : ∀ l : List Rat, l ≠ [] → l.length ≤ N → (∀ v ∈ l, v = c) → μm l = c)
    (hc : ∀ v ∈ x, v = c) : rollingG1 π μm dec (2 * h + 1) x = x := by
  have := rollingG2_const π μm (fun xi w => dec xi w.flatten) N 0 h x.length [x] c (rect_row x) (.inr h1) (by omega)
    hπ hμ fun r hr => by rwa [List.mem_singleton.mp hr]
  rwa [rollingG2_row, List.singleton_inj] at this

/-- the exact mean is such a statistic (so `constant_unchanged1` for the mean filter is the instance
`π = μm = mean`), for every `N` -/
example (N : Nat) (c : Rat) : ∀ l : List Rat, l ≠ [] → l.length ≤ N → (∀ v ∈ l, v = c) → mean l = c :=
  (keeps_mean c c N).const

/-- 2-D; a window has `(2h0+1)·(2h1+1)` values. -/
theorem constant_unchanged_any_arithmetic2 (π μm : List Rat → Rat) (dec : Rat → List (List Rat) → Bool)
    (N h0 h1 n1 : Nat) (x : List (List Rat)) (c : Rat) (hrect : ∀ r ∈ x, r.length = n1) (hh0 : 1 ≤ h0)
    (hn1 : 1 ≤ n1) (hN : (2 * h0 + 1) * (2 * h1 + 1) ≤ N)
    (hπ : ∀ l : List Rat, l ≠ [] → l.length ≤ N → (∀ v ∈ l, v = c) → π l = c)
    (hμ : ∀ l : List Rat, l ≠ [] → l.length ≤ N → (∀ v ∈ l, v = c) → μm l = c)
    (hc : ∀ r ∈ x, ∀ v ∈ r, v = c) : rollingG2 π μm dec (2 * h0 + 1) (2 * h1 + 1) x = x :=
  rollingG2_const π μm dec N h0 h1 n1 x c hrect (.inl hh0) hN hπ hμ hc

/-- a 3×5 window on a 4×6 image of 1/3, statistics required to be right for up to 15 copies -/
example : (∀ r ∈ (List.replicate 4 (List.replicate 6 (1 / 3)) : List (List Rat)), r.length = 6) ∧
    (2 * 1 + 1) * (2 * 2 + 1) ≤ 15 ∧ (∀ r ∈ (List.replicate 4 (List.replicate 6 (1 / 3)) : List (List Rat)), ∀ v ∈ r, v = 1 / 3) := by
  refine ⟨?_, by decide, ?_⟩
  · intro r hr; rw [List.eq_of_mem_replicate hr]; simp
  · intro r hr v hv; rw [List.eq_of_mem_replicate hr] at hv; exact List.eq_of_mem_replicate hv

/-- Rounded arithmetic, 1-D.  `fl` any rounding function that returns the numbers of the binary format
(`p` significand bits, least exponent `emin`) unchanged; means are computed left to right with every
addition and the division rounded (`flMean fl`); `dec` any outlier decision.  If all partial sums `j·c`,
`j ≤ 2h+1`, are numbers of the format, the constant signal `c` comes back unchanged. -/
theorem constant_unchanged_rounded1 (fl : Rat → Rat) (p : Nat) (emin : Int) (dec : Rat → List Rat → Bool)
    (h : Nat) (x : List Rat) (c : Rat) (h1 : 1 ≤ h) (hfl : ∀ q, isBin p emin q = true → fl q = q)
    (hs : sumsExact p emin (2 * h + 1) c = true) (hc : ∀ v ∈ x, v = c) :
    rollingG1 (flMean fl) (flMean fl) dec (2 * h + 1) x = x :=
  constant_unchanged_any_arithmetic1 _ _ dec (2 * h + 1) h x c h1 (le_refl _)
    (keeps_const_flMean fl p emin _ c hfl hs) (keeps_const_flMean fl p emin _ c hfl hs) hc

/-- binary64, window 7: `5/4` qualifies, `1/10` (as the double nearest to it) does not -/
example : sumsExact 53 (-1074) (2 * 3 + 1) (5 / 4) = true ∧
    sumsExact 53 (-1074) (2 * 3 + 1) (3602879701896397 / 36028797018963968) = false := by decide +kernel

/-- Rounded arithmetic, 2-D, partial sums up to `(2h0+1)(2h1+1)` copies. -/
theorem constant_unchanged_rounded2 (fl : Rat → Rat) (p : Nat) (emin : Int)
    (dec : Rat → List (List Rat) → Bool) (h0 h1 n1 : Nat) (x : List (List Rat)) (c : Rat)
    (hrect : ∀ r ∈ x, r.length = n1) (hh0 : 1 ≤ h0) (hn1 : 1 ≤ n1)
    (hfl : ∀ q, isBin p emin q = true → fl q = q)
    (hs : sumsExact p emin ((2 * h0 + 1) * (2 * h1 + 1)) c = true) (hc : ∀ r ∈ x, ∀ v ∈ r, v = c) :
    rollingG2 (flMean fl) (flMean fl) dec (2 * h0 + 1) (2 * h1 + 1) x = x :=
  constant_unchanged_any_arithmetic2 _ _ dec _ h0 h1 n1 x c hrect hh0 hn1 (le_refl _)
    (keeps_const_flMean fl p emin _ c hfl hs) (keeps_const_flMean fl p emin _ c hfl hs) hc

/-- hypotheses met: binary64, a 7×7 window, `c = 5/4`; a crude rounding that is exact on the format -/
example : sumsExact 53 (-1074) ((2 * 3 + 1) * (2 * 3 + 1)) (5 / 4) = true ∧
    (∀ q, isBin 53 (-1074) q = true → (fun q => if isBin 53 (-1074) q then q else 0) q = q) := by
  refine ⟨by decide +kernel, fun q hq => by simp [hq]⟩

/-! ## constant images come back unchanged (exact arithmetic) -/

theorem constant_unchanged1 (h : Nat) (t : Option Rat) (x : List Rat) (c : Rat)
    (h1 : 1 ≤ h) (hc : ∀ v ∈ x, v = c) :
    rollingMean1 (2 * h + 1) t x = x ∧ rollingMedian1 (2 * h + 1) t x = x := by
  have := rollingMedian2_const 0 h x.length t [x] c (rect_row x) (.inr h1) fun r hr => by rwa [List.mem_singleton.mp hr]
  rw [rollingMedian2_row, List.singleton_inj] at this
  exact ⟨(rollingMean1_is_G _ t x).trans (constant_unchanged_any_arithmetic1 mean mean _ _ h x c h1 (le_refl _)
    (keeps_mean c c _).const (keeps_mean c c _).const hc), this⟩

example : ∀ v ∈ ([4, 4, 4, 4, 4] : List Rat), v = 4 := by decide

theorem constant_unchanged2 (h0 h1 n1 : Nat) (t : Option Rat) (x : List (List Rat)) (c : Rat)
    (hrect : ∀ r ∈ x, r.length = n1) (hh0 : 1 ≤ h0) (hc : ∀ r ∈ x, ∀ v ∈ r, v = c) :
    rollingMean2 (2 * h0 + 1) (2 * h1 + 1) t x = x ∧ rollingMedian2 (2 * h0 + 1) (2 * h1 + 1) t x = x :=
  ⟨(rollingMean2_is_G _ _ t x).trans (rollingG2_const mean mean _ _ h0 h1 n1 x c hrect (.inl hh0) (le_refl _)
      (keeps_mean c c _).const (keeps_mean c c _).const hc),
    rollingMedian2_const h0 h1 n1 t x c hrect (.inl hh0) hc⟩

example : ∀ r ∈ ([[4, 4, 4], [4, 4, 4], [4, 4, 4]] : List (List Rat)), ∀ v ∈ r, v = 4 := by decide

/-! ## the two "comes back unchanged" clauses as the one condition the check evaluates -/

/-- 1-D: a constant signal, or an infinite threshold: both filters return the input, every pixel of it. -/
theorem unchanged_clause1 (h : Nat) (t : Option Rat) (x : List Rat) (h1 : 1 ≤ h)
    (hu : mustBeUnchanged t x = true) :
    rollingMean1 (2 * h + 1) t x = x ∧ rollingMedian1 (2 * h + 1) t x = x := by
  rcases mustBeUnchanged_spec t x hu with rfl | hc
  · exact inf_threshold_unchanged1 h x
  · exact constant_unchanged1 h t x (x.headD 0) h1 hc

example : mustBeUnchanged (some 0) [1 / 3, 1 / 3, 1 / 3, 1 / 3] = true ∧ mustBeUnchanged none [1, 2, 7] = true := by
  decide +kernel

/-- 2-D (the image given by its rows, the condition evaluated on the row-major pixel list). -/
theorem unchanged_clause2 (h0 h1 n1 : Nat) (t : Option Rat) (x : List (List Rat))
    (hrect : ∀ r ∈ x, r.length = n1) (hh0 : 1 ≤ h0) (hu : mustBeUnchanged t x.flatten = true) :
    rollingMean2 (2 * h0 + 1) (2 * h1 + 1) t x = x ∧ rollingMedian2 (2 * h0 + 1) (2 * h1 + 1) t x = x := by
  rcases mustBeUnchanged_spec t _ hu with rfl | hc
  · exact ⟨inf_threshold_unchanged2_mean h0 h1 n1 x hrect, inf_threshold_unchanged2_median h0 h1 n1 x hrect⟩
  · exact constant_unchanged2 h0 h1 n1 t x (x.flatten.headD 0) hrect hh0 fun r hr v hv =>
      hc v (List.mem_flatten.mpr ⟨r, hr, hv⟩)

example : mustBeUnchanged (some 3) ([[1 / 10, 1 / 10, 1 / 10], [1 / 10, 1 / 10, 1 / 10]] : List (List Rat)).flatten = true := by
  decide +kernel

/-! ## float level: why a constant image of a non-dyadic value does not come back bit for bit

`constant_unchanged1/2` and `unchanged_clause1/2` are about exact arithmetic.  pewlib computes in binary floating point, where the
mean of `n` copies of `c` need not be `c`.  Two statements about every rounded evaluation (any order
of summation; `fl` is the rounding function) and kernel-evaluated witnesses for binary64. -/

/-- Bound.  Under the standard model of floating-point arithmetic with unit roundoff `u`, whatever a
rounded evaluation makes of a window mean of a constant image (weight 1: pads, window mean, masked
window mean; depth at most `E` roundings) is within `((1+u)^E − 1)·|c|` of `c`.  The correspondence
check accepts a changed constant image as the known finding only inside this bound
(`E = h0 + h1 + b0·b1`, `u = 2⁻ᵖ`, `p` the significand bits of the image's format). -/
theorem rounded_mean_of_constant_within_bound (fl : Rat → Rat) (u c : Rat) (hu : 0 ≤ u)
    (hfl : ∀ x, |fl x - x| ≤ u * |x|) (e : FExpr) (E : Nat) (hw : e.weight = 1) (hd : e.depth ≤ E) :
    |e.eval fl c - c| ≤ constBound u E c := by
  have h := FExpr.eval_bound fl u c hu hfl e
  rw [hw, one_mul, one_mul] at h
  unfold constBound
  rw [absR_eq_abs]
  exact h.trans (mul_le_mul_of_nonneg_right (pow_sub_one_mono u hu hd) (abs_nonneg c))

/-- the hypotheses are met by a rounding that really errs (it inflates every value by `u`), the mean of
seven copies added left to right and the bound the check uses for a 1-D window of 7 -/
example : (∀ x : Rat, |(x + (1 / 2 ^ 53) * x) - x| ≤ (1 / 2 ^ 53) * |x|) ∧
    (FExpr.divn (FExpr.seqSum 7) 7).weight = 1 ∧ (FExpr.divn (FExpr.seqSum 7) 7).depth ≤ 3 + 7 := by
  exact ⟨inflate_standard_model _ (by positivity), by decide +kernel, by decide⟩

/-- Exactness.  A rounding function that leaves the numbers of the format alone returns `c` for every
window mean of a constant image whose partial sums `j·c`, `j ≤ N`, are all numbers of the format
(dyadic constants of few bits): such an image must come back bit for bit also from a float
implementation, at every threshold.  The check demands exactly that (`sums_exact` of `c13.constinfo`). -/
theorem rounded_mean_of_constant_exact (fl : Rat → Rat) (p : Nat) (emin : Int) (N : Nat) (c : Rat)
    (hfl : ∀ q, isBin p emin q = true → fl q = q) (hs : sumsExact p emin N c = true)
    (e : FExpr) (he : e.wf N = true) (hw : e.weight = 1) : e.eval fl c = c := by
  rw [FExpr.eval_exact fl p emin N c hfl hs e he, hw, one_mul]

/-- met by `c = 5/4`, windows of up to 49 values, binary64; `1/10` is not such a constant -/
example : sumsExact 53 (-1074) 49 (5 / 4) = true ∧ (FExpr.divn (FExpr.seqSum 7) 7).wf 49 = true ∧
    sumsExact 53 (-1074) 49 (1 / 10) = false ∧ isBin 53 (-1074) (3602879701896397 / 36028797018963968) = true := by
  decide +kernel

/-- Witness (binary64, NumPy's order of evaluation, evaluated by the kernel): the mean filter with
window 7 and threshold 0 returns fifteen copies of `0.1` (`0x3FB999999999999A`) as fifteen copies of
`0.10000000000000002` — every pixel one unit in the last place up.  Known finding
`C13-constant-image-rounding`; pewlib returns these very bits (targeted case `witness`). -/
theorem f64_mean_changes_constant :
    F64.bits (List.replicate 15 0.1) = List.replicate 15 0x3FB999999999999A ∧
    F64.bits (F64.rollingMean1 7 0.0 (List.replicate 15 0.1)) = List.replicate 15 0x3FB999999999999B :=
  ⟨f64_tenths.1, f64_tenths.2.1⟩

/-- the same signal: threshold 1 changes the three pixels at either end (their windows hold pad values,
themselves rounded means), an infinite threshold changes nothing, the median filter changes nothing,
and windows 3 and 5 change nothing (their masked sums `2c`, `4c` are exact) -/
theorem f64_same_signal_otherwise :
    F64.bits (F64.rollingMean1 7 1.0 (List.replicate 15 0.1))
      = List.replicate 3 0x3FB999999999999B ++ List.replicate 9 0x3FB999999999999A ++ List.replicate 3 0x3FB999999999999B ∧
    F64.bits (F64.rollingMean1 7 (1.0 / 0.0) (List.replicate 15 0.1)) = F64.bits (List.replicate 15 0.1) ∧
    F64.bits (F64.rollingMedian1 7 0.0 (List.replicate 15 0.1)) = F64.bits (List.replicate 15 0.1) ∧
    F64.bits (F64.rollingMean1 3 0.0 (List.replicate 15 0.1)) = F64.bits (List.replicate 15 0.1) ∧
    F64.bits (F64.rollingMean1 5 0.0 (List.replicate 15 0.1)) = F64.bits (List.replicate 15 0.1) :=
  f64_tenths.2.2

/-- an interior pixel of `rolling_mean(np.full((15, 15), 1/3), (7, 7), threshold=0)`: the window mean of
49 copies is not `1/3`, so the pixel counts as an outlier at threshold 0, and the mean of the other 48
copies is one unit in the last place below `1/3` -/
theorem f64_mean_changes_constant_2d :
    let c : Float := 1.0 / 3.0
    let cell := F64.meanCell c 3 3 (List.replicate 7 (List.replicate 7 c))
    c.toBits = 0x3FD5555555555555 ∧ cell.m.toBits ≠ c.toBits ∧ (cell.out 0.0).toBits = 0x3FD5555555555554 := by
  decide +kernel

/-! ## float level: a replaced value is measured against the values it averages

"The local replacement (mean without the centre)" of a flagged pixel is a mean of its *neighbours*; the
flagged pixel is not among the values averaged.  Under the standard model of floating-point arithmetic
every way of computing that mean — any order of the additions — stays within `2·E·u` times the mean
*magnitude of the neighbours*, however large the flagged pixel or any other pixel of the image is.  The
correspondence check demands replaced values within exactly this bound (`replBound`, with the magnitude
`rabs` the driver computes on the image of absolute values), so an implementation whose error grows with
the flagged pixel itself (e.g. `(Σ window − x)/(n − 1)`) is outside it as soon as the pixel is large. -/

/-- Any computation (`SExpr`: rounded additions and rounded divisions by counts over the values `v`, in
any shape, values may enter more than once — so pad values, themselves means of real pixels, are covered)
of depth at most `E` is within `replBound u E` of its exact value, measured against the same computation
on the absolute values. -/
theorem rounded_window_within_bound (fl : Rat → Rat) (u : Rat) (hu : 0 ≤ u)
    (hfl : ∀ x, |fl x - x| ≤ u * |x|) (v : List Rat) (e : SExpr) (E : Nat) (hd : e.depth ≤ E)
    (hEu : 2 * (E : Rat) * u ≤ 1) :
    |e.eval fl v - e.exact v| ≤ replBound u E (e.exact (v.map absR)) := by
  have h := SExpr.eval_bound fl u hu hfl v e
  have h1 : (1 + u) ^ e.depth - 1 ≤ 2 * (E : Rat) * u :=
    (pow_sub_one_mono u hu hd).trans (pow_sub_one_le_linear u hu E hEu)
  unfold replBound
  exact h.trans (mul_le_mul_of_nonneg_right h1 (SExpr.exact_abs_nonneg v e))

/-- Any order of summation.  `s` adds the values `v[0], …, v[len−1]`, each once, in any order and any
bracketing (`sumOnly`, leaves a permutation of the indices); the sum is divided by the count; every
operation is rounded.  The result is within `2·E·u·mean|v|` of `mean v` for every `E ≥ len`. -/
theorem rounded_mean_any_order (fl : Rat → Rat) (u : Rat) (hu : 0 ≤ u)
    (hfl : ∀ x, |fl x - x| ≤ u * |x|) (v : List Rat) (s : SExpr) (hs : s.sumOnly = true)
    (hp : s.leaves.Perm (List.range v.length)) (E : Nat) (hE : v.length ≤ E)
    (hEu : 2 * (E : Rat) * u ≤ 1) :
    |(SExpr.divn s v.length).eval fl v - mean v| ≤ replBound u E (mean (v.map absR)) := by
  have hd : (SExpr.divn s v.length).depth ≤ E := by
    have := SExpr.depth_le_leaves s hs
    rw [hp.length_eq, List.length_range] at this
    simp only [SExpr.depth]
    omega
  have h := rounded_window_within_bound fl u hu hfl v (SExpr.divn s v.length) E hd hEu
  simp only [SExpr.exact, SExpr.exact_sum_perm v s hs hp,
    SExpr.exact_sum_perm (v.map absR) s hs (by rw [List.length_map]; exact hp)] at h
  simpa only [mean, List.length_map] using h

/-- met by: four neighbours `1, 3/2, 5/4, 1` added left to right by a rounding that really errs, binary64
unit roundoff, the bound the check uses for a window of five (`E = N + 2`) -/
example : (∀ x : Rat, |(x + (1 / 2 ^ 53) * x) - x| ≤ (1 / 2 ^ 53) * |x|) ∧
    (SExpr.seqSum 3).sumOnly = true ∧ (SExpr.seqSum 3).leaves.Perm (List.range ([1, 3 / 2, 5 / 4, 1] : List Rat).length) ∧
    ([1, 3 / 2, 5 / 4, 1] : List Rat).length ≤ 7 ∧ 2 * ((7 : Nat) : Rat) * (1 / 2 ^ 53) ≤ 1 ∧
    (SExpr.divn (SExpr.seqSum 3) 4).exact [1, 3 / 2, 5 / 4, 1] = 19 / 16 := by
  exact ⟨inflate_standard_model _ (by positivity), by decide, by decide, by decide, by norm_num, by decide +kernel⟩

/-- the bound does not see the flagged pixel: the mean of the neighbours' magnitudes, and never less than
the magnitude of the replacement itself -/
theorem repl_le_rabs (l : List Rat) : |mean l| ≤ mean (l.map absR) := by
  unfold mean
  rw [abs_div, List.length_map, abs_of_nonneg (Nat.cast_nonneg (α := Rat) l.length)]
  apply div_le_div_of_nonneg_right _ (Nat.cast_nonneg _)
  induction l with
  | nil => simp
  | cons a l ih =>
    simp only [List.sum_cons, List.map_cons]
    rw [absR_eq_abs]
    exact (abs_add_le _ _).trans (add_le_add (le_refl _) ih)

/-- What the driver returns as `rabs` (the mean filter's replacement on the image of absolute values) is,
for an interior pixel and whatever the pad statistic, the mean magnitude of the pixel's neighbours — the
pixel itself left out.  1-D. -/
theorem interior_rabs1 (π : List Rat → Rat) (h : Nat) (x : List Rat) (i : Nat)
    (hi : h ≤ i) (hn : i + h < x.length) :
    ((meanCellsP1 π (2 * h + 1) (abs1 x))[i]?).map (·.repl)
      = some (mean ((slice (i - h) h x ++ slice (i + 1) h x).map absR)) ∧
    (specMeanCell1 h x i).repl = mean (slice (i - h) h x ++ slice (i + 1) h x) := by
  refine ⟨?_, rfl⟩
  rw [interior_any_pad_mean1 π h (abs1 x) i hi (by unfold abs1; rw [List.length_map]; exact hn)]
  simp only [Option.map_some, specMeanCell1, abs1, slice_map, List.map_append]

/-- a spike of `3·10^17` among neighbours near 1: `rabs` is `19/16`, the spike does not enter -/
example : ((meanCellsP1 mean 5 (abs1 [1, -5 / 4, 1, -3 / 2, 300000000000000000, 5 / 4, 1, 3 / 2, 1]))[4]?).map (·.repl)
    = some (19 / 16) := by decide +kernel

/-- 2-D: `rabs` of an interior pixel is the mean magnitude of the other pixels of its window. -/
theorem interior_rabs2 (π : List Rat → Rat) (h0 h1 n1 : Nat) (x : List (List Rat)) (i j : Nat)
    (hrect : ∀ r ∈ x, r.length = n1)
    (hi : h0 ≤ i) (hn : i + h0 < x.length) (hj : h1 ≤ j) (hm : j + h1 < n1) :
    (((meanCellsP2 π (2 * h0 + 1) (2 * h1 + 1) (abs2 x))[i]?).bind (fun r => r[j]?)).map (·.repl)
      = some (mean ((others2 h0 h1 x i j).map absR)) ∧
    (specMeanCell2 h0 h1 x i j).repl = mean (others2 h0 h1 x i j) := by
  refine ⟨?_, rfl⟩
  have hrect' : ∀ r ∈ abs2 x, r.length = n1 := fun r hr => by
    obtain ⟨q, hq, rfl⟩ := List.mem_map.mp hr
    rw [List.length_map]; exact hrect q hq
  rw [interior_any_pad_mean2 π h0 h1 n1 (abs2 x) i j hrect' hi
    (by unfold abs2; rw [List.length_map]; exact hn) hj hm]
  simp only [Option.map_some, specMeanCell2, others2_abs2]

example : (∀ r ∈ ([[1, -2, 3], [4, -500000000000, 6], [-7, 8, 9]] : List (List Rat)), r.length = 3) ∧
    (((meanCellsP2 mean 3 3 (abs2 [[1, -2, 3], [4, -500000000000, 6], [-7, 8, 9]]))[1]?).bind (fun r => r[1]?)).map (·.repl)
      = some 5 := by
  decide +kernel

/-- Witness (binary64, evaluated by the kernel) of why the bound must be — and can be — this tight: the
window `1, 1.5, 3·10^17, 1.25, 1` of a flagged pixel `3·10^17`.  What pewlib computes, the mean of the four
neighbours with the centre masked out, is `1.1875` exactly; the algebraically equal `(Σ window − x)/(n − 1)`
is `0.0`, because the neighbours are absorbed when they are added to the centre.  `replBound` for this
pixel is `2·7·2⁻⁵³·1.1875 ≈ 1.8·10⁻¹⁵`. -/
theorem f64_subtracted_mean_cancels :
    let w : List (List Float) := [[1.0, 1.5, 3.0e17, 1.25, 1.0]]
    (F64.meanCell 3.0e17 0 2 w).mm.toBits = 0x3FF3000000000000 ∧
    (F64.subtractedMean 3.0e17 w).toBits = 0 ∧
    F64.bits (F64.rollingMean1 5 3.0 [1.0, 1.25, 1.0, 1.5, 3.0e17, 1.25, 1.0, 1.5, 1.0])
      = F64.bits [1.0, 1.25, 1.0, 1.5, 1.1875, 1.25, 1.0, 1.5, 1.0] := by
  decide +kernel

theorem rollingMean2_local (h0 h1 n1 m1 : Nat) (t : Option Rat) (x y : List (List Rat)) (i j : Nat)
    (hrx : ∀ r ∈ x, r.length = n1) (hry : ∀ r ∈ y, r.length = m1)
    (hx : i < x.length) (hy : i < y.length) (hxj : j < n1) (hyj : j < m1)
    (hW : win2 mean h0 h1 x i j = win2 mean h0 h1 y i j) :
    ((rollingMean2 (2 * h0 + 1) (2 * h1 + 1) t x)[i]?).bind (fun r => r[j]?)
      = ((rollingMean2 (2 * h0 + 1) (2 * h1 + 1) t y)[i]?).bind (fun r => r[j]?) := by
  have hxr : j < x[i].length := by rw [hrx _ (List.getElem_mem hx)]; exact hxj
  have hyr : j < y[i].length := by rw [hry _ (List.getElem_mem hy)]; exact hyj
  -- equal windows have equal centres, and the centre is the pixel
  have a := centre_is_self2 mean h0 h1 i j x hx hxr
  rw [show window2 i j _ _ _ = win2 mean h0 h1 x i j from rfl, hW, centre_is_self2 mean h0 h1 i j y hy hyr,
    ← at2_eq x i j hx hxr, ← at2_eq y i j hy hyr] at a
  rw [rollingMean2_eq_mapIdx2 h0 h1 n1 t x hrx, rollingMean2_eq_mapIdx2 h0 h1 m1 t y hry,
    mapIdx2_at _ x n1 i j hrx hx hxj, mapIdx2_at _ y m1 i j hry hy hyj, hW, Option.some.inj a]

/-- Mean filter, 2-D, independent odd windows: the output at `(i, j)` is a function of the
`(2h0+1)×(2h1+1)` window around it. -/
theorem interior_local_mean2 (h0 h1 n1 m1 : Nat) (t : Option Rat) (x y : List (List Rat)) (i j : Nat)
    (hrx : ∀ r ∈ x, r.length = n1) (hry : ∀ r ∈ y, r.length = m1)
    (hi : h0 ≤ i) (hx : i + h0 < x.length) (hy : i + h0 < y.length)
    (hj : h1 ≤ j) (hxm : j + h1 < n1) (hym : j + h1 < m1)
    (hw : (slice (i - h0) (2 * h0 + 1) x).map (slice (j - h1) (2 * h1 + 1))
        = (slice (i - h0) (2 * h0 + 1) y).map (slice (j - h1) (2 * h1 + 1))) :
    ((rollingMean2 (2 * h0 + 1) (2 * h1 + 1) t x)[i]?).bind (fun r => r[j]?)
      = ((rollingMean2 (2 * h0 + 1) (2 * h1 + 1) t y)[i]?).bind (fun r => r[j]?) :=
  rollingMean2_local h0 h1 n1 m1 t x y i j hrx hry (by omega) (by omega) (by omega) (by omega) (by
    rw [win2_interior mean h0 h1 i j n1 x hrx hi hx hj hxm, hw, win2_interior mean h0 h1 i j m1 y hry hi hy hj hym])

example : (slice (1 - 1) (2 * 1 + 1) ([[1, 2, 3, 50], [4, 9, 6, 50], [7, 8, 9, 50]] : List (List Rat))).map (slice (1 - 1) (2 * 1 + 1))
    = (slice (1 - 1) (2 * 1 + 1) ([[1, 2, 3], [4, 9, 6], [7, 8, 9], [0, 0, 0]] : List (List Rat))).map (slice (1 - 1) (2 * 1 + 1)) := by
  decide +kernel

/-- Mean filter, 1-D: the output at a pixel at least `h` from both ends is a function of its window
`x[i-h .. i+h]` alone — two signals (of any lengths) that agree there agree at `i` after filtering.  The
rest of the signal, however large its values, does not enter: this is what allows the correspondence
check to bound the rounding of a pixel by the magnitudes inside that pixel's own window. -/
theorem interior_local_mean1 (h : Nat) (t : Option Rat) (x y : List Rat) (i : Nat)
    (hi : h ≤ i) (hx : i + h < x.length) (hy : i + h < y.length)
    (hw : slice (i - h) (2 * h + 1) x = slice (i - h) (2 * h + 1) y) :
    (rollingMean1 (2 * h + 1) t x)[i]? = (rollingMean1 (2 * h + 1) t y)[i]? := by
  have := interior_local_mean2 0 h x.length y.length t [x] [y] 0 i (rect_row x) (rect_row y) (Nat.le_refl 0) Nat.one_pos
    Nat.one_pos hi hx hy (congrArg (fun w => [w]) hw)
  rwa [rollingMean2_row, rollingMean2_row] at this

/-- the same window `1, 3/2, [3·10^17], 5/4, 1` inside two different signals -/
example : slice (4 - 2) (2 * 2 + 1) ([7, 7, 1, 3 / 2, 300000000000000000, 5 / 4, 1, 9, 9] : List Rat)
    = slice (4 - 2) (2 * 2 + 1) ([0, -100000000000000000000, 1, 3 / 2, 300000000000000000, 5 / 4, 1, 0] : List Rat) := by
  decide +kernel

end Pew.Filters
