import PewProofs.ImzmlPlace
import PewProofs.ImzmlBins
import PewProofs.ImzmlRead

/-! # C05 — property theorems (statements only depend on `PewModel.Imzml`) -/
namespace Pew.Imzml

/-! ## one spectrum: window sums -/

/-- On a strictly increasing m/z axis the slice between the two `searchsorted` indices of a window sums
exactly the intensities whose m/z lies in `[lo, hi)` (`hle` is not used: `sliceSum_ssLeft`). -/
theorem slice_eq_windowSum (mz it : List Rat) (lo hi : Rat) (hs : Incr mz)
    (hlen : it.length = mz.length) (hle : lo ≤ hi) :
    sliceSum it (ssLeft mz lo) (ssLeft mz hi) = windowSum mz it lo hi :=
  sliceSum_ssLeft mz it lo hi hs hlen

example : Incr [100, 200, 300, 400] ∧ ([1, 2, 4, 8] : List Rat).length = ([100, 200, 300, 400] : List Rat).length
    ∧ (150 : Rat) ≤ 300 := by
  decide +kernel

/-- The test `idx[::2] >= idx[1::2]` of `extract_masses`: on a strictly increasing axis the slice
between the two indices is empty exactly when NO PEAK lies in `[lo, hi)` (any `lo`, `hi`, also
`hi < lo`).  This is about the peaks, not about the value of the sum. -/
theorem slice_empty_iff (mz : List Rat) (lo hi : Rat) (hs : Incr mz) :
    ssLeft mz hi ≤ ssLeft mz lo ↔ ¬ ∃ m ∈ mz, lo ≤ m ∧ m < hi :=
  ⟨fun h hc => Nat.not_lt.mpr h (ssLeft_lt_of_exists_peak hs hc), fun h => Nat.not_lt.mp fun hc => h (exists_peak_of_ssLeft_lt hc)⟩

example : Incr [100, 200, 300, 400] ∧ ssLeft [100, 200, 300, 400] 251 ≤ ssLeft [100, 200, 300, 400] 249 := by
  decide +kernel

/-- A window without a peak sums to zero; with strictly positive intensities the converse holds
too (with a zero intensity inside the window it does not: `windowSum [1] [0] 0 2 = 0`). -/
theorem window_zero_iff_no_peak (mz it : List Rat) (lo hi : Rat) (hlen : it.length = mz.length)
    (hp : ∀ i ∈ it, 0 < i) :
    windowSum mz it lo hi = 0 ↔ ¬ ∃ m ∈ mz, lo ≤ m ∧ m < hi :=
  ⟨fun h hc => ne_of_gt (windowSum_pos_of_peak hlen hp hc) h, windowSum_zero_of_no_peak⟩

example : (∀ i ∈ ([1, 2, 4, 8] : List Rat), 0 < i) ∧ windowSum [1] [0] 0 2 = 0 := by
  decide +kernel

/-- `extract_masses`, one spectrum: searchsorted → zero sentinel → `reduceat` → `[::2]` → zeroing of
empty segments gives, for EVERY list of windows (empty, one or many peaks, touching the first or
last peak, wholly below or above the spectrum, overlapping, unsorted, even `hi < lo`), exactly the
sum of the intensities whose m/z lies in the half-open window — in particular 0 for a window that
contains no peak.  Hypotheses: strictly increasing m/z, as many intensities as m/z values. -/
theorem extract_correct (mz it : List Rat) (wins : List (Rat × Rat)) (hs : Incr mz)
    (hlen : it.length = mz.length) :
    extractSpectrum mz it wins = specSpectrum mz it wins := by
  rw [extractSpectrum_eq_map]
  exact List.map_congr_left fun w _ => by
    rw [sliceSum_append_sentinel it 0 (hlen ▸ ssLeft_le_length mz w.2), sliceSum_ssLeft mz it w.1 w.2 hs hlen]

example : Incr [100, 200, 300, 400] ∧ ([1, 2, 4, 8] : List Rat).length = ([100, 200, 300, 400] : List Rat).length := by
  decide +kernel

/-! ## one spectrum: every target on its own, peaks outside a window, windows outside the spectrum -/

/-- The loop body treats the windows one by one, whatever the list looks like (no hypothesis: this
is the mechanism): the extraction of a list of windows is the concatenation of the single-window
extractions.  So hundreds of targets, unsorted targets, duplicate targets and overlapping windows
each get exactly what they would get alone. -/
theorem extract_window_by_window (mz it : List Rat) (wins : List (Rat × Rat)) :
    extractSpectrum mz it wins = wins.flatMap (fun w => extractSpectrum mz it [w]) := by
  simp only [extractSpectrum_eq_map, List.map_cons, List.map_nil, ← List.map_eq_flatMap]

/-- The target masses are treated one by one with either kind of width (no hypothesis): the value
for a target does not depend on which other targets are asked for, in which order, or how often. -/
theorem extract_target_by_target (mz it : List Rat) (masses : List Rat) (w : Width) :
    extractSpectrum mz it (windows masses w) = masses.flatMap (fun m => extractSpectrum mz it (windows [m] w)) := by
  rw [extract_window_by_window, windows, List.flatMap_map]
  rfl

/-- ppm and absolute widths differ only in how the width is computed: a ppm extraction is, mass by
mass, the absolute extraction with the width `m·ppm/10⁶` of that mass. -/
theorem ppm_is_abs (mz it : List Rat) (masses : List Rat) (p : Rat) :
    extractSpectrum mz it (windows masses (.ppm p))
      = masses.flatMap (fun m => extractSpectrum mz it (windows [m] (.mz (m * p / 1000000)))) := by
  rw [extract_target_by_target]
  simp only [windows, List.map_cons, List.map_nil, halfWidth]

/-- Pointwise form of `extract_correct`: as many sums as windows, and the `k`-th sum is the
half-open window sum of the `k`-th window — it depends on no other window (unsorted, duplicate,
overlapping targets). -/
theorem extract_pointwise (mz it : List Rat) (wins : List (Rat × Rat)) (hs : Incr mz)
    (hlen : it.length = mz.length) (k : Nat) :
    (extractSpectrum mz it wins).length = wins.length ∧
    (extractSpectrum mz it wins)[k]? = (wins[k]?).map (fun w => windowSum mz it w.1 w.2) := by
  refine ⟨extractSpectrum_length mz it wins, ?_⟩
  rw [extract_correct mz it wins hs hlen, specSpectrum, List.getElem?_map]

/-- Reordering the targets reorders the sums in the same way.  (Of the model this holds on any axis and any
intensities: `hs`, `hlen` are not used.  They delimit the inputs on which the model IS the code: `np.searchsorted` is a
binary search, the model's `ssLeft` a `takeWhile`, equal on a sorted axis only — `searchsorted([3, 1, 2], 2.5)` is 3,
`ssLeft` gives 0 —, and with fewer intensities than m/z values `reduceat` raises where the model reads 0.) -/
theorem extract_perm (mz it : List Rat) (wins wins' : List (Rat × Rat)) (hs : Incr mz)
    (hlen : it.length = mz.length) (h : wins.Perm wins') :
    (extractSpectrum mz it wins).Perm (extractSpectrum mz it wins') := by
  rw [extractSpectrum_eq_map, extractSpectrum_eq_map]
  exact h.map _

example : extractSpectrum [100, 200, 300, 400] [1, 2, 4, 8] [(350, 450), (50, 250), (350, 450), (150, 350)]
    = [8, 3, 8, 6] := by decide +kernel

/-- Peaks outside a window do not take part in its sum: their intensities may be replaced by any
values whatever (`g`) — a peak of 10¹⁷ below the window included — and the extracted value stays
the same.  ("the sum of EXACTLY those intensities whose m/z lies in the window") -/
theorem outside_peaks_irrelevant (mz it : List Rat) (lo hi : Rat) (g : Rat → Rat → Rat) (hs : Incr mz)
    (hlen : it.length = mz.length) :
    extractSpectrum mz (List.zipWith (fun m i => if lo ≤ m ∧ m < hi then i else g m i) mz it) [(lo, hi)]
      = extractSpectrum mz it [(lo, hi)] := by
  rw [extract_correct mz _ _ hs (by rw [List.length_zipWith, hlen, Nat.min_self]), extract_correct mz it _ hs hlen]
  simp only [specSpectrum, List.map_cons, List.map_nil, windowSum_outside]

example : extractSpectrum [50, 100, 101] [100000000000000000, 1, 2] [(99, 102)] = [3] ∧
    List.zipWith (fun m i => if (99 : Rat) ≤ m ∧ m < 102 then i else (0 : Rat)) [50, 100, 101] [100000000000000000, 1, 2]
      = [0, 1, 2] := by
  decide +kernel

/-- A window wholly below or wholly above the spectrum extracts 0: the zeroing of `idx[::2] >= idx[1::2]`, so no
positivity of the intensities is needed (nor, of the model, `hs` and `hlen`: see `extract_perm`). -/
theorem window_outside_spectrum (mz it : List Rat) (lo hi : Rat) (hs : Incr mz)
    (hlen : it.length = mz.length) (h : (∀ m ∈ mz, hi ≤ m) ∨ (∀ m ∈ mz, m < lo)) :
    extractSpectrum mz it [(lo, hi)] = [0] := by
  rw [extractSpectrum_eq_map, List.map_singleton, sliceSum_empty _ (Nat.not_lt.mp fun hc => ?_)]
  obtain ⟨m, hm, h1, h2⟩ := exists_peak_of_ssLeft_lt hc
  rcases h with h | h
  · exact absurd (h m hm) (not_le.mpr h2)
  · exact absurd (h m hm) (not_lt.mpr h1)

example : (∀ m ∈ ([100, 200] : List Rat), (90 : Rat) ≤ m) ∧ extractSpectrum [100, 200] [1, 2] [(50, 90), (250, 300)] = [0, 0] := by
  decide +kernel

/-- A window that holds every peak extracts the summed intensities — the value the TIC image shows
for a spectrum without a stored total ion current (`ticOf`). -/
theorem window_with_every_peak (s : Spectrum) (lo hi : Rat) (hs : Incr s.mz)
    (hlen : s.it.length = s.mz.length) (h : ∀ m ∈ s.mz, lo ≤ m ∧ m < hi) (ht : s.tic = none) :
    extractSpectrum s.mz s.it [(lo, hi)] = [ticOf s] := by
  rw [extract_correct s.mz s.it _ hs hlen, specSpectrum, List.map_singleton, windowSum_all s.mz s.it hlen h, ticOf, ht]

example : extractSpectrum [100, 200] [1, 2] [(100, 201)] = [ticOf ⟨1, 1, none, [100, 200], [1, 2]⟩] := by
  decide +kernel

/-! ## adjacent half-open windows -/

/-- Two windows sharing an edge `mid`: a peak lies in `[lo, hi)` iff it lies in one of `[lo, mid)`,
`[mid, hi)`, never in both; a peak exactly ON the shared edge is outside the lower window and (when
the upper window is not empty) inside the upper one. -/
theorem shared_edge_once (lo mid hi m i : Rat) (h1 : lo ≤ mid) (h2 : mid ≤ hi) :
    ((lo ≤ m ∧ m < hi) ↔ ((lo ≤ m ∧ m < mid) ∨ (mid ≤ m ∧ m < hi))) ∧
    ¬ ((lo ≤ m ∧ m < mid) ∧ (mid ≤ m ∧ m < hi)) ∧
    windowSum [mid] [i] lo mid = 0 ∧ (mid < hi → windowSum [mid] [i] mid hi = i) := by
  refine ⟨?_, ?_, ?_, ?_⟩
  · constructor
    · rintro ⟨a, b⟩
      rcases lt_or_ge m mid with h | h
      · exact Or.inl ⟨a, h⟩
      · exact Or.inr ⟨h, b⟩
    · rintro (⟨a, b⟩ | ⟨a, b⟩)
      · exact ⟨a, lt_of_lt_of_le b h2⟩
      · exact ⟨le_trans h1 a, b⟩
  · rintro ⟨⟨_, b⟩, ⟨c, _⟩⟩
    exact absurd c (not_le.mpr b)
  · simp [windowSum]
  · intro h; simp [windowSum, h]

/-- A chain of adjacent windows `[e₀, e₁), [e₁, e₂), …, [eₙ₋₁, eₙ)` (strictly increasing edges;
target masses `m, m + w, …` with an absolute width `w`): the extracted sums add up to the window sum
over `[e₀, eₙ)` — every peak of that range is counted in exactly one window, a peak on a shared edge
too. -/
theorem adjacent_windows_once (mz it : List Rat) (e : Rat) (r : List Rat) (hs : Incr mz)
    (hlen : it.length = mz.length) (he : Incr (e :: r)) :
    ∀ l, (e :: r).getLast? = some l →
      (extractSpectrum mz it (chain (e :: r))).sum = windowSum mz it e l := by
  intro l hl
  rw [extract_correct mz it _ hs hlen]
  exact chain_sum mz it e r he l hl

example : Incr (99 :: [100, 101, 102]) ∧ chain [99, 100, 101, 102] = [(99, 100), (100, 101), (101, 102)] ∧
    extractSpectrum [99, 100, 101, 203/2] [1, 2, 4, 8] (chain [99, 100, 101, 102]) = [1, 2, 12] ∧
    windowSum [99, 100, 101, 203/2] [1, 2, 4, 8] 99 102 = 15 := by
  decide +kernel

/-! ## window edges -/

/-- The window of a target mass `m` is `[m - w/2, m + w/2)`: it is centred on `m` and its width is
`w`, where `w` is the absolute width or `m·ppm/10⁶` — the two kinds of width differ in nothing else. -/
theorem window_centre_width (wd : Width) (m : Rat) :
    ∃ lo hi, windows [m] wd = [(lo, hi)] ∧ (lo + hi) / 2 = m ∧
      hi - lo = (match wd with
                 | .ppm p => m * p / 1000000
                 | .mz a => a) := by
  refine ⟨m - halfWidth wd m, m + halfWidth wd m, rfl, by ring, ?_⟩
  cases wd with
  | ppm p => simp only [halfWidth]; ring
  | mz a => simp only [halfWidth]; ring

/-- the edges of a ppm window in closed form: `m·(1 ∓ ppm/(2·10⁶))` -/
theorem ppm_window (masses : List Rat) (p : Rat) :
    windows masses (.ppm p) = masses.map (fun m => (m * (1 - p / 2000000), m * (1 + p / 2000000))) := by
  apply List.map_congr_left
  intro m _
  simp only [halfWidth, Prod.mk.injEq]
  constructor <;> ring

example : windows [200] (.ppm 10000) = [(199, 201)] ∧ windows [200] (.mz 2) = [(199, 201)] := by
  decide +kernel

/-- ppm windows are scale-free: multiplying every m/z of the spectrum and every target mass by the
same positive factor leaves a ppm extraction unchanged (small and large masses behave alike). -/
theorem ppm_scale_free (mz it masses : List Rat) (p k : Rat) (hk : 0 < k) (hs : Incr mz)
    (hlen : it.length = mz.length) :
    extractSpectrum (mz.map (k * ·)) it (windows (masses.map (k * ·)) (.ppm p))
      = extractSpectrum mz it (windows masses (.ppm p)) := by
  rw [extract_correct _ it _ (incr_scale hk hs) (by rw [List.length_map, hlen]), extract_correct mz it _ hs hlen,
    ppm_window, ppm_window]
  simp only [specSpectrum, List.map_map]
  exact List.map_congr_left fun m _ => by simp only [Function.comp, mul_assoc, windowSum_scale _ _ _ _ _ hk]

example : extractSpectrum ([100, 200].map ((1 / 64 : Rat) * ·)) [1, 2] (windows ([100].map ((1 / 64 : Rat) * ·)) (.ppm 10000))
    = extractSpectrum [100, 200] [1, 2] (windows [100] (.ppm 10000)) := by decide +kernel

/-! ## the external binary -/

/-- `Spectrum.get_binary_data` raises (ValueError of `np.frombuffer`) exactly when the bytes that
`read` returns — `length` of them, fewer at the end of the file — are not a whole number of
elements. -/
theorem read_raises_iff (bo : ByteOrder) (ibd : List UInt8) (off len : Nat) (dt : DType) :
    getBinaryData bo ibd off len dt = none ↔ min len (ibd.length - off) % dt.width ≠ 0 := by
  rw [getBinaryData_eq]
  by_cases h : min len (ibd.length - off) % dt.width ≠ 0
  · rw [if_pos h]; exact iff_of_true rfl h
  · rw [if_neg h]; exact iff_of_false (Option.some_ne_none _) h

/-- Pointwise: the array that `get_binary_data` returns has `⌊available/width⌋` elements and element
`i` is the bit pattern of the bytes `[offset + i·width, offset + (i+1)·width)` of the `.ibd` file. -/
theorem read_pointwise (bo : ByteOrder) (ibd : List UInt8) (off len : Nat) (dt : DType) (arr : List Nat)
    (h : getBinaryData bo ibd off len dt = some arr) :
    arr.length = min len (ibd.length - off) / dt.width ∧
    ∀ i (hi : i < arr.length),
      arr[i] = bitsOf bo ((ibd.drop (off + i * dt.width)).take dt.width) := by
  rw [getBinaryData_eq] at h
  split at h
  · cases h
  · obtain rfl := Option.some.inj h
    exact ⟨by rw [List.length_map, List.length_range], fun i hi => by rw [List.getElem_map, List.getElem_range]⟩

/-- An array that lies inside the file and whose encoded length is a multiple of the element width
is read without error, has `length / width` elements, and every element is decoded from exactly
`width` bytes at its own offset. -/
theorem read_in_file (bo : ByteOrder) (ibd : List UInt8) (off len : Nat) (dt : DType)
    (hfit : off + len ≤ ibd.length) (hmul : len % dt.width = 0) :
    ∃ arr, getBinaryData bo ibd off len dt = some arr ∧ arr.length = len / dt.width ∧
      ∀ i (hi : i < arr.length),
        arr[i] = bitsOf bo ((ibd.drop (off + i * dt.width)).take dt.width) ∧
        ((ibd.drop (off + i * dt.width)).take dt.width).length = dt.width := by
  have hmin : min len (ibd.length - off) = len := Nat.min_eq_left (Nat.le_sub_of_add_le' hfit)
  cases h : getBinaryData bo ibd off len dt with
  | none => exact absurd hmul (hmin ▸ (read_raises_iff bo ibd off len dt).mp h)
  | some arr =>
    obtain ⟨hl, hp⟩ := read_pointwise bo ibd off len dt arr h
    rw [hmin] at hl
    refine ⟨arr, rfl, hl, fun i hi => ⟨hp i hi, ?_⟩⟩
    have h2 := Nat.mul_le_of_le_div _ _ _ (Nat.succ_le_of_lt (hl ▸ hi))
    rw [Nat.succ_mul] at h2
    rw [List.length_take, List.length_drop, Nat.min_eq_left (Nat.le_sub_of_add_le' ?_)]
    exact le_trans (Nat.add_assoc .. ▸ Nat.add_le_add_left h2 off) hfit

example : (4 : Nat) + 8 ≤ ([0, 0, 0, 0, 0, 0, 0x80, 0x3f, 0, 0, 0, 0x40, 0xff] : List UInt8).length ∧ 8 % DType.f32.width = 0 := by
  decide

example : getBinaryData .little [0, 0, 0, 0, 0, 0, 0x80, 0x3f, 0, 0, 0, 0x40, 0xff] 4 8 .f32 = some [0x3f800000, 0x40000000]
    ∧ valueOf .f32 0x3f800000 = some 1 ∧ valueOf .f32 0x40000000 = some 2
    ∧ valueOf .f64 0x4059000000000000 = some 100 ∧ valueOf .f32 0xc2c80000 = some (-100)
    ∧ valueOf .f32 0x7fc00000 = none ∧ valueOf .f32 1 = some (1 / 2 ^ 149)
    ∧ getBinaryData .little [1, 2, 3, 4, 5] 0 5 .u16 = none
    ∧ getBinaryData .little [1, 2, 3, 4, 5] 3 8 .u16 = some [0x0504] := by
  decide +kernel

/-- Spectra that share an external offset (a stored-once axis of which each pixel records a leading
part): two reads at the same offset agree element by element as far as both reach, and the number of
elements of each is decided by ITS OWN encoded length - the offset alone does not identify an array. -/
theorem read_shared_offset (bo : ByteOrder) (ibd : List UInt8) (off len₁ len₂ : Nat) (dt : DType)
    (a₁ a₂ : List Nat) (h₁ : getBinaryData bo ibd off len₁ dt = some a₁)
    (h₂ : getBinaryData bo ibd off len₂ dt = some a₂) :
    a₁.length = min len₁ (ibd.length - off) / dt.width ∧
    a₂.length = min len₂ (ibd.length - off) / dt.width ∧
    ∀ i (h1 : i < a₁.length) (h2 : i < a₂.length), a₁[i] = a₂[i] := by
  obtain ⟨l1, p1⟩ := read_pointwise bo ibd off len₁ dt a₁ h₁
  obtain ⟨l2, p2⟩ := read_pointwise bo ibd off len₂ dt a₂ h₂
  exact ⟨l1, l2, fun i h1 h2 => by rw [p1 i h1, p2 i h2]⟩

example : getBinaryData .little [0, 0, 0x80, 0x3f, 0, 0, 0, 0x40, 7, 7, 7, 7] 0 4 .f32 = some [0x3f800000] ∧
    getBinaryData .little [0, 0, 0x80, 0x3f, 0, 0, 0, 0x40, 7, 7, 7, 7] 0 8 .f32 = some [0x3f800000, 0x40000000] := by
  decide +kernel

/-- The bit pattern of an element determines its bytes (same width): nothing is lost between the
file and the token the harness compares; and it fits the element's width. -/
theorem read_bits_faithful (a b : List UInt8) (hl : a.length = b.length) :
    (bitsOf .little a = bitsOf .little b → a = b) ∧ bitsOf .little a < 256 ^ a.length :=
  ⟨leNat_injective a b hl, leNat_lt a⟩

/-! ## the dict of spectra -/

/-- `ImzML.spectra` holds, for every pixel position, the LAST spectrum the file records there. -/
theorem spectra_dict_lookup (file : List Spectrum) (r c : Nat) :
    specAt (spectraDict file) r c = specAt file r c := by
  induction file using List.reverseRecOn with
  | nil => rfl
  | append_singleton file s ih =>
    rw [spectraDict_append_one, specAt_dictSet, specAt_append_one, ih]

/-- every value of the dict is a spectrum of the file, and no two values share a position -/
theorem spectra_dict_distinct (file : List Spectrum) :
    (∀ s ∈ spectraDict file, s ∈ file) ∧
    (spectraDict file).Pairwise (fun a b => samePos a b = false) :=
  ⟨fun _ hs => mem_spectraDict hs, spectraDict_distinctPos file⟩

/-- a file that records every position at most once ("any subset of pixels present") is its own
dict: same spectra, same order -/
theorem spectra_dict_of_distinct (file : List Spectrum) (h : distinctB file = true) :
    spectraDict file = file :=
  spectraDict_of_distinctPos file ((distinctB_iff file).mp h)

example : distinctB [⟨1, 1, none, [100], [1]⟩, ⟨2, 1, none, [100], [2]⟩] = true ∧
    spectraDict [⟨0, 1, none, [], [1]⟩, ⟨2, 1, none, [], [2]⟩, ⟨0, 1, none, [], [3]⟩]
      = [⟨0, 1, none, [], [3]⟩, ⟨2, 1, none, [], [2]⟩] := by
  decide +kernel

/-! ## placement -/

/-- NumPy subscripts: `data[i]` on an axis of length `n` addresses element `i` for `0 ≤ i < n`,
element `i + n` for `-n ≤ i < 0`, and raises otherwise. -/
theorem py_subscript (n : Nat) (i : Int) :
    (pyIndex n i = none ↔ i < -(n : Int) ∨ (n : Int) ≤ i) ∧
    ∀ k, pyIndex n i = some k ↔
      ((0 ≤ i ∧ i < n ∧ (k : Int) = i) ∨ (i < 0 ∧ -(n : Int) ≤ i ∧ (k : Int) = i + n)) :=
  ⟨pyIndex_eq_none_iff n i, pyIndex_eq_some_iff n i⟩

/-- Placement as the code does it, for ANY integer positions (mechanism level): the loop
`data[y-1, x-1] = f(spectrum)` on a canvas of shape `(Y, X)` raises IndexError exactly when some
subscript is out of bounds; otherwise the pixel `[r][c]` holds the value of the last spectrum of
the loop whose subscripts normalise to `(r, c)` — a position 0 lands in the LAST row/column — and
is NaN when there is none. -/
theorem placement {β} (shape : Nat × Nat) (f : Spectrum → β) (d : List Spectrum) :
    (place shape f d = none ↔
      ∃ s ∈ d, pyIndex shape.1 (s.y - 1) = none ∨ pyIndex shape.2 (s.x - 1) = none) ∧
    ∀ img, place shape f d = some img → ∀ r c, img r c = (lastAt shape d r c).map f :=
  ⟨place_eq_none_iff shape f d, fun img h r c => place_some_pixel shape f d img h r c⟩

example : (place (2, 2) (fun s => s.it) [⟨0, 1, none, [], [7]⟩]).map (fun img => tabulate (2, 2) img)
      = some [[none, some [7]], [none, none]] ∧
    (place (2, 2) (fun s => s.it) [⟨3, 1, none, [], [7]⟩]).isNone = true := by
  decide +kernel

/-- Placement under the property's hypothesis (positions 1-based and inside the image): the loop
does not raise, the pixel `[r][c] = [y-1][x-1]` holds the value of the (last) spectrum recorded at
position `(x, y) = (c+1, r+1)` and is NaN when no spectrum was recorded there. -/
theorem placement_in_domain {β} (shape : Nat × Nat) (f : Spectrum → β) (d : List Spectrum)
    (hd : InDomain shape d) :
    ∃ img, place shape f d = some img ∧ ∀ r c, img r c = (specAt d r c).map f := by
  cases h : place shape f d with
  | none =>
    obtain ⟨s, hs, hnone⟩ := (place_eq_none_iff shape f d).mp h
    obtain ⟨hx1, hx2, hy1, hy2⟩ := hd s hs
    rw [pyIndex_eq_none_iff, pyIndex_eq_none_iff] at hnone
    omega
  | some img =>
    exact ⟨img, rfl, fun r c => by
      rw [place_some_pixel shape f d img h r c, lastAt_eq_specAt shape d hd]⟩

example : InDomain (3, 2) [⟨2, 3, none, [100], [1]⟩, ⟨1, 2, some 7, [150], [4]⟩] := by
  decide +kernel

/-- positions inside the image stay inside when the file is turned into the dict -/
theorem in_domain_dict (shape : Nat × Nat) (file : List Spectrum) (h : InDomain shape file) :
    InDomain shape (spectraDict file) :=
  fun s hs => h s (mem_spectraDict hs)

/-- An image method on a whole file (`<spectrum>` elements in file order → dict → size → canvas →
loop): with positions inside the image it returns the shape `(Y, X)` and at `[r][c]` the value of
the last spectrum the file records at `(c+1, r+1)`, NaN elsewhere. -/
theorem image_correct {β} (size : Option (Int × Int)) (file : List Spectrum) (shape : Nat × Nat)
    (f : Spectrum → β)
    (hsz : (imageSize size (spectraDict file)).bind shapeOf = some shape)
    (hdom : InDomain shape (spectraDict file)) :
    ∃ img, image size f (spectraDict file) = some (shape, img) ∧
      ∀ r c, img r c = (specAt file r c).map f := by
  obtain ⟨img, hp, hpix⟩ := placement_in_domain shape f (spectraDict file) hdom
  refine ⟨img, by rw [image, hsz]; simp only [hp, Option.map_some], fun r c => ?_⟩
  rw [hpix r c, spectra_dict_lookup]

/-- a spectrum found at a pixel is a spectrum of the file, recorded at that pixel's position -/
theorem specAt_pos (file : List Spectrum) (r c : Nat) (s : Spectrum) (h : specAt file r c = some s) :
    s ∈ file ∧ s.y = r + 1 ∧ s.x = c + 1 := by
  have hm := List.mem_of_find?_eq_some h
  have hp := List.find?_some h
  simp only [Bool.and_eq_true, beq_iff_eq] at hp
  exact ⟨List.mem_reverse.mp hm, hp.1, hp.2⟩

/-- `extract_masses` on a file: shape `(Y, X)`; at `[y-1][x-1]` the spectrum's own window sums
(the specification `windowSum`, window by window), NaN where no spectrum was recorded.
Hypotheses: positions inside the image, strictly increasing m/z, equal lengths. -/
theorem extract_image_correct (size : Option (Int × Int)) (file : List Spectrum) (shape : Nat × Nat)
    (masses : List Rat) (w : Width)
    (hsz : (imageSize size (spectraDict file)).bind shapeOf = some shape)
    (hdom : InDomain shape (spectraDict file))
    (hs : ∀ s ∈ file, Incr s.mz ∧ s.it.length = s.mz.length) :
    ∃ img, extractImage size (spectraDict file) masses w = some (shape, img) ∧
      ∀ r c, img r c = (specAt file r c).map (fun s => specSpectrum s.mz s.it (windows masses w)) := by
  obtain ⟨img, hi, hpix⟩ := image_correct size file shape
    (fun s => extractSpectrum s.mz s.it (windows masses w)) hsz hdom
  refine ⟨img, hi, fun r c => (hpix r c).trans (Option.map_congr fun s h => ?_)⟩
  have hm := (specAt_pos file r c s h).1
  exact extract_correct _ _ _ (hs s hm).1 (hs s hm).2

example : let file : List Spectrum := [⟨2, 1, none, [100, 200], [1, 2]⟩, ⟨1, 2, some 7, [150], [4]⟩]
    (imageSize (some (2, 2)) (spectraDict file)).bind shapeOf = some (2, 2) ∧
    InDomain (2, 2) (spectraDict file) ∧ (∀ s ∈ file, Incr s.mz ∧ s.it.length = s.mz.length) ∧
    (extractImage (some (2, 2)) (spectraDict file) [150, 400] (.mz 100)).map (fun r => tabulate r.1 r.2)
      = some [[none, some [1, 0]], [some [4, 0], none]] := by
  decide +kernel

/-- TIC image (corollary of `image_correct`): the stored total ion current, or the summed
intensities when it is absent, at `[y-1][x-1]`; NaN where no spectrum was recorded. -/
theorem tic_spec (size : Option (Int × Int)) (file : List Spectrum) (shape : Nat × Nat)
    (hsz : (imageSize size (spectraDict file)).bind shapeOf = some shape)
    (hdom : InDomain shape (spectraDict file)) :
    ∃ img, ticImage size (spectraDict file) = some (shape, img) ∧
      ∀ r c, img r c = (specAt file r c).map (fun s => match s.tic with
                                                       | some t => t
                                                       | none => s.it.sum) := by
  obtain ⟨img, hi, hpix⟩ := image_correct size file shape ticOf hsz hdom
  refine ⟨img, hi, fun r c => (hpix r c).trans (Option.map_congr fun s _ => ?_)⟩
  rw [ticOf]
  cases s.tic <;> rfl

/-- a size stated in the scan settings (two naturals) is the shape of the image -/
theorem image_size_stated (X Y : Nat) (d : List Spectrum) :
    (imageSize (some ((X : Int), (Y : Int))) d).bind shapeOf = some (Y, X) := by
  simp [imageSize, shapeOf]

/-- image size fallback: without a size in the scan settings the image is `(max x, max y)` over
the dict, which bounds every recorded position and is attained; with positions `≥ 1` every spectrum
therefore has its pixel (`InDomain`). -/
theorem image_size_fallback (d : List Spectrum) (hne : d ≠ []) (hpos : ∀ s ∈ d, 1 ≤ s.x ∧ 1 ≤ s.y) :
    ∃ shape, (imageSize none d).bind shapeOf = some shape ∧ InDomain shape d ∧
      (∃ s ∈ d, s.x = shape.2) ∧ (∃ s ∈ d, s.y = shape.1) := by
  obtain ⟨hX, hx, sx⟩ := maxInt_map_bound hne (·.x) fun s hs => (hpos s hs).1
  obtain ⟨hY, hy, sy⟩ := maxInt_map_bound hne (·.y) fun s hs => (hpos s hs).2
  rw [imageSize_none hne, Option.bind_some]
  exact ⟨_, if_pos ⟨hX, hY⟩, fun s hs => ⟨(hpos s hs).1, hx s hs, (hpos s hs).2, hy s hs⟩, sx, sy⟩

example : let d : List Spectrum := [⟨2, 3, none, [100], [1]⟩, ⟨1, 2, some 7, [150], [4]⟩]
    d ≠ [] ∧ (∀ s ∈ d, 1 ≤ s.x ∧ 1 ≤ s.y) ∧ (imageSize none d).bind shapeOf = some (3, 2) := by
  decide +kernel

/-! ## mass range -/

/-- `mass_range`: for ≥ 1 spectra, each non-empty and strictly increasing, the running min/max of
first/last elements bounds every recorded m/z, and both bounds are recorded m/z values. -/
theorem mass_range_bounds (specs : List Spectrum) (h0 : specs ≠ [])
    (hne : ∀ s ∈ specs, s.mz ≠ []) (hs : ∀ s ∈ specs, Incr s.mz) :
    ∃ lo hi, massRange specs = some (some lo, some hi) ∧
      (∀ s ∈ specs, ∀ m ∈ s.mz, lo ≤ m ∧ m ≤ hi) ∧
      (∃ s ∈ specs, lo ∈ s.mz) ∧ (∃ s ∈ specs, hi ∈ s.mz) := by
  rcases massRange_spec specs hne hs with ⟨h, _⟩ | h
  · exact absurd h h0
  · exact h

example : let specs : List Spectrum := [⟨1, 1, none, [100, 200], [1, 2]⟩, ⟨2, 1, some 7, [150], [4]⟩]
    specs ≠ [] ∧ (∀ s ∈ specs, s.mz ≠ []) ∧ (∀ s ∈ specs, Incr s.mz) ∧ massRange specs = some (some 100, some 200) := by
  decide +kernel

/-! ## binning -/

/-- Specification of binning: with strictly increasing bin edges `b₀ < b₁ < …`, width `w ≥ 0`, and
every m/z of the pixel inside `[b₀, b_last + w)`, the bins `[b_k, b_{k+1})` (last: `[b_last,
b_last + w)`) add up to the pixel's total intensity: every peak is counted in exactly one bin. -/
theorem bins_partition (mz it : List Rat) (b : Rat) (r : List Rat) (w : Rat) (hw : 0 ≤ w)
    (hb : Incr (b :: r)) (hlen : it.length = mz.length)
    (hin : ∀ l, (b :: r).getLast? = some l → ∀ x ∈ mz, b ≤ x ∧ x < l + w) :
    (binSpec mz it (b :: r) w).sum = it.sum := by
  obtain ⟨l, hl⟩ : ∃ l, (b :: r).getLast? = some l := ⟨_, List.getLast?_eq_some_getLast (by simp)⟩
  rw [binSpec_eq_chain mz it w _ l hl, List.sum_append, List.sum_singleton, specSpectrum, chain_sum mz it b r hb l hl,
    windowSum_split mz it (incr_le_getLast? hb hl b List.mem_cons_self) (le_add_of_nonneg_right hw)]
  exact windowSum_all mz it hlen (hin l hl)

example : (0 : Rat) ≤ 1 ∧ Incr (100 :: [101, 102]) ∧
    (∀ l, (100 :: [101, 102] : List Rat).getLast? = some l → ∀ x ∈ ([100, 201/2, 102] : List Rat), 100 ≤ x ∧ x < l + 1) ∧
    binSpec [100, 201/2, 102] [1, 2, 4] [100, 101, 102] 1 = [3, 0, 4] := by
  refine ⟨by decide +kernel, by decide +kernel, fun l hl => ?_, by decide +kernel⟩
  rw [← Option.some.inj hl]
  decide +kernel

/-- a single peak is counted by exactly one bin (the bins' indicator sums to one) -/
theorem peak_in_one_bin (m : Rat) (b : Rat) (r : List Rat) (w : Rat) (hw : 0 ≤ w)
    (hb : Incr (b :: r)) (hin : ∀ l, (b :: r).getLast? = some l → b ≤ m ∧ m < l + w) :
    (binSpec [m] [1] (b :: r) w).sum = 1 := by
  have := bins_partition [m] [1] b r w hw hb rfl (by intro l hl x hx; simp at hx; subst hx; exact hin l hl)
  simpa using this

/-- the bins `arange(min, max + w, w)` of `binned_masses` satisfy the hypotheses of
`bins_partition` for every m/z in `[min, max]` -/
theorem bins_cover (lo hi w : Rat) (hw : 0 < w) (h : lo ≤ hi) :
    Incr (arange lo (hi + w) w) ∧ (arange lo (hi + w) w).head? = some lo ∧
    ∀ l, (arange lo (hi + w) w).getLast? = some l → ∀ x, lo ≤ x → x ≤ hi → lo ≤ x ∧ x < l + w := by
  obtain ⟨n, _, hhead, hlast, hge, _⟩ := arange_ends lo hi w hw h
  refine ⟨arange_incr _ _ _ hw, hhead, fun l hl x h1 h2 => ⟨h1, ?_⟩⟩
  rw [← Option.some.inj (hlast.symm.trans hl)]
  exact lt_of_le_of_lt (le_trans h2 hge) (lt_add_of_pos_right _ hw)

/- Full-strength statement, FALSE of the current `binned_masses` (known finding
   `C05-binned-masses-empty-bins`):
     theorem bins_correct (mz it bins w) (hs : Incr mz) (hlen : it.length = mz.length) (htop : …) :
         binSpectrum mz it bins = binSpec mz it bins w
   Counter-example below (`bins_current_wrong`).  Proved instead for the class in which every bin of
   the pixel holds a peak and the last bin holds the last peak: -/

/-- `binned_masses`, one spectrum, restricted class `dense` (searchsorted indices strictly
increasing and the last one inside the array, i.e. every bin of the pixel non-empty and the last
bin holding the last peak): clip + `reduceat` gives exactly the per-bin window sums. -/
theorem bins_partition_partial (mz it bins : List Rat) (w : Rat) (hs : Incr mz)
    (hlen : it.length = mz.length) (hd : dense mz bins = true)
    (htop : ∀ l, bins.getLast? = some l → ∀ x ∈ mz, x < l + w) :
    binSpectrum mz it bins = binSpec mz it bins w := by
  unfold binSpectrum
  unfold dense at hd
  rw [hlen, clip_of_lt _ _ (denseIdx_lt _ _ hd)]
  exact reduceat_dense mz it bins w hs hlen hd htop

example : Incr [100, 201/2, 405/4, 102] ∧ dense [100, 201/2, 405/4, 102] [100, 101, 102] = true ∧
    (∀ l, ([100, 101, 102] : List Rat).getLast? = some l → ∀ x ∈ ([100, 201/2, 405/4, 102] : List Rat), x < l + 1) ∧
    binSpectrum [100, 201/2, 405/4, 102] [1, 2, 4, 8] [100, 101, 102] = [3, 4, 8] := by
  refine ⟨by decide +kernel, by decide +kernel, fun l hl => ?_, by decide +kernel⟩
  rw [← Option.some.inj hl]
  decide +kernel

/-- How small the class `dense` is for the edges `arange(min, max + w, w)` that `binned_masses`
uses: a pixel is in it only if it contains the image's HIGHEST m/z itself, `(max − min)/w` is an
exact natural number (the last edge is then `max`), and every pair of neighbouring edges has one of
the pixel's peaks between them.  (With the default `w = 0.1` on measured float data the second
condition alone fails for essentially every file: the class is then empty and every pixel falls
under the known finding.) -/
theorem dense_requires (mz : List Rat) (lo hi w : Rat) (hw : 0 < w) (h : lo ≤ hi)
    (hb : ∀ m ∈ mz, m ≤ hi) (hd : dense mz (arange lo (hi + w) w) = true) :
    hi ∈ mz ∧
    (∃ n : Nat, hi = lo + (n : Rat) * w ∧ (arange lo (hi + w) w).length = n + 1) ∧
    ∀ a b, [a, b] <:+: arange lo (hi + w) w → ∃ m ∈ mz, a ≤ m ∧ m < b := by
  obtain ⟨n, hlen, _, hlast, hge, _⟩ := arange_ends lo hi w hw h
  obtain ⟨hpw, hin⟩ := (denseIdx_iff _ _).mp hd
  -- the last index lies inside the array: some peak `m` is at or above the last edge, so `hi ≤ lo + n·w ≤ m ≤ hi`
  obtain ⟨m, hm, hle⟩ := ssLeft_lt_length (hin _ (by rw [List.getLast?_map, hlast]; rfl))
  obtain rfl : m = hi := le_antisymm (hb m hm) (le_trans hge hle)
  exact ⟨hm, ⟨n, le_antisymm hge hle, hlen⟩, fun a b hab =>
    exists_peak_of_ssLeft_lt (List.pairwise_pair.mp (hpw.sublist (hab.map (ssLeft mz)).sublist))⟩

example : (0 : Rat) < 1 ∧ (100 : Rat) ≤ 102 ∧ (∀ m ∈ ([100, 201/2, 405/4, 102] : List Rat), m ≤ 102) ∧
    arange 100 (102 + 1) 1 = [100, 101, 102] ∧ dense [100, 201/2, 405/4, 102] (arange 100 (102 + 1) 1) = true := by
  decide +kernel

/-- `binned_masses` on a whole file (image level).  Hypotheses: width `> 0`, at least one spectrum,
positions inside the image, every spectrum non-empty with strictly increasing m/z and as many
intensities.  Then `mass_range` is `(lo, hi)`, the edges are `arange(lo, hi + w, w)`, the call
returns them with the shape, and for every pixel `[r][c]`:
* no spectrum recorded there: NaN;
* spectrum `s` recorded there: the SPECIFIED bins of `s` (`binSpec`) add up to its total intensity
  and count each of its peaks in exactly one bin; the pixel holds the mechanism's value
  `binSpectrum`; and when the pixel is in the class `dense` (see `dense_requires` for how little
  that is) the mechanism's value IS the specified one.
Outside `dense` the mechanism's value is wrong (`bins_current_wrong`; known finding). -/
theorem binned_image (size : Option (Int × Int)) (file : List Spectrum) (shape : Nat × Nat) (w : Rat)
    (hw : 0 < w) (hne : file ≠ [])
    (hsz : (imageSize size (spectraDict file)).bind shapeOf = some shape)
    (hdom : InDomain shape (spectraDict file))
    (hs : ∀ s ∈ file, s.mz ≠ [] ∧ Incr s.mz ∧ s.it.length = s.mz.length) :
    ∃ lo hi img, massRange (spectraDict file) = some (some lo, some hi) ∧ lo ≤ hi ∧
      binImage size (spectraDict file) w = some (arange lo (hi + w) w, shape, img) ∧
      ∀ r c, (specAt file r c = none → img r c = none) ∧
        ∀ s, specAt file r c = some s →
          (binSpec s.mz s.it (arange lo (hi + w) w) w).sum = s.it.sum ∧
          (∀ m ∈ s.mz, (binSpec [m] [1] (arange lo (hi + w) w) w).sum = 1) ∧
          img r c = some (binSpectrum s.mz s.it (arange lo (hi + w) w)) ∧
          (dense s.mz (arange lo (hi + w) w) = true →
            img r c = some (binSpec s.mz s.it (arange lo (hi + w) w) w)) := by
  obtain ⟨lo, hi, hmr, hbnd, ⟨_, _, _⟩, ⟨sh, hsh, hhi⟩⟩ := mass_range_bounds (spectraDict file)
    (spectraDict_ne_nil hne) (fun s h => (hs s (mem_spectraDict h)).1) (fun s h => (hs s (mem_spectraDict h)).2.1)
  have hle : lo ≤ hi := (hbnd sh hsh hi hhi).1
  obtain ⟨img, himg, hpix⟩ := image_correct size file shape
    (fun s => binSpectrum s.mz s.it (arange lo (hi + w) w)) hsz hdom
  have hsum : ∀ mz it : List Rat, it.length = mz.length → (∀ m ∈ mz, lo ≤ m ∧ m ≤ hi) →
      (binSpec mz it (arange lo (hi + w) w) w).sum = it.sum := fun mz it hlen hb => by
    obtain ⟨hincr, hhead, hcov⟩ := bins_cover lo hi w hw hle
    obtain ⟨rest, hbins⟩ := List.head?_eq_some_iff.mp hhead
    rw [hbins] at hincr hcov ⊢
    exact bins_partition mz it lo rest w hw.le hincr hlen fun l hl x hx => hcov l hl x (hb x hx).1 (hb x hx).2
  refine ⟨lo, hi, img, hmr, hle, ?_, ?_⟩
  · simp [binImage, binEdges, hmr, himg]
  · intro r c
    refine ⟨fun hn => by rw [hpix r c, hn]; rfl, ?_⟩
    intro s hsat
    have hsd : s ∈ spectraDict file := (specAt_pos _ r c s ((spectra_dict_lookup file r c).trans hsat)).1
    have hsf := hs s (mem_spectraDict hsd)
    have hb := hbnd s hsd
    have hval : img r c = some (binSpectrum s.mz s.it (arange lo (hi + w) w)) := by
      rw [hpix r c, hsat]; rfl
    refine ⟨hsum s.mz s.it hsf.2.2 hb, fun m hm => ?_, hval, fun hd => ?_⟩
    · have := hsum [m] [1] rfl fun x hx => by rw [List.mem_singleton.mp hx]; exact hb m hm
      rwa [List.sum_singleton] at this
    · rw [hval, bins_partition_partial s.mz s.it _ w hsf.2.1 hsf.2.2 hd fun l hl x hx =>
        ((bins_cover lo hi w hw hle).2.2 l hl x (hb x hx).1 (hb x hx).2).2]

example : let file : List Spectrum := [⟨1, 1, none, [100, 201/2, 405/4, 102], [1, 2, 4, 8]⟩, ⟨2, 1, some 7, [101], [4]⟩]
    file ≠ [] ∧ (imageSize (some (2, 1)) (spectraDict file)).bind shapeOf = some (1, 2) ∧
    InDomain (1, 2) (spectraDict file) ∧
    (∀ s ∈ file, s.mz ≠ [] ∧ Incr s.mz ∧ s.it.length = s.mz.length) ∧
    (binImage (some (2, 1)) (spectraDict file) 1).map (fun r => (r.1, tabulate r.2.1 r.2.2))
      = some ([100, 101, 102], [[some [3, 4, 8], some [4, 4, 4]]]) := by
  decide +kernel

/-- the unrepaired mechanism on the documented input: `mz = [100,200,300,400]`, `it = [1,2,4,8]`,
bins `[100, 250, 260, 400, 550]` (width 150 irrelevant here): the empty bin `[250,260)` reports the
next peak (4) and the bins add up to 19 instead of 15. -/
theorem bins_current_wrong :
    binSpectrum [100, 200, 300, 400] [1, 2, 4, 8] [100, 250, 260, 400, 550] = [3, 4, 4, 8, 8] ∧
    binSpec [100, 200, 300, 400] [1, 2, 4, 8] [100, 250, 260, 400, 550] 150 = [3, 0, 4, 8, 0] := by
  decide +kernel

/-- the mechanism before the repair of `extract_masses` (clip, no sentinel, no zeroing) on the
documented input: window `[249, 251)` contains no peak but yields 4. -/
theorem extract_old_wrong :
    extractSpectrumOld [100, 200, 300, 400] [1, 2, 4, 8] [(249, 251)] = [4] ∧
    extractSpectrum [100, 200, 300, 400] [1, 2, 4, 8] [(249, 251)] = [0] := by
  decide +kernel

end Pew.Imzml
