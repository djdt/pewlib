import PewProofs.Agilent

/-! # C02 — property theorems

Every definition that occurs in a statement below lives in `PewModel/Agilent.lean` (core Lean only:
mechanisms, specifications and the hypothesis predicates `Layout`, `CsvWF`, `StableSortedBy`,
`Selected`, `Meta.Fails`, `Meta.SameUpToListing`, `SameShape`, `Near`, `Disk.Ok`) or is one of the example
batches defined here (`exMeta`, `exFiles`, `exFilesQ`, `exCsv`, `exCsvFiles`, `memoDisk`, `memoOpts`), except
`List.Forall₂`/`List.Perm`/`List.Pairwise`/`|·|` from the standard library.  The lemmas are in
`PewProofs/Agilent.lean` and the modules it imports, with the auxiliary definitions the proofs speak through; a theorem
`…_partial` here is the general form of the property theorem that follows it. -/
namespace Pew.Agilent

/-- The XML reader's remove-then-append loop returns the names of the acquisitions logged as
passed, each once, ordered by its LAST passed entry; failed entries and entries without a file
name contribute nothing.  Any log: any mixture of results, repeats, path styles. -/
theorem batchXml_spec (log : List LogEntry) :
    batchXml log = logSpec log ∧ (batchXml log).Nodup := by
  rw [batchXml_eq]
  exact ⟨rfl, keepLast_nodup _⟩

/-- what "ordered by last occurrence" means, without recursion: same members as the input, and
in a concatenation the earlier part keeps only what does not come again in the later part, in
front of the later part's own result. -/
theorem keepLast_spec {α : Type} [DecidableEq α] (l₁ l₂ : List α) :
    (∀ x, x ∈ keepLast l₁ ↔ x ∈ l₁) ∧
    keepLast (l₁ ++ l₂) = (keepLast l₁).filter (fun a => decide (a ∉ l₂)) ++ keepLast l₂ :=
  ⟨mem_keepLast l₁, keepLast_append l₁ l₂⟩

example : batchXml [⟨pass, some "D:\\b\\1.d".toList⟩, ⟨"Fail".toList, some "2.d".toList⟩,
    ⟨pass, some "/x/3.d".toList⟩, ⟨pass, some "1.d".toList⟩] = ["3.d".toList, "1.d".toList] := by decide +kernel

/-- `datafile[max(map(datafile.rfind, "\\/")) + 1:]` is the part after the last `\` or `/`: it
contains no separator, and the input is either that part itself or `prefix ++ separator ++ part`. -/
theorem basename_spec (s : Name) :
    basename s = basenameSpec s ∧
    (∀ c ∈ basename s, c ≠ '\\' ∧ c ≠ '/') ∧
    (basename s = s ∨ ∃ pre c, (c = '\\' ∨ c = '/') ∧ s = pre ++ c :: basename s) := by
  have hne : ∀ t : Name, (∀ d ∈ t, isSep d = false) → ∀ c ∈ t, c ≠ '\\' ∧ c ≠ '/' := by
    intro t ht c hc
    constructor <;> rintro rfl <;> exact absurd (ht _ hc) (by decide)
  rcases basename_cases s with ⟨h, h1, h2⟩ | ⟨pre, c, post, rfl, hc, hpost, h1, h2⟩
  · rw [h1, h2]
    exact ⟨rfl, hne s h, Or.inl rfl⟩
  · rw [h1, h2]
    exact ⟨rfl, hne post hpost, Or.inr ⟨pre, c, (isSep_iff c).mp hc, rfl⟩⟩

example : basename "D:\\Agilent\\DATA/x.b\\010.d".toList = "010.d".toList := by decide +kernel

example : basename "010.d".toList = "010.d".toList := by decide +kernel

/-- The CSV batch-log reader (as repaired) agrees with the XML reader on the same log, for every
log whose file names fit the `U264` column and whose result texts do not merely *start* with
`Pass` (the `U4` column truncates): any failures, repeats and path styles. -/
theorem batchCsv_eq_batchXml (log : List LogEntry) (rows : List CsvRow)
    (hsame : List.Forall₂ (fun e r => e.file = some r.file ∧ r.result = e.result) log rows)
    (hres : ∀ e ∈ log, e.result.take 4 = pass → e.result = pass)
    (hlen : ∀ r ∈ rows, r.file.length ≤ 264) :
    batchCsv rows = batchXml log := by
  rw [batchCsv_eq, batchXml_eq, csvLogNames_eq_passNames log rows hsame hres hlen, logSpec]

example : List.Forall₂ (fun e r => e.file = some r.file ∧ r.result = e.result)
    ([⟨pass, some "a\\1.d".toList⟩, ⟨"Fail".toList, some "2.d".toList⟩, ⟨pass, some "1.d".toList⟩] : List LogEntry)
    ([⟨1, "a\\1.d".toList, pass⟩, ⟨2, "2.d".toList, "Fail".toList⟩, ⟨3, "1.d".toList, pass⟩] : List CsvRow) := by
  repeat constructor

/-- The unrepaired CSV loop (append without removal) disagrees with the XML reader on the log
`1.d, 2.d (Fail), 3.d, 1.d` — kept as documentation of the defect fixed by 92e0f8d. -/
theorem batchCsv_unrepaired_wrong :
    let log : List LogEntry := [⟨pass, some "1.d".toList⟩, ⟨"Fail".toList, some "2.d".toList⟩,
      ⟨pass, some "3.d".toList⟩, ⟨pass, some "1.d".toList⟩]
    (log.filterMap (fun e => if e.result = pass then e.file.map basename else none)) ≠ batchXml log := by
  decide +kernel

/-- The method-file reader (`sorted(samples, key=SampleID)` then the `DataFileName` texts): its
result is the `filterMap` of THE stable sort of the `SampleParameter` elements by SampleID — the
unique list with the same elements, ascending SampleIDs (absent/empty = -1) and document order kept
among equal SampleIDs — whatever the document order; it equals the executable specification `acqSpec`.
No hypothesis. -/
theorem acqMethod_spec (samples : List Sample) :
    acqMethod samples = acqSpec samples ∧
    ∃ sorted, StableSortedBy sampleKey samples sorted ∧ acqMethod samples = sorted.filterMap (·.file) ∧
      ∀ s', StableSortedBy sampleKey samples s' → s' = sorted := by
  refine ⟨?_, sortByInt sampleKey samples, sortByInt_stable sampleKey samples, rfl, ?_⟩
  · exact acqMethod_eq_spec samples
  · intro s' hs'
    exact stableSortedBy_unique sampleKey samples s' _ hs' (sortByInt_stable sampleKey samples)

example : acqMethod [⟨some 5, some "b.d".toList⟩, ⟨none, some "x.d".toList⟩, ⟨some 2, none⟩, ⟨some 5, some "a.d".toList⟩,
    ⟨some 0, some "c.d".toList⟩] = ["x.d".toList, "c.d".toList, "b.d".toList, "a.d".toList] := by
  -- `List.mergeSort` is defined by well-founded recursion and does not evaluate; its insertion-sort form does
  rw [(acqMethod_spec _).1]; decide +kernel

/-- Method-file reader vs log readers.  The property's clause "when nothing failed or was repeated"
is `hpass`/`hnodup`.  What relates the method file to the LOG ORDER is not in the property text and
is a restriction of this theorem, stated as `hplan` + `hinc`: arranging the `SampleParameter`
elements in acquisition order (`planned`: the i-th one names the i-th log entry's file), their
SampleIDs strictly increase — i.e. the instrument ran the sample list in SampleID order.  Then the
method-file reader returns the log's list from ANY document order of the elements (`hperm`). -/
theorem acq_eq_log (log : List LogEntry) (samples planned : List Sample)
    (hpass : ∀ e ∈ log, e.result = pass)
    (hnodup : (log.map logName).Nodup)
    (hperm : samples.Perm planned)
    (hplan : planned.map (·.file) = log.map logName)
    (hinc : planned.Pairwise (fun a b => sampleKey a < sampleKey b)) :
    acqMethod samples = batchXml log ∧ acqSpec samples = logSpec log := by
  have h : acqMethod samples = logSpec log := by
    rw [acqMethod, sortByInt, Pew.SortKey.sortKey_of_perm_strict sampleKey samples planned hperm hinc,
      logSpec_of_clean log hpass hnodup, ← hplan, List.filterMap_map]
    rfl
  exact ⟨h.trans (batchXml_eq log).symm, (acqMethod_eq_spec samples).symm.trans h⟩

/-- non-vacuity of `acq_eq_log`: document order 9.d, 10.d; acquired 10.d (SampleID 3) then 9.d (SampleID 7) -/
example : acqMethod [⟨some 7, some "9.d".toList⟩, ⟨some 3, some "10.d".toList⟩]
    = batchXml [⟨pass, some "b\\10.d".toList⟩, ⟨pass, some "b\\9.d".toList⟩] :=
  (acq_eq_log _ _ [⟨some 3, some "10.d".toList⟩, ⟨some 7, some "9.d".toList⟩] (by decide +kernel) (by decide +kernel)
    (List.Perm.swap _ _ _) (by decide +kernel) (by decide +kernel)).1

/-- the Boolean the driver reports is the conjunction of the hypotheses `hpass`, `hnodup`, `hinc`, `hplan` of `acq_eq_log`
(`hperm` apart: the document order is not an argument), and that every entry names a file -/
theorem acqLogHyp_iff (log : List LogEntry) (planned : List Sample) :
    acqLogHyp log planned = true ↔
      (∀ e ∈ log, e.result = pass ∧ e.file.isSome = true) ∧ (log.map logName).Nodup ∧
      planned.Pairwise (fun a b => sampleKey a < sampleKey b) ∧ planned.map (·.file) = log.map logName := by
  simp only [acqLogHyp, Bool.and_eq_true, List.all_eq_true, decide_eq_true_eq]
  tauto

example : acqLogHyp [⟨pass, some "b\\10.d".toList⟩, ⟨pass, some "b\\9.d".toList⟩]
    [⟨some 3, some "10.d".toList⟩, ⟨some 7, some "9.d".toList⟩] = true := by decide +kernel

/-- The restriction `hinc` cannot be dropped: a clean log (nothing failed, nothing repeated) whose
two files were acquired against the SampleID order — the method-file reader lists them the other
way round. -/
theorem acq_ne_log_without_hinc :
    let log : List LogEntry := [⟨pass, some "10.d".toList⟩, ⟨pass, some "9.d".toList⟩]
    let samples : List Sample := [⟨some 2, some "10.d".toList⟩, ⟨some 1, some "9.d".toList⟩]
    samples.map (·.file) = log.map logName ∧ acqMethod samples ≠ batchXml log := by
  intro log samples
  rw [(acqMethod_spec samples).1]; decide +kernel

/-- The directory-scan fallback raises (ValueError from `int("")`) exactly when some data
directory's name has no digit; otherwise it returns exactly the data directories of the listing,
ascending in the number formed by the digits of their names. -/
theorem byNumber_sorted_perm (listing : List Entry) :
    (byNumber listing = none ↔ ∃ n ∈ dataDirs listing, hasDigit n = false) ∧
    ∀ l, byNumber listing = some l →
      l.Perm (dataDirs listing) ∧ l.Pairwise (fun a b => digitsVal a ≤ digitsVal b) := by
  unfold byNumber
  constructor
  · by_cases h : (dataDirs listing).all hasDigit = true
    · simp only [h, if_true, reduceCtorEq, false_iff, not_exists, not_and]
      intro n hn
      simpa using List.all_eq_true.mp h n hn
    · simp only [h, Bool.false_eq_true, if_false, true_iff]
      simpa using h
  · intro l hl
    split at hl
    · simp only [Option.some.injEq] at hl
      subst hl
      exact ⟨List.mergeSort_perm _ _, Pew.SortKey.sortKey_sorted digitsVal _⟩
    · simp at hl

/-- When the numbers in the data directories' names are pairwise distinct, the directory scan does not depend on
the order in which the directory is listed. -/
theorem byNumber_listing_independent (l₁ l₂ : List Entry) (hp : l₁.Perm l₂)
    (hinj : ∀ a ∈ dataDirs l₁, ∀ b ∈ dataDirs l₁, digitsVal a = digitsVal b → a = b) :
    byNumber l₁ = byNumber l₂ := by
  have hd : (dataDirs l₁).Perm (dataDirs l₂) := (hp.filter _).map _
  rw [byNumber, byNumber, hd.all_eq, sortByNat, sortByNat, Pew.SortKey.sortKey_perm_invariant digitsVal _ _ hd hinj]

/-- When the numbers are pairwise distinct, the directory scan equals its insertion-sort specification. -/
theorem byNumber_eq_spec (listing : List Entry)
    (hinj : ∀ a ∈ dataDirs listing, ∀ b ∈ dataDirs listing, digitsVal a = digitsVal b → a = b) :
    byNumber listing = byNumberSpec listing := by
  rw [byNumber, byNumberSpec, ← List.not_all_eq_any_not, sortByNat_eq_foldl_insertByNum _ hinj]
  cases (dataDirs listing).all hasDigit <;> rfl

example : byNumber [⟨"10.d".toList, true⟩, ⟨"Method".toList, true⟩, ⟨"9.D".toList, true⟩,
    ⟨"100.d".toList, true⟩, ⟨"7.d".toList, false⟩] = some ["9.D".toList, "10.d".toList, "100.d".toList] := by
  rw [byNumber_eq_spec _ (by decide +kernel)]; decide +kernel

/-- a data directory without a digit in its name: the scan raises -/
example : byNumber [⟨"10.d".toList, true⟩, ⟨"abc.d".toList, true⟩] = none := by decide +kernel

/-- `collect_datafiles` as a whole (any list of methods, any subset of metadata files present, any
directory content): the mechanism returns what the specification of each reader returns, given
only that BatchLog.csv's texts fit its columns (`U4`, `U264`) and that the data directories carry
pairwise distinct numbers.  This discharges the `hlines` hypothesis of `stack_pixel`/`csv_pixel`. -/
theorem collect_eq_spec (m : Meta) (methods : List Method)
    (hcsv : ∀ rows, m.csv = some rows →
      ∀ r ∈ rows, (r.result.take 4 = pass → r.result = pass) ∧ r.file.length ≤ 264)
    (hnum : ∀ a ∈ dataDirs m.listing, ∀ b ∈ dataDirs m.listing, digitsVal a = digitsVal b → a = b) :
    collect m false methods = collect m true methods ∧ linesOf m false methods = linesOf m true methods := by
  have hscan : m.scan false = m.scan true := by
    simp [Meta.scan, byNumber_eq_spec m.listing hnum]
  exact collect_linesOf_congr m m false true (m.source_eq_spec hcsv) (fun _ => rfl) hscan methods

/-- non-vacuity of `collect_eq_spec`: a CSV log with a failed and a repeated entry, three data
directories whose listing, alphabetical and numeric orders differ -/
example :
    let m : Meta := { listing := [⟨"10.d".toList, true⟩, ⟨"9.d".toList, true⟩, ⟨"100.d".toList, true⟩, ⟨"BatchLog.csv".toList, false⟩],
                      xml := none, acq := none,
                      csv := some [⟨1, "D:\\b\\100.d".toList, pass⟩, ⟨2, "D:\\b\\9.d".toList, "Fail".toList⟩,
                                   ⟨3, "D:\\b\\9.d".toList, pass⟩, ⟨4, "D:\\b\\100.d".toList, pass⟩] }
    (∀ rows, m.csv = some rows → ∀ r ∈ rows, (r.result.take 4 = pass → r.result = pass) ∧ r.file.length ≤ 264) ∧
    (∀ a ∈ dataDirs m.listing, ∀ b ∈ dataDirs m.listing, digitsVal a = digitsVal b → a = b) ∧
    collect m true [.batchCsv, .alphabetical] = some ["9.d".toList, "100.d".toList] := by
  refine ⟨?_, by decide +kernel, by decide +kernel⟩
  intro rows h
  simp only [Option.some.injEq] at h
  subst h
  decide +kernel

/-- The selection loop of `collect_datafiles` against its declarative specification `Selected`
(which does not mention the loop): `r` is the result iff it is what the FIRST method of the list
that does not fail gives, every earlier method having failed — a listing method fails when its
metadata file is absent or names a data file that does not exist; `alphabetical` never fails (its
scan may raise); `none` = ValueError when all fail.  Any list of methods (repeats included), any
metadata, mechanism or specification readers; in particular the specification determines the result
uniquely. -/
theorem collect_spec (m : Meta) (spc : Bool) (methods : List Method) (r : Option (List Name)) :
    Selected m (m.source spc) (m.scan spc) methods r ↔ collect m spc methods = r := by
  rw [selected_iff, collect_eq_findSome?]

/-- non-vacuity of `collect_spec`: BatchLog.xml names a missing file (fails), BatchLog.csv is absent
(fails), the method file lists two existing files: selected, whatever comes after it -/
example :
    let m : Meta := { listing := [⟨"10.d".toList, true⟩, ⟨"9.d".toList, true⟩, ⟨"Method".toList, true⟩],
                      xml := some [⟨pass, some "b\\10.d".toList⟩, ⟨pass, some "b\\8.d".toList⟩], csv := none,
                      acq := some [⟨some 2, some "9.d".toList⟩, ⟨some 1, some "10.d".toList⟩] }
    Selected m (m.source true) (m.scan true) [.batchXml, .batchCsv, .acqMethod, .alphabetical]
      (some ["10.d".toList, "9.d".toList]) := by
  intro m
  rw [collect_spec]
  decide +kernel

/-- "Lines appear in the order the batch log says, regardless of directory listing order": `collect_datafiles`
(every list of methods, the directory scan included), given that the data directories carry distinct numbers, returns
the same list whatever the order of the directory listing. -/
theorem collect_listing_independent (m₁ m₂ : Meta) (h : m₁.SameUpToListing m₂)
    (hinj : ∀ a ∈ dataDirs m₁.listing, ∀ b ∈ dataDirs m₁.listing, digitsVal a = digitsVal b → a = b)
    (methods : List Method) :
    collect m₁ false methods = collect m₂ false methods ∧ linesOf m₁ false methods = linesOf m₂ false methods := by
  have hscan : m₁.scan false = m₂.scan false := by
    simp only [Meta.scan, Bool.false_eq_true, if_false]
    exact byNumber_listing_independent _ _ h.perm hinj
  have hsrc : ∀ meth, m₁.source false meth = m₂.source false meth := by
    intro meth
    cases meth <;> simp [Meta.source, h.xml, h.csv, h.acq]
  exact collect_linesOf_congr m₁ m₂ false false hsrc (fun _ => h.perm.any_eq) hscan methods

/-- non-vacuity of `collect_listing_independent`: a listing and its reverse -/
example : (⟨[⟨"10.d".toList, true⟩, ⟨"9.d".toList, true⟩], none, none, none⟩ : Meta).SameUpToListing
    ⟨[⟨"9.d".toList, true⟩, ⟨"10.d".toList, true⟩], none, none, none⟩ :=
  ⟨List.Perm.swap _ _ _, rfl, rfl, rfl⟩

/-- Every scan `r < R` of every mass `j < k` — for every `R ≥ 1`, `k ≥ 1`, so `k = 1` and `k = 2`
are included — decodes to the Analog value of profile record `r`, column `j`, and the clip is not
active, for scan records laid out like the instrument's: `SpectrumOffset = 68 + r·ByteCount`,
`ByteCount > 0` (any value, in particular `28·k`). -/
theorem binary_pixel {α : Type} (R k bc : Nat) (scans : List ScanRec) (profile : List (List α))
    (L : Layout R k bc scans profile) (r j : Nat) (hr : r < R) (hj : j < k) :
    (∃ v, (profile[r]?).bind (fun row => row[j]?) = some v ∧
      ((decode (List.range' 1 k) scans profile)[j]?).bind (fun col => col[r]?) = some (some v)) ∧
    r * k + j ≤ R * k - 1 := by
  refine ⟨?_, clip_inactive R k r j hr hj⟩
  obtain ⟨v, hv⟩ := profile_getElem_some L r j hr hj
  refine ⟨v, hv, ?_⟩
  rw [decode_range', List.getElem?_map, List.getElem?_range hj, Option.map_some, Option.bind_some,
    decodeMass_getElem L r j hr hj, hv]

/-- non-vacuity: one mass, three scans, the fixture layout (`ByteCount = 28`) -/
example : Layout 3 1 28 [⟨68, 28, 0⟩, ⟨96, 28, 0⟩, ⟨124, 28, 0⟩] [[10], [20], [30]] :=
  ⟨rfl, rfl, by decide +kernel, by decide +kernel, by decide +kernel⟩

example : decode [1] [⟨68, 28, 0⟩, ⟨96, 28, 0⟩, ⟨124, 28, 0⟩] [[(10 : Nat)], [20], [30]]
    = [[some 10, some 20, some 30]] := by decide +kernel

/-- Regression documentation of the defect repaired by 0904cc9: the old formula
`SpectrumOffset // ByteCount` on the instrument's layout (`SpectrumOffset = 68 + r·ByteCount`,
`ByteCount = 28·k`) is wrong for `k = 1`: Analog values 10, 20, 30 decode to 30, 30, 30 ... -/
theorem binary_unrepaired_k1_wrong :
    decodeMassUnrepaired 1 [⟨68, 28, 0⟩, ⟨96, 28, 0⟩, ⟨124, 28, 0⟩] [[(10 : Nat)], [20], [30]] 1
      = [some 30, some 30, some 30] := by decide +kernel

/-- The formula before 0904cc9 for `k = 2` (`ByteCount = 56`): every scan shows the next scan's values. -/
theorem binary_unrepaired_k2_wrong :
    [1, 2].map (decodeMassUnrepaired 2 [⟨68, 56, 0⟩, ⟨124, 56, 0⟩, ⟨180, 56, 0⟩] [[(10 : Nat), 11], [20, 21], [30, 31]])
      = [[some 20, some 30, some 31], [some 21, some 31, some 31]] := by decide +kernel

/-- The formula before 0904cc9 (`SpectrumOffset // ByteCount`) recovers the record number exactly when the 68-byte
header is smaller than one record, i.e. `k ≥ 3`. -/
theorem binary_unrepaired_ok_iff (k r : Nat) (hk : 1 ≤ k) : (68 + r * (28 * k)) / (28 * k) = r ↔ 3 ≤ k := by
  have hpos : 0 < 28 * k := by omega
  rw [Nat.add_mul_div_right _ _ hpos]
  constructor
  · intro h
    by_contra hlt
    have hk2 : k = 1 ∨ k = 2 := by omega
    rcases hk2 with rfl | rfl <;> simp at h
  · intro h
    rw [Nat.div_eq_of_lt (by omega)]; simp

/-- the Boolean the driver reports implies the layout hypothesis of `binary_pixel`/`stack_pixel` -/
theorem layoutB_sound {α : Type} (k : Nat) (scans : List ScanRec) (profile : List (List α))
    (h : layoutB k scans profile = true) : ∃ bc, Layout scans.length k bc scans profile := by
  unfold layoutB at h
  simp only [Bool.and_eq_true, beq_iff_eq, List.all_eq_true, decide_eq_true_eq] at h
  obtain ⟨⟨⟨h1, h2⟩, h3⟩, h4⟩ := h
  refine ⟨(scans.head?.map (·.bc)).getD 0, ⟨h1, rfl, h2, ?_, h3⟩⟩
  intro r hr
  have := h4 (scans[r], r) (by rw [List.mem_zipIdx_iff_getElem?]; simp [hr])
  simpa using this

example : layoutB 2 [⟨68, 56, 0⟩, ⟨124, 56, 1⟩] [[(1 : Nat), 2], [3, 4]] = true := by decide +kernel

example : layoutB 2 [⟨68, 56, 0⟩, ⟨12, 56, 1⟩] [[(1 : Nat), 2], [3, 4]] = false := by decide +kernel

/-- Element `i` of the mass table is the `i`-th `Masses` element of MSTS_XSpecific.xml, its m/z
replaced by the last MSTS_XAddition row carrying index `i` (precursor; plus `->product` for MS/MS),
whatever the document order of the XAddition rows; the table is in id order 1..k. -/
theorem massInfo_spec (xs : List XMass) (xadd : Option (Bool × List XAdd))
    (hidx : ∀ msms rows, xadd = some (msms, rows) → ∀ a ∈ rows, 1 ≤ a.index ∧ a.index ≤ xs.length) :
    massInfo xs xadd = some (massInfoSpec xs xadd) ∧
    (massInfoSpec xs xadd).map (·.id) = List.range' 1 xs.length := by
  refine ⟨?_, (massInfoSpec_ids xs xadd).trans (xspecific_ids xs)⟩
  rcases xadd with _ | ⟨msms, rows⟩
  · simp [massInfo, massInfoSpec]
  · have hall : rows.all (fun a => (xspecific xs).any (fun m => m.id = a.index)) = true := by
      refine List.all_eq_true.mpr fun a ha => List.any_eq_true.mpr ?_
      have hmem : a.index ∈ (xspecific xs).map (·.id) := by
        rw [xspecific_ids, List.mem_range']
        have := hidx msms rows rfl a ha
        exact ⟨a.index - 1, by omega, by omega⟩
      obtain ⟨m, hm, e⟩ := List.mem_map.mp hmem
      exact ⟨m, hm, by simpa using e⟩
    simp only [massInfo, hall, if_true, massInfoSpec]
    rw [foldl_applyAdd]
    refine congrArg some (List.map_congr_left fun m hm => ?_)
    -- mechanism (`else m.mz2`) and specification (`else none`) agree because `mz2 = none` throughout `xspecific`
    cases List.find? (fun a => decide (a.index = m.id)) rows.reverse with
    | none => rfl
    | some a => simp [updMass, mz2_of_mem_xspecific hm]

example : (massInfo [⟨"P".toList, 1, 1⟩, ⟨"Eu".toList, 2, 1⟩]
      (some (true, [⟨2, 153, 153⟩, ⟨1, 31, 47⟩]))).map (fun t => t.map (·.str))
    = some ["P31->47".toList, "Eu153->153".toList] := by decide +kernel

/-- The element names `load_csv` takes from AcqMethod.xml are the names of the batch's own mass
table: whatever the document order of the `IcpmsElement` entries, if they are the mass table's
elements (`sorted` lists them in mass-table order, strictly ascending in (MZ, SelectedMZ) — the
method order) the renamed CSV columns carry the names the binary import reports.  MS/MS:
`name ++ precursor ++ "->" ++ product`; single quad: `name ++ mz`. -/
theorem acqNames_eq_massNames (msms : Bool) (tbl : List MassInfo) (es sorted : List AcqElement)
    (hperm : es.Perm sorted)
    (hsorted : sorted.Pairwise (fun a b => a.mz < b.mz ∨ (a.mz = b.mz ∧ a.selected < b.selected)))
    (hmatch : List.Forall₂ (fun (m : MassInfo) (e : AcqElement) => e.name = m.name ∧
      (if msms then m.mz2 = some e.mz ∧ m.mz = e.selected else m.mz2 = none ∧ m.mz = e.mz)) tbl sorted) :
    acqElements msms es = tbl.map (·.str) := by
  unfold acqElements
  rw [sortElements_of_perm_strict es sorted hperm hsorted]
  clear hperm hsorted
  induction hmatch with
  | nil => rfl
  | @cons m e ms es' h _ ih =>
    rw [List.map_cons, List.map_cons, ih]
    congr 1
    obtain ⟨hn, hm⟩ := h
    cases msms with
    | true =>
      simp only [if_true] at hm ⊢
      simp [MassInfo.str, hm.1, hm.2, hn]
    | false =>
      simp only [Bool.false_eq_true, if_false] at hm ⊢
      simp [MassInfo.str, hm.1, hm.2, hn]

example : acqElements true [⟨"Eu".toList, 153, 153⟩, ⟨"P".toList, 47, 31⟩]
    = ["P31->47".toList, "Eu153->153".toList] := by
  rw [acqNames_eq_massNames true
    [⟨1, "P".toList, 1, 31, some 47⟩, ⟨2, "Eu".toList, 1, 153, some 153⟩]
    _ [⟨"P".toList, 47, 31⟩, ⟨"Eu".toList, 153, 153⟩] (List.Perm.swap _ _ _) (by decide +kernel)
    (by repeat constructor)]
  decide +kernel

/-- The whole binary import equals its specification — pixel `[line][element][scan]` is the Analog
value of that element in that scan's record of that line's data file, the lines being the collected
ones in collected order, the names those of the mass table — for every batch whose data files WITH
binaries are laid out as in `binary_pixel` (the same `R` and `k` for every file; any number of lines),
whenever the collection mechanism returns what its specification returns (which the collection theorems
above establish reader by reader).  Both the code and the specification raise `FileNotFoundError` as
soon as a collected line lacks its binary (that is what makes `load` fall back to the CSV import). -/
theorem stack_pixel_partial {α : Type} (m : Meta) (files : List (DataFile α)) (ms : List MassInfo)
    (methods : List Method) (R k : Nat)
    (hids : ms.map (·.id) = List.range' 1 k)
    (hfiles : ∀ f ∈ files, f.hasBinary = true → ∃ bc, Layout R k bc f.scans f.profile)
    (hlines : linesOf m false methods = linesOf m true methods) :
    loadBinary m files (some ms) methods = loadBinarySpec m files ms methods := by
  unfold loadBinary loadBinarySpec
  rw [hlines]
  cases linesOf m true methods with
  | error e => rfl
  | ok lines =>
    simp only [bind, Except.bind]
    cases hd : allSome (lines.map (findFile files)) with
    | none => rfl
    | some dfs =>
      have hmem := mem_files_of_lines ((allSome_eq_some_iff _ _).mp hd)
      cases hb : dfs.all (·.hasBinary) with
      | false => simp only [orErr, hb, Bool.not_false, if_true, throw, throwThe, MonadExceptOf.throw]
      | true =>
        have hL : ∀ f ∈ dfs, ∃ bc, Layout R k bc f.scans f.profile :=
          fun f hf => hfiles f (hmem f hf) (List.all_eq_true.mp hb f hf)
        have hk : ms.length = k := length_of_ids hids
        have himg : allSome ((dfs.map (fun f => decode (ms.map (·.id)) f.scans f.profile)).map
              (fun line => allSome (line.map allSome)))
            = some (dfs.map (fun f => (List.range ms.length).map (column f.profile))) := by
          rw [List.map_map, hids, hk]
          apply allSome_map_of_forall
          intro f hf
          obtain ⟨bc, L⟩ := hL f hf
          exact decode_allSome L
        -- np.stack: every file has `R` scans, the first one too
        have hn : (dfs.all (fun f => decide (f.scans.length = (dfs.head?.map (·.scans.length)).getD 0))) = true := by
          rw [List.all_eq_true]
          intro f hf
          obtain ⟨bc, L⟩ := hL f hf
          cases dfs with
          | nil => cases hf
          | cons f0 rest =>
            obtain ⟨bc0, L0⟩ := hL f0 List.mem_cons_self
            simp [L.nscans, L0.nscans]
        simp only [orErr, hb, himg, hn, Bool.not_true, Bool.false_eq_true, if_false, pure, Except.pure, throw,
          throwThe, MonadExceptOf.throw]

/-- the same for a batch every data file of which has its binaries -/
theorem stack_pixel {α : Type} (m : Meta) (files : List (DataFile α)) (ms : List MassInfo)
    (methods : List Method) (R k : Nat)
    (hids : ms.map (·.id) = List.range' 1 k)
    (hfiles : ∀ f ∈ files, f.hasBinary = true ∧ ∃ bc, Layout R k bc f.scans f.profile)
    (hlines : linesOf m false methods = linesOf m true methods) :
    loadBinary m files (some ms) methods = loadBinarySpec m files ms methods :=
  stack_pixel_partial m files ms methods R k hids (fun f hf _ => (hfiles f hf).2) hlines

def exMeta : Meta :=
  { listing := [⟨"10.d".toList, true⟩, ⟨"9.d".toList, true⟩, ⟨"Method".toList, true⟩],
    xml := some [⟨pass, some "b\\10.d".toList⟩, ⟨"Fail".toList, some "b\\9.d".toList⟩, ⟨pass, some "b\\9.d".toList⟩],
    csv := none, acq := none }

def exFiles : List (DataFile Nat) :=
  [{ name := "9.d".toList, hasBinary := true, scans := [⟨68, 56, 0⟩, ⟨124, 56, 1⟩], profile := [[1, 2], [3, 4]], csv := none },
   { name := "10.d".toList, hasBinary := true, scans := [⟨68, 56, 0⟩, ⟨124, 56, 1⟩], profile := [[5, 6], [7, 8]], csv := none }]

/-- non-vacuity of `stack_pixel`: two lines, two masses, a log with a failed and a repeated entry -/
example : linesOf exMeta false [.batchXml] = linesOf exMeta true [.batchXml] := by decide +kernel

example : ∀ f ∈ exFiles, f.hasBinary = true ∧ ∃ bc, Layout 2 2 bc f.scans f.profile := by
  intro f hf
  simp only [exFiles, List.mem_cons, List.not_mem_nil, or_false] at hf
  rcases hf with rfl | rfl <;> exact ⟨rfl, 56, ⟨rfl, rfl, by decide +kernel, by decide +kernel, by decide +kernel⟩⟩

/-- the layout is asked only of the data files that have their binaries (the form of `stack_pixel_partial` and
`Disk.Ok.hbin`): the collected lines of a returning import all have them -/
theorem binary_import_pointwise_partial {α : Type} (m : Meta) (files : List (DataFile α)) (ms : List MassInfo)
    (methods : List Method) (R k : Nat)
    (hids : ms.map (·.id) = List.range' 1 k)
    (hfiles : ∀ f ∈ files, f.hasBinary = true → ∃ bc, Layout R k bc f.scans f.profile)
    (hlines : linesOf m false methods = linesOf m true methods)
    (im : Image α) (h : loadBinary m files (some ms) methods = .ok im) :
    ∃ lines, linesOf m true methods = .ok lines ∧ im.names = ms.map (·.str) ∧
      im.img.length = lines.length ∧ im.times.length = lines.length ∧
      ∀ (i : Nat) (hi : i < lines.length), ∃ f, findFile files lines[i] = some f ∧
        im.times[i]? = some (f.scans.map (fun s => s.time * 60)) ∧
        ∀ j r, j < k → r < R → px im.img i j r = (f.profile[r]?).bind (fun row => row[j]?) := by
  rw [stack_pixel_partial m files ms methods R k hids hfiles hlines] at h
  obtain ⟨lines, dfs, hl, hmap, hbin, rfl⟩ := of_loadBinarySpec_eq_ok h
  obtain ⟨hlen, hget⟩ := getElem_of_map_eq_map_some hmap
  have hk : ms.length = k := length_of_ids hids
  refine ⟨lines, hl, rfl, by simp [hlen], by simp [hlen], fun i hi => ?_⟩
  have hi' : i < dfs.length := by rw [hlen]; exact hi
  refine ⟨dfs[i], by simpa using hget i hi hi', by simp [hi'], fun j r hj hr => ?_⟩
  obtain ⟨bc, L⟩ := hfiles dfs[i] (mem_files_of_lines hmap _ (List.getElem_mem hi')) (hbin _ (List.getElem_mem hi'))
  simp [px, hi', hk, hj, column_getElem _ j k L.width hj r]

/-- The binary import, pixel by pixel, without `loadBinarySpec`: when `load_binary` returns an
image, its lines are the collected lines (`lines`, which `collect_spec`/`collect_eq_spec`
characterise), element names are those of the mass table, and for every line `i`, with `f` the data
file of that name, pixel `[i][j][r]` is the Analog value of element `j` in profile record `r` of
`f` and the times are `f`'s scan times in seconds.  Hypotheses as for `stack_pixel`. -/
theorem binary_import_pointwise {α : Type} (m : Meta) (files : List (DataFile α)) (ms : List MassInfo)
    (methods : List Method) (R k : Nat)
    (hids : ms.map (·.id) = List.range' 1 k)
    (hfiles : ∀ f ∈ files, f.hasBinary = true ∧ ∃ bc, Layout R k bc f.scans f.profile)
    (hlines : linesOf m false methods = linesOf m true methods)
    (im : Image α) (h : loadBinary m files (some ms) methods = .ok im) :
    ∃ lines, linesOf m true methods = .ok lines ∧ im.names = ms.map (·.str) ∧
      im.img.length = lines.length ∧ im.times.length = lines.length ∧
      ∀ (i : Nat) (hi : i < lines.length), ∃ f, findFile files lines[i] = some f ∧
        im.times[i]? = some (f.scans.map (fun s => s.time * 60)) ∧
        ∀ j r, j < k → r < R → px im.img i j r = (f.profile[r]?).bind (fun row => row[j]?) :=
  binary_import_pointwise_partial m files ms methods R k hids (fun f hf _ => (hfiles f hf).2) hlines im h

/-- non-vacuity of `binary_import_pointwise` (with `exMeta`, `exFiles` above): the import succeeds -/
example : ∃ im, loadBinary exMeta exFiles (some [⟨1, "P".toList, 1, 31, none⟩, ⟨2, "Eu".toList, 1, 153, none⟩]) [.batchXml]
    = .ok im :=
  exists_ok_of_isOk (by decide +kernel)

theorem binary_import_shape_partial {α : Type} (m : Meta) (files : List (DataFile α)) (ms : List MassInfo)
    (methods : List Method) (R k : Nat)
    (hids : ms.map (·.id) = List.range' 1 k)
    (hfiles : ∀ f ∈ files, f.hasBinary = true → ∃ bc, Layout R k bc f.scans f.profile)
    (hlines : linesOf m false methods = linesOf m true methods)
    (im : Image α) (h : loadBinary m files (some ms) methods = .ok im) :
    ∀ line ∈ im.img, line.length = k ∧ ∀ col ∈ line, col.length = R := by
  rw [stack_pixel_partial m files ms methods R k hids hfiles hlines] at h
  obtain ⟨lines, dfs, hl, hmap, hbin, rfl⟩ := of_loadBinarySpec_eq_ok h
  have hk : ms.length = k := length_of_ids hids
  intro line hline
  obtain ⟨f, hf, rfl⟩ := List.mem_map.mp hline
  obtain ⟨bc, L⟩ := hfiles f (mem_files_of_lines hmap f hf) (hbin f hf)
  refine ⟨by rw [List.length_map, List.length_range, hk], fun col hcol => ?_⟩
  obtain ⟨j, hj, rfl⟩ := List.mem_map.mp hcol
  rw [length_column L.width (hk ▸ List.mem_range.mp hj), L.nprofile]

/-- shape of a binary import: every line has `k` elements of `R` scans -/
theorem binary_import_shape {α : Type} (m : Meta) (files : List (DataFile α)) (ms : List MassInfo)
    (methods : List Method) (R k : Nat)
    (hids : ms.map (·.id) = List.range' 1 k)
    (hfiles : ∀ f ∈ files, f.hasBinary = true ∧ ∃ bc, Layout R k bc f.scans f.profile)
    (hlines : linesOf m false methods = linesOf m true methods)
    (im : Image α) (h : loadBinary m files (some ms) methods = .ok im) :
    ∀ line ∈ im.img, line.length = k ∧ ∀ col ∈ line, col.length = R :=
  binary_import_shape_partial m files ms methods R k hids (fun f hf _ => (hfiles f hf).2) hlines im h

/-- counts per second, pixel by pixel: every value of element `j` is divided by the accumulation
time of the `j`-th mass; names and times are untouched.  No hypothesis beyond `j` being a mass. -/
theorem cps_pixel (masses : List MassInfo) (im : Image Rat) (i j r : Nat) (ms : MassInfo)
    (hm : masses[j]? = some ms) :
    px (cps masses im).img i j r = (px im.img i j r).map (· / ms.acctime) ∧
    (cps masses im).img.length = im.img.length ∧
    (cps masses im).names = im.names ∧ (cps masses im).times = im.times := by
  refine ⟨?_, by simp [cps], rfl, rfl⟩
  unfold px cps
  simp only [List.getElem?_map]
  cases im.img[i]? with
  | none => rfl
  | some line =>
    simp only [Option.map_some, Option.bind_some, List.getElem?_map]
    have hz : (line.zip masses)[j]? = (line[j]?).map (fun c => (c, ms)) := by
      unfold List.zip
      rw [List.getElem?_zipWith, hm]
      cases line[j]? <;> rfl
    rw [hz]
    cases line[j]? with
    | none => rfl
    | some col => simp

example : px (cps [⟨1, "P".toList, 1/2, 31, none⟩, ⟨2, "Eu".toList, 1/4, 153, none⟩]
    ⟨[], [[[1, 2], [3, 4]]], []⟩).img 0 1 0 = some 12 := by decide +kernel

/-- `csv_valid_lines` yields exactly the header line and the data lines: preamble lines that do not
start with `Time`, a header that does, data lines with the header's comma count, footer lines with
a different comma count that do not start with `Time`. -/
theorem validLines_spec (pre data foot : List Name) (header : Name)
    (hpre : ∀ l ∈ pre, startsWithTime l = false) (hh : startsWithTime header = true)
    (hdata : ∀ l ∈ data, countCommas l = countCommas header)
    (hfoot : ∀ l ∈ foot, countCommas l ≠ countCommas header ∧ startsWithTime l = false) :
    validLines false 0 (pre ++ header :: (data ++ foot)) = header :: data := by
  rw [validLines_pre pre _ hpre, validLines_header _ hh, validLines_past _ data foot hdata hfoot]

example : validLines false 0 ["D:\\x\\1.d".toList, "Intensity Vs Time,CPS".toList, "Time [Sec],P31".toList,
    "0.5,1.25".toList, "1.0,2.50".toList, "".toList, "   Printed: now".toList]
    = ["Time [Sec],P31".toList, "0.5,1.25".toList, "1.0,2.50".toList] := by decide +kernel

/-- Reading one per-line CSV export: for every well-formed file (any preamble and footer that the
line filter rejects, header and data fields free of commas, every data row as wide as the header,
plain decimal fields, CR or no CR before the newline) the table delivered to `load_csv` has the
header's names and, at row `scan`, column `col`, exactly the decimal value printed in field `col`
of data row `scan` — no row or column is shifted, dropped or duplicated. -/
theorem readCsv_spec (c : CsvFile) (W : CsvWF c) :
    readCsv c.lines = some { names := c.header.map validName, rows := c.rows.map (fun r => r.filterMap parseDec) } :=
  readCsv_lines W

def exCsv : CsvFile :=
  { pre := ["D:\\b\\1.d".toList, "Intensity Vs Time,CPS".toList], header := ["Time [Sec]".toList, "P31".toList],
    rows := [["0.5253".toList, "38993.68".toList], ["1.0253".toList, "0.00".toList]],
    foot := ["".toList, "   Printed:now".toList], eol := ['\r'] }

/-- non-vacuity of `readCsv_spec`: one mass (the preamble line `Intensity Vs Time,CPS` has the
header's comma count), CRLF line ends, blank and text footer -/
theorem exCsv_wf : CsvWF exCsv :=
  ⟨by decide +kernel, by decide +kernel, by decide +kernel, by decide +kernel, by decide +kernel, by decide +kernel,
    by decide +kernel, by decide +kernel, fun r hr f hf => Option.isSome_iff_exists.mp
      ((by decide +kernel : ∀ r ∈ exCsv.rows, ∀ f ∈ r, (parseDec f).isSome = true) r hr f hf)⟩

/-- A line whose CSV is missing is zero-filled: every column (the time column included) of every
scan is 0; a line whose CSV is present (with the image's number of scans) holds, at `[column][scan]`,
field `column` of data row `scan`. -/
theorem zero_fill (ncol nscan j r : Nat) (hj : j < ncol) :
    (r < nscan → ((csvCols ncol nscan none)[j]?).bind (fun col => col[r]?) = some 0) ∧
    (∀ t : Table, (∀ row ∈ t.rows, row.length = ncol) → t.rows.length = nscan → r < nscan →
      ((csvCols ncol nscan (some t))[j]?).bind (fun col => col[r]?) = (t.rows[r]?).bind (fun row => row[j]?)) :=
  ⟨fun hr => by simp [csvCols, hj, hr], csvCols_cell hj⟩

/-- What NumPy does with exports of unequal length (outside the property's quantifier, compared
mechanism-vs-pewlib only): an export with a single data row is read as a 0-d record and BROADCAST
over all scans of the image. -/
theorem single_row_broadcast (ncol nscan j r : Nat) (hj : j < ncol) (hr : r < nscan) (hn : nscan ≠ 1)
    (t : Table) (row : List Rat) (ht : t.rows = [row]) (hrow : row.length = ncol) :
    ((csvCols ncol nscan (some t))[j]?).bind (fun col => col[r]?) = row[j]? := by
  have hlen : j < row.length := by omega
  have hne : ¬ (1 = nscan) := fun h => hn h.symm
  simp [csvCols, csvRows, ht, transpose, hj, hr, hne, List.getD, hlen]

example : ((csvCols 2 3 (some ⟨[], [[5, 6]]⟩))[1]?).bind (fun col => col[2]?) = some 6 :=
  single_row_broadcast 2 3 1 2 (by decide) (by decide) (by decide) ⟨[], [[5, 6]]⟩ [5, 6] rfl rfl

/-- The whole CSV import equals its specification: pixel `[line][element][scan]` is the decimal
value printed in field `element + 1` of data row `scan` of that line's export, a line without
export is all zeros, lines are the collected ones in collected order, and the columns are named by
the header (or, when the method file supplies names for every element, by those) — for every batch
whose exports are well-formed and of one shape (`ncol` columns, `nscan ≥ 2` rows, first column
`Time [Sec]`), any number of lines and any subset of them missing. -/
theorem csv_pixel {α : Type} (m : Meta) (files : List (DataFile α)) (names : Option (List Name))
    (methods : List Method) (ncol nscan : Nat) (hscan : 2 ≤ nscan)
    (hfiles : ∀ f ∈ files, ∀ c, f.csv = some c →
      CsvWF c ∧ c.header.length = ncol ∧ c.rows.length = nscan ∧ (c.header.head?).map validName = some timeName)
    (hnames : ∀ ns, names = some ns → ns.length = ncol - 1)
    (hlines : linesOf m false methods = linesOf m true methods) :
    loadCsv m files names methods = loadCsvSpec m files names methods := by
  unfold loadCsv loadCsvSpec
  rw [hlines]
  cases linesOf m true methods with
  | error e => rfl
  | ok lines =>
    dsimp only
    cases hd : allSome (lines.map (findFile files)) with
    | none => rfl
    | some dfs =>
      have hmem := mem_files_of_lines ((allSome_eq_some_iff _ _).mp hd)
      dsimp only
      have htabs : allSome (dfs.map (fun f => readLine f.csv)) = some (dfs.map (fun f => f.csv.map tableOf)) :=
        allSome_map_of_forall _ _ _ fun f hf => readLine_of_wf (hfiles f (hmem f hf))
      rw [htabs]
      dsimp only
      have hfm := filterMap_id_map_option dfs (·.csv) tableOf
      rw [hfm]
      cases hcs : dfs.filterMap (·.csv) with
      | nil => rfl
      | cons c0 rest =>
        obtain ⟨f0, hf0, e0⟩ := List.mem_filterMap.mp (hcs ▸ List.mem_cons_self : c0 ∈ dfs.filterMap (·.csv))
        obtain ⟨W0, hcol0, hrow0, htime0⟩ := hfiles f0 (hmem f0 hf0) c0 e0
        simp only [List.map_cons, tableOf, List.length_map, hrow0, hcol0]
        rw [if_neg (by omega)]
        have hshape : ((dfs.map (fun f => f.csv.map tableOf)).all (shapeOk nscan ncol)) = true :=
          List.all_eq_true.mpr (List.forall_mem_map.mpr fun f hf => shapeOk_tableOf (hfiles f (hmem f hf)))
        rw [hshape]
        simp only [Bool.not_true, Bool.false_eq_true, if_false]
        have hcols : allSome (dfs.map (fun f => csvLineSpec ncol nscan f.csv))
            = some ((dfs.map (fun f => f.csv.map tableOf)).map (csvCols ncol nscan)) := by
          rw [List.map_map]
          exact allSome_map_of_forall _ _ _ fun f hf => csvLineSpec_eq_csvCols (hfiles f (hmem f hf))
        rw [hcols, csvNames?_header hcol0 htime0 hnames, if_neg (fun h => h rfl)]
        rfl

def exCsvFiles : List (DataFile Nat) :=
  [{ name := "9.d".toList, hasBinary := false, scans := [], profile := [], csv := some exCsv },
   { name := "10.d".toList, hasBinary := false, scans := [], profile := [], csv := none }]

/-- non-vacuity of `csv_pixel`: two data files, one without export -/
example : ∀ f ∈ exCsvFiles, ∀ c, f.csv = some c →
    CsvWF c ∧ c.header.length = 2 ∧ c.rows.length = 2 ∧ (c.header.head?).map validName = some timeName := by
  intro f hf c hc
  simp only [exCsvFiles, List.mem_cons, List.not_mem_nil, or_false] at hf
  rcases hf with rfl | rfl
  · simp only [Option.some.injEq] at hc
    subst hc
    exact ⟨exCsv_wf, rfl, rfl, by decide +kernel⟩
  · simp at hc

/-- The CSV import, pixel by pixel, without `loadCsvSpec`: when `load_csv` returns an image, its
lines are the collected lines and, with `f` the data file of line `i`: if `f` has no export the
whole line (time column included) is 0; otherwise pixel `[i][j][r]` is the decimal printed in field
`j+1` of data row `r` of `f`'s export and the time is field 0.  Hypotheses as for `csv_pixel`. -/
theorem csv_import_pointwise {α : Type} (m : Meta) (files : List (DataFile α)) (names : Option (List Name))
    (methods : List Method) (ncol nscan : Nat) (hscan : 2 ≤ nscan)
    (hfiles : ∀ f ∈ files, ∀ c, f.csv = some c →
      CsvWF c ∧ c.header.length = ncol ∧ c.rows.length = nscan ∧ (c.header.head?).map validName = some timeName)
    (hnames : ∀ ns, names = some ns → ns.length = ncol - 1)
    (hlines : linesOf m false methods = linesOf m true methods)
    (im : Image Rat) (h : loadCsv m files names methods = .ok im) :
    ∃ lines, linesOf m true methods = .ok lines ∧ im.img.length = lines.length ∧ im.times.length = lines.length ∧
      ∀ (i : Nat) (hi : i < lines.length), ∃ f, findFile files lines[i] = some f ∧
        (f.csv = none → im.times[i]? = some (List.replicate nscan 0) ∧
          ∀ j r, j + 1 < ncol → r < nscan → px im.img i j r = some 0) ∧
        (∀ c, f.csv = some c → ∀ r, r < nscan →
          (im.times[i]?).bind (·[r]?) = ((c.rows[r]?).bind (·[0]?)).bind parseDec ∧
          ∀ j, j + 1 < ncol → px im.img i j r = ((c.rows[r]?).bind (·[j + 1]?)).bind parseDec) := by
  rw [csv_pixel m files names methods ncol nscan hscan hfiles hnames hlines] at h
  obtain ⟨lines, dfs, hl, hmap, hncol, himg, htimes⟩ := of_loadCsvSpec_eq_ok_wf h hfiles
  obtain ⟨hlen, hget⟩ := getElem_of_map_eq_map_some hmap
  refine ⟨lines, hl, by rw [himg, List.length_map, hlen], by rw [htimes, List.length_map, hlen], fun i hi => ?_⟩
  have hi' : i < dfs.length := by rw [hlen]; exact hi
  -- `[column][scan]` of line `i`: column 0 is the time, column `j + 1` element `j`
  have hcell : ∀ j r, (im.times[i]?).bind (·[r]?) = ((csvCols ncol nscan (dfs[i].csv.map tableOf))[0]?).bind (·[r]?) ∧
      px im.img i j r = ((csvCols ncol nscan (dfs[i].csv.map tableOf))[j + 1]?).bind (·[r]?) := by
    intro j r
    rw [px, himg, htimes, List.getElem?_map, List.getElem?_map, List.getElem?_eq_getElem hi', Option.map_some,
      Option.map_some, Option.bind_some, Option.bind_some, List.getElem?_drop, Nat.add_comm 1 j]
    cases csvCols ncol nscan (dfs[i].csv.map tableOf) <;> exact ⟨rfl, rfl⟩
  refine ⟨dfs[i], by simpa using hget i hi hi', fun hnone => ?_, fun c hsome r hr => ?_⟩
  · rw [hnone] at hcell
    refine ⟨?_, fun j r hj hr => ((hcell j r).2).trans ((zero_fill ncol nscan (j + 1) r hj).1 hr)⟩
    rw [htimes, List.getElem?_map, List.getElem?_eq_getElem hi', Option.map_some, hnone]
    cases ncol with
    | zero => exact absurd hncol (Nat.lt_irrefl 0)
    | succ n => rfl
  · obtain ⟨W, h1, h2, -⟩ := hfiles dfs[i] (mem_files_of_lines hmap _ (List.getElem_mem hi')) c hsome
    rw [hsome] at hcell
    exact ⟨(hcell 0 r).1.trans (csvCols_tableOf_cell W h1 h2 hncol hr),
      fun j hj => (hcell j r).2.trans (csvCols_tableOf_cell W h1 h2 hj hr)⟩

/-- non-vacuity of `csv_import_pointwise` (with `exMeta`, `exCsvFiles` above: lines 10.d — no export — and 9.d): the import succeeds -/
example : ∃ im, loadCsv exMeta exCsvFiles none [.batchXml] = .ok im :=
  exists_ok_of_isOk (by decide +kernel)

/-- shape of a CSV import: every line (with or without export) has `ncol - 1` elements of `nscan` scans -/
theorem csv_import_shape {α : Type} (m : Meta) (files : List (DataFile α)) (names : Option (List Name))
    (methods : List Method) (ncol nscan : Nat) (hscan : 2 ≤ nscan)
    (hfiles : ∀ f ∈ files, ∀ c, f.csv = some c →
      CsvWF c ∧ c.header.length = ncol ∧ c.rows.length = nscan ∧ (c.header.head?).map validName = some timeName)
    (hnames : ∀ ns, names = some ns → ns.length = ncol - 1)
    (hlines : linesOf m false methods = linesOf m true methods)
    (im : Image Rat) (h : loadCsv m files names methods = .ok im) :
    ∀ line ∈ im.img, line.length = ncol - 1 ∧ ∀ col ∈ line, col.length = nscan := by
  rw [csv_pixel m files names methods ncol nscan hscan hfiles hnames hlines] at h
  obtain ⟨lines, dfs, -, -, -, himg, -⟩ := of_loadCsvSpec_eq_ok_wf h hfiles
  rw [himg]
  intro line hline
  obtain ⟨f, -, rfl⟩ := List.mem_map.mp hline
  obtain ⟨h1, h2⟩ := csvCols_shape ncol nscan (f.csv.map tableOf)
  exact ⟨by rw [List.length_drop, h1], fun col hcol => h2 col (List.mem_of_mem_drop hcol)⟩

/-- The reported scan time: the mean of all consecutive differences of a `rows × m` table of times
is the sum over the rows of (last − first), divided by `rows·(m − 1)`. -/
theorem meandiff_telescope (times : List (List Rat)) (m : Nat) (hm : 2 ≤ m)
    (hrows : ∀ row ∈ times, row.length = m) :
    meanDiff times = meanDiffSpec times m :=
  meanDiff_eq_spec times m hrows

example : meanDiff [[1, 3, 4], [0, 1, 5]] = 2 := by decide +kernel

/-- what `agree` decides: the present lines have the same shape in both images and every pixel of
a present line satisfies `|x − y| ≤ tol + slack·(|x| + |y|)` -/
theorem agree_iff (tol slack : Rat) (present : List Bool) (bin csv : Image Rat) :
    agree tol slack present bin csv = true ↔
      SameShape present bin.img csv.img ∧
      ∀ (i j r : Nat) x y, present[i]? = some true → px bin.img i j r = some x → px csv.img i j r = some y →
        |x - y| ≤ tol + slack * (|x| + |y|) := by
  simp only [agree, SameShape, Bool.and_eq_true, beq_iff_eq, zip_all_iff, List.getElem?_zip_eq_some, agreeLine_iff,
    agreePx_iff, px_eq_some, Bool.or_eq_true, Bool.not_eq_true', Prod.forall]
  constructor
  · rintro ⟨⟨h1, h2⟩, h3⟩
    have hline := fun i la lb (hp : present[i]? = some true) ha hb =>
      (h3 i la lb true ⟨ha, hb⟩ hp).resolve_left (fun h => nomatch h)
    exact ⟨⟨h1, h2, fun i la lb hp ha hb => ⟨(hline i la lb hp ha hb).1, fun j ca cb hca hcb =>
        ((hline i la lb hp ha hb).2 j ca cb hca hcb).1⟩⟩,
      fun i j r x y hp ⟨la, ca, ha, hca, hx⟩ ⟨lb, cb, hb, hcb, hy⟩ =>
        ((hline i la lb hp ha hb).2 j ca cb hca hcb).2 r x y hx hy⟩
  · rintro ⟨⟨h1, h2, h3⟩, h4⟩
    refine ⟨⟨h1, h2⟩, fun i la lb p ⟨ha, hb⟩ hp => ?_⟩
    cases p with
    | false => exact Or.inl rfl
    | true =>
      exact Or.inr ⟨(h3 i la lb hp ha hb).1, fun j ca cb hca hcb => ⟨(h3 i la lb hp ha hb).2 j ca cb hca hcb,
        fun r x y hx hy => h4 i j r x y hp ⟨la, ca, ha, hca, hx⟩ ⟨lb, cb, hb, hcb, hy⟩⟩⟩

/-- "The binary import and the import of the per-line CSV exports agree to the precision of the CSV
text": if every number `y` in a present line's CSV is a value `v` rounded to `d` decimals
(`|y − v| ≤ ½·10⁻ᵈ`: the hypothesis on the printer, met e.g. by `roundDec`), `v` being the binary
import's value `x` up to one correctly rounded float64 operation (`|v − x| ≤ 2⁻⁵³|x|`: the
counts-per-second division of the exporting software), then the two images `agree` to half a unit
of the `d`-th decimal, with the slack `printSlack`.  Any shape, any subset of lines present. -/
theorem agree_of_printed (d : Nat) (present : List Bool) (bin csv : Image Rat)
    (hshape : SameShape present bin.img csv.img)
    (hprint : ∀ (i j r : Nat) x y, present[i]? = some true → px bin.img i j r = some x →
      px csv.img i j r = some y → ∃ v, |v - x| ≤ 1 / 2 ^ 53 * |x| ∧ |y - v| ≤ halfUnit d) :
    agree (halfUnit d) printSlack present bin csv = true := by
  rw [agree_iff]
  refine ⟨hshape, fun i j r x y hp hx hy => ?_⟩
  obtain ⟨v, h1, h2⟩ := hprint i j r x y hp hx hy
  exact agreePx_of_printed d x y v h1 h2

/-- a printer meeting the hypothesis exists: round-half-up to `d` decimals -/
theorem roundDec_within (d : Nat) (q : Rat) : |roundDec d q - q| ≤ halfUnit d := by
  unfold roundDec halfUnit
  have hp : (0 : Rat) < ((10 ^ d : Nat) : Rat) := by positivity
  generalize ((10 ^ d : Nat) : Rat) = p at hp
  have h1 := Rat.floor_le (q * p + 1 / 2)
  have h2 := Rat.lt_floor_add_one (q * p + 1 / 2)
  generalize (q * p + 1 / 2).floor = n at h1 h2
  push_cast at h2
  rw [show (n : Rat) / p - q = ((n : Rat) - q * p) / p by rw [sub_div, mul_div_cancel_right₀ _ hp.ne'],
    ← div_div, abs_div, abs_of_pos hp, div_le_div_iff_of_pos_right hp, abs_le]
  exact ⟨by linarith only [h2], sub_le_iff_le_add'.mpr h1⟩

/-- non-vacuity of `agree_of_printed`: any value printed with two decimals, a second line whose CSV
is missing (zero-filled) -/
example (x : Rat) : agree (halfUnit 2) printSlack [true, false] ⟨[], [[[x]], [[7]]], []⟩
    ⟨[], [[[roundDec 2 x]], [[0]]], []⟩ = true := by
  have uniform : ∀ y z : Rat, Uniform 1 1 [[[y]], [[z]]] := fun y z line hl => by
    rcases List.mem_pair.mp hl with rfl | rfl <;> exact ⟨rfl, fun col hc => List.mem_singleton.mp hc ▸ rfl⟩
  refine agree_of_printed 2 _ _ _ ((uniform x 7).sameShape (uniform _ 0) _ rfl rfl) fun i j r a b hp ha hb => ?_
  obtain ⟨hj, hr⟩ := (uniform x 7).px_lt ha
  obtain rfl : j = 0 := by omega
  obtain rfl : r = 0 := by omega
  rcases i with _ | _ | i
  · obtain rfl : x = a := Option.some.inj ha
    obtain rfl : roundDec 2 x = b := Option.some.inj hb
    exact ⟨x, exact_within x, roundDec_within 2 x⟩
  · cases hp
  · cases hp

/-- From the exact values to the two float64 imports: if the exact images (`sb`: recorded counts
per second, `sc`: the decimals in the CSV text) agree with `printSlack`, then any two images whose
pixels are within `2⁻⁵³` (relative) of them — what correctly rounded float64 division and
decimal-to-binary conversion deliver — agree with `agreeSlack`.  This is the verdict the
correspondence check demands of pewlib's two real imports. -/
theorem agree_transfer (tol : Rat) (present : List Bool) (sb sc ib ic : Image Rat)
    (hb : Near (1 / 2 ^ 53) sb.img ib.img) (hc : Near (1 / 2 ^ 53) sc.img ic.img)
    (h : agree tol printSlack present sb sc = true) :
    agree tol agreeSlack present ib ic = true := by
  rw [agree_iff] at h ⊢
  refine ⟨sameShape_near _ present _ _ _ _ hb hc h.1, ?_⟩
  intro i j r x' y' hp hx' hy'
  obtain ⟨x, hx, hxn⟩ := near_px _ _ _ hb i j r x' hx'
  obtain ⟨y, hy, hyn⟩ := near_px _ _ _ hc i j r y' hy'
  exact agreePx_transfer tol x y x' y' hxn hyn (h.2 i j r x y hp hx hy)

/-- non-vacuity of `agree_transfer`: the exact images themselves are within any relative distance -/
example (sb sc : Image Rat) (present : List Bool) (h : agree (halfUnit 2) printSlack present sb sc = true) :
    agree (halfUnit 2) agreeSlack present sb sc = true :=
  agree_transfer _ present sb sc sb sc (near_refl _ (by norm_num) _) (near_refl _ (by norm_num) _) h

/-- "The binary import and the import of the per-line CSV exports of the same batch agree to the precision of the
CSV text", composed with the two import theorems: for every batch with the instrument layout whose exports are
well-formed and of the batch's shape (`k` masses, `R ≥ 2` scans), IF every number in an export is the recorded
count divided by the accumulation time of its mass (one correctly rounded float64 division: `v` within `2⁻⁵³`
relative) rounded to `d` decimals (`y` within `½·10⁻ᵈ` of `v`) — a statement about the FILES of the batch, not
about images — THEN what `load_binary` (divided to counts per second) and `load_csv` return agree on every line
that has an export, to half a unit of the `d`-th decimal. -/
theorem imports_agree_of_printed (d : Nat) (m : Meta) (files : List (DataFile Rat)) (ms : List MassInfo)
    (names : Option (List Name)) (methods : List Method) (R k : Nat) (hscan : 2 ≤ R)
    (hids : ms.map (·.id) = List.range' 1 k)
    (hfiles : ∀ f ∈ files, f.hasBinary = true ∧ ∃ bc, Layout R k bc f.scans f.profile)
    (hexp : ∀ f ∈ files, ∀ c, f.csv = some c →
      CsvWF c ∧ c.header.length = k + 1 ∧ c.rows.length = R ∧ (c.header.head?).map validName = some timeName)
    (hnames : ∀ ns, names = some ns → ns.length = k)
    (hlines : linesOf m false methods = linesOf m true methods)
    (hprint : ∀ f ∈ files, ∀ c, f.csv = some c → ∀ (j r : Nat) (mj : MassInfo) (x y : Rat), ms[j]? = some mj →
      (f.profile[r]?).bind (fun row => row[j]?) = some x → ((c.rows[r]?).bind (·[j + 1]?)).bind parseDec = some y →
      ∃ v, |v - x / mj.acctime| ≤ 1 / 2 ^ 53 * |x / mj.acctime| ∧ |y - v| ≤ halfUnit d)
    (ib ic : Image Rat) (hb : loadBinary m files (some ms) methods = .ok ib)
    (hc : loadCsv m files names methods = .ok ic) :
    ∃ lines, linesOf m true methods = .ok lines ∧
      agree (halfUnit d) printSlack (lines.map (fun n => ((findFile files n).bind (·.csv)).isSome)) (cps ms ib) ic = true := by
  have hk : ms.length = k := length_of_ids hids
  have hnames' : ∀ ns, names = some ns → ns.length = k + 1 - 1 := hnames
  obtain ⟨lines, hl, -, hlenb, -, hpb⟩ := binary_import_pointwise m files ms methods R k hids hfiles hlines ib hb
  obtain ⟨lines', hl', hlenc, -, hpc⟩ :=
    csv_import_pointwise m files names methods (k + 1) R hscan hexp hnames' hlines ic hc
  obtain rfl : lines = lines' := Except.ok.inj (hl.symm.trans hl')
  have ub : Uniform k R (cps ms ib).img :=
    Uniform.cps (binary_import_shape m files ms methods R k hids hfiles hlines ib hb) ms hk
  have uc : Uniform k R ic.img := csv_import_shape m files names methods (k + 1) R hscan hexp hnames' hlines ic hc
  refine ⟨lines, hl, agree_of_printed d _ (cps ms ib) ic
    (ub.sameShape uc _ (by rw [cps, List.length_map, hlenb, hlenc]) (by rw [cps, List.length_map, hlenb, List.length_map])) ?_⟩
  intro i j r x y hp hx hy
  obtain ⟨hj, hr⟩ := ub.px_lt hx
  have hi : i < lines.length := by simpa using (List.getElem?_eq_some_iff.mp hp).1
  obtain ⟨f, hf, -, hpix⟩ := hpb i hi
  obtain ⟨f', hf', -, hcsv⟩ := hpc i hi
  obtain rfl : f = f' := Option.some.inj (hf.symm.trans hf')
  rw [List.getElem?_map, List.getElem?_eq_getElem hi, Option.map_some, hf, Option.bind_some] at hp
  obtain ⟨c, hcf⟩ := Option.isSome_iff_exists.mp (Option.some.inj hp)
  obtain ⟨mj, hmj⟩ : ∃ mj, ms[j]? = some mj := ⟨_, List.getElem?_eq_getElem (hk ▸ hj)⟩
  rw [(cps_pixel ms ib i j r mj hmj).1, hpix j r hj hr] at hx
  obtain ⟨x0, hx0, rfl⟩ := Option.map_eq_some_iff.mp hx
  rw [(hcsv c hcf r hr).2 j (Nat.succ_lt_succ hj)] at hy
  exact hprint f (List.mem_of_find?_eq_some hf) c hcf j r mj x0 y hmj hx0 hy

/-- non-vacuity of `hprint`: a printer that rounds the exact quotient half up to `d` decimals meets it -/
example (d : Nat) (x acc y : Rat) (h : y = roundDec d (x / acc)) :
    ∃ v, |v - x / acc| ≤ 1 / 2 ^ 53 * |x / acc| ∧ |y - v| ≤ halfUnit d :=
  ⟨x / acc, exact_within _, h ▸ roundDec_within d _⟩

/-- `load_binary` called with any option tuple (each option given or omitted) returns the stacked
image, divided when counts per second are asked for, in the return shape `full` asks for: the order
in which the code reads the params and divides does not matter (`hdiv`: the division leaves the
times alone, as `cps` does), and `full` only adds the params.  Any batch. -/
theorem loadBinaryCall_eq {α : Type} (m : Meta) (files : List (DataFile α)) (ms : List MassInfo)
    (divide : List MassInfo → Image α → Image α) (o : CallOpts)
    (hdiv : ∀ t im, (divide t im).times = im.times) :
    loadBinaryCall m files (some ms) divide o
      = (loadBinary m files (some ms) o.methodsV).map
          (fun im => retOf binTimeName o.drop o.fullV (if o.cpsV then divide ms im else im)) := by
  rw [loadBinaryCall_eq_map]
  congr 1
  funext im
  cases o.cpsV <;> simp [retOf, hdiv]

/-- `load_csv` called with any option tuple: the CSV import with the names the options select, in
the return shape `full` asks for. -/
theorem loadCsvCall_eq {α : Type} (m : Meta) (files : List (DataFile α)) (acq : Option (List Name)) (o : CallOpts) :
    loadCsvCall m files acq o
      = (loadCsv m files (if o.useAcqV then acq else none) o.methodsV).map (retOf timeName o.drop o.fullV) := by
  unfold loadCsvCall retOf
  cases loadCsv m files (if o.useAcqV then acq else none) o.methodsV with
  | error e => rfl
  | ok im => cases o.fullV <;> simp [Except.map, bind, Except.bind, pure, Except.pure]

/-- The image does not depend on `full`: whatever `full` is changed to (given `true`/`false` or
omitted), `load_binary` and `load_csv` return the same names and pixels (or raise alike), for every
batch and every setting of the other options (counts per second included). -/
theorem call_image_indep_of_full {α : Type} (m : Meta) (files : List (DataFile α)) (masses : Option (List MassInfo))
    (divide : List MassInfo → Image α → Image α) (acq : Option (List Name)) (o : CallOpts) (f : Option Bool) :
    (loadBinaryCall m files masses divide { o with full := f }).map Returned.image
        = (loadBinaryCall m files masses divide o).map Returned.image ∧
    (loadCsvCall m files acq { o with full := f }).map Returned.image
        = (loadCsvCall m files acq o).map Returned.image := by
  -- the image part of the returned record does not mention `full`
  rw [loadBinaryCall_eq_map, loadBinaryCall_eq_map, loadCsvCall_eq, loadCsvCall_eq]
  constructor
  · show Except.map _ (Except.map _ (loadBinary m files masses o.methodsV)) = _
    cases loadBinary m files masses o.methodsV <;> rfl
  · show Except.map _ (Except.map _ (loadCsv m files (if o.useAcqV then acq else none) o.methodsV)) = _
    cases loadCsv m files (if o.useAcqV then acq else none) o.methodsV <;> rfl

/-- the same for `load` (binary import, CSV import when that raises) -/
theorem load_image_indep_of_full (m : Meta) (files : List (DataFile Rat)) (masses : Option (List MassInfo))
    (divide : List MassInfo → Image Rat → Image Rat) (acq : Option (List Name)) (o : CallOpts) (f : Option Bool) :
    (load (loadBinaryCall m files masses divide { o with full := f }) (loadCsvCall m files acq { o with full := f })).map
        Returned.image
      = (load (loadBinaryCall m files masses divide o) (loadCsvCall m files acq o)).map Returned.image := by
  rw [load_map, load_map, (call_image_indep_of_full m files masses divide acq o f).1,
    (call_image_indep_of_full m files masses divide acq o f).2]

/-- Counts per second with any `full`: when `load_binary(..., counts_per_second=True, full=...)`
returns, every pixel of element `j` is the stacked value divided by the accumulation time of the
`j`-th mass, the names are those of the mass table, and the params are the times exactly when `full`
(`drop_names` omitted; `call_drop_cps_pixel` below is the statement for a given `drop_names`). -/
theorem call_cps_pixel (m : Meta) (files : List (DataFile Rat)) (ms : List MassInfo) (o : CallOpts) (r : Returned Rat)
    (h : loadBinaryCall m files (some ms) cps o = .ok r) (hc : o.cpsV = true) (hd : o.drop = none) :
    ∃ im, loadBinary m files (some ms) o.methodsV = .ok im ∧ r.names = im.names ∧
      r.params = (if o.fullV then some im.times else none) ∧
      ∀ (i j s : Nat) (x : MassInfo), ms[j]? = some x → px r.img i j s = (px im.img i j s).map (· / x.acctime) := by
  obtain ⟨im, hl, rfl⟩ := of_loadBinaryCall_cps_eq_ok h hc
  rw [hd]
  exact ⟨im, hl, rfl, rfl, fun i j s x hx => (cps_pixel ms im i j s x hx).1⟩

def exFilesQ : List (DataFile Rat) :=
  [{ name := "9.d".toList, hasBinary := true, scans := [⟨68, 56, 0⟩, ⟨124, 56, 1⟩], profile := [[1, 2], [3, 4]], csv := none },
   { name := "10.d".toList, hasBinary := true, scans := [⟨68, 56, 0⟩, ⟨124, 56, 1⟩], profile := [[5, 6], [7, 8]], csv := none }]

/-- non-vacuity: the image-only call (`full` omitted) with counts per second on a two-line batch
returns without params; the omitted options take the defaults of the signatures -/
example : ∃ r, loadBinaryCall exMeta exFilesQ (some [⟨1, "P".toList, 1/2, 31, none⟩, ⟨2, "Eu".toList, 1/4, 153, none⟩]) cps
      { methods := some [.batchXml], cps := some true, useAcq := none, full := none } = .ok r ∧ r.params = none :=
  exists_ok_of_decide (by decide +kernel)

example : (⟨none, none, none, none, none⟩ : CallOpts).methodsV = [.batchXml, .batchCsv] ∧
    (⟨none, none, none, none, none⟩ : CallOpts).cpsV = false ∧ (⟨none, none, none, none, none⟩ : CallOpts).useAcqV = true ∧
    (⟨none, none, none, none, none⟩ : CallOpts).fullV = false := ⟨rfl, rfl, rfl, rfl⟩

/-- What `drop_names = d` leaves of an image whose lines all have one column per name: the names not listed in `d`,
in their order, and under each kept name the column that stood under THAT name, pixel by pixel; the times untouched -/
theorem dropElems_pixel {β : Type} (d : List Name) (im : Image β) (hw : ∀ line ∈ im.img, line.length = im.names.length) :
    (dropElems (some d) im).names = im.names.filter (fun n => !d.contains n) ∧
    (dropElems (some d) im).times = im.times ∧
    ∀ (j' : Nat) (n : Name), (dropElems (some d) im).names[j']? = some n →
      ∃ j, im.names[j]? = some n ∧ d.contains n = false ∧
        ∀ i s, px (dropElems (some d) im).img i j' s = px im.img i j s :=
  ⟨rfl, rfl, dropElems_getElem? d im⟩

/-- `load_binary(..., counts_per_second=True, drop_names=d, full=...)`: the array returned holds the elements of the
mass table whose names are not listed in `d`, in table order, and EVERY kept element — whatever was dropped in front of
it — holds its stacked values divided by the accumulation time of ITS OWN mass (`ms[j]`, the mass of that name); the
time field stays in the array iff `d` does not list it.  (Dividing the `j'`-th kept field by the accumulation time of
the `j'`-th mass is wrong as soon as a field in front of it is dropped.) -/
theorem call_drop_cps_pixel (m : Meta) (files : List (DataFile Rat)) (ms : List MassInfo) (o : CallOpts) (r : Returned Rat)
    (d : List Name) (R k : Nat)
    (hids : ms.map (·.id) = List.range' 1 k)
    (hfiles : ∀ f ∈ files, f.hasBinary = true ∧ ∃ bc, Layout R k bc f.scans f.profile)
    (hlines : linesOf m false o.methodsV = linesOf m true o.methodsV)
    (h : loadBinaryCall m files (some ms) cps o = .ok r) (hc : o.cpsV = true) (hd : o.drop = some d) :
    ∃ im, loadBinary m files (some ms) o.methodsV = .ok im ∧
      r.names = (ms.map (·.str)).filter (fun n => !d.contains n) ∧
      r.timeField = (if d.contains binTimeName then none else some im.times) ∧
      ∀ (j' : Nat) (n : Name), r.names[j']? = some n →
        ∃ j x, ms[j]? = some x ∧ x.str = n ∧ d.contains n = false ∧
          ∀ i s, px r.img i j' s = (px im.img i j s).map (· / x.acctime) := by
  obtain ⟨im, hl, rfl⟩ := of_loadBinaryCall_cps_eq_ok h hc
  rw [hd]
  obtain ⟨lines, -, hnames, -⟩ := binary_import_pointwise m files ms o.methodsV R k hids hfiles hlines im hl
  have hcn : (cps ms im).names = ms.map (·.str) := hnames
  refine ⟨im, hl, by simp only [retOf, dropElems, hcn], rfl, fun j' n hn => ?_⟩
  obtain ⟨j, g1, g2, g3⟩ := dropElems_getElem? d (cps ms im) j' n hn
  rw [hcn, List.getElem?_map, Option.map_eq_some_iff] at g1
  obtain ⟨x, hx, rfl⟩ := g1
  exact ⟨j, x, hx, rfl, g2, fun i s => (g3 i s).trans (cps_pixel ms im i j s x hx).1⟩

/-- non-vacuity: `exFilesQ`, counts per second, the FIRST element dropped, the time field kept: the call returns, and the
kept `Eu153` stands at index 0 of the array while its mass is `ms[1]` (accumulation time 1/4, the first one's is 1/2) -/
example : (loadBinaryCall exMeta exFilesQ (some [⟨1, "P".toList, 1/2, 31, none⟩, ⟨2, "Eu".toList, 1/4, 153, none⟩]) cps
      { methods := some [.batchXml], cps := some true, useAcq := none, full := none, drop := some ["P31".toList] }).toOption.map
      (fun r => (r.names, r.timeField.isSome)) = some (["Eu153".toList], true) := by decide +kernel

/-- `load_binary` with any option tuple equals its specification `loadBinaryCallSpec` (the specified image — lines
in the specified collection order, pixel = the Analog value of that element in that scan's record, names of the
specified mass table — divided when counts per second are asked for, in the return shape `full` asks for), for
every batch whose data files WITH binaries have the instrument layout; a collected line without binaries makes
code and specification raise alike. -/
theorem loadBinaryCall_eq_spec {α : Type} (m : Meta) (files : List (DataFile α)) (ms : List MassInfo)
    (divide : List MassInfo → Image α → Image α) (o : CallOpts) (R k : Nat)
    (hdiv : ∀ t im, (divide t im).times = im.times)
    (hids : ms.map (·.id) = List.range' 1 k)
    (hfiles : ∀ f ∈ files, f.hasBinary = true → ∃ bc, Layout R k bc f.scans f.profile)
    (hlines : linesOf m false o.methodsV = linesOf m true o.methodsV) :
    loadBinaryCall m files (some ms) divide o = loadBinaryCallSpec m files ms divide o := by
  rw [loadBinaryCall_eq m files ms divide o hdiv, stack_pixel_partial m files ms o.methodsV R k hids hfiles hlines]
  rfl

/-- `load_csv` with any option tuple equals its specification `loadCsvCallSpec`: the specified CSV image, named by
the batch's own mass table (`tbl`) when `use_acq_for_names` holds and the method file exists (`hacq`: the method
file lists the batch's mass table, which `acqNames_eq_massNames` derives from the files), by the header otherwise. -/
theorem loadCsvCall_eq_spec {α : Type} (m : Meta) (files : List (DataFile α)) (acq : Option (List Name))
    (tbl : List Name) (o : CallOpts) (ncol nscan : Nat) (hscan : 2 ≤ nscan)
    (hfiles : ∀ f ∈ files, ∀ c, f.csv = some c →
      CsvWF c ∧ c.header.length = ncol ∧ c.rows.length = nscan ∧ (c.header.head?).map validName = some timeName)
    (hlen : tbl.length = ncol - 1) (hacq : ∀ ns, acq = some ns → ns = tbl)
    (hlines : linesOf m false o.methodsV = linesOf m true o.methodsV) :
    loadCsvCall m files acq o = loadCsvCallSpec m files acq tbl o := by
  rw [loadCsvCall_eq]
  unfold loadCsvCallSpec
  have key : ∀ names, (∀ ns, names = some ns → ns.length = ncol - 1) →
      loadCsv m files names o.methodsV = loadCsvSpec m files names o.methodsV :=
    fun names hn => csv_pixel m files names o.methodsV ncol nscan hscan hfiles hn hlines
  cases o.useAcqV with
  | false => simp [key none (by simp)]
  | true =>
    cases ha : acq with
    | none => simp [key none (by simp)]
    | some ns =>
      have := hacq ns ha
      subst this
      simp [key (some ns) (by intro ns' h; cases h; exact hlen)]

/-- `load` returns the binary import whenever that returns, and the CSV import exactly when the binary import raises -/
theorem load_binary_first {γ : Type} (b c : Except Err γ) :
    (∀ r, b = .ok r → load b c = .ok r) ∧ (∀ e, b = .error e → load b c = c) := by
  constructor
  · intro r h; subst h; rfl
  · intro e h; subst h; rfl

/-- Every entry point — `load_binary`, `load_csv` and `load` (binary first, CSV when that raises), with any option
tuple — returns on a disk satisfying `Disk.Ok` exactly what its specification says.  The hypotheses are those of the
single theorems, stated about the FILES: `massInfo_spec` (`hidx`), `collect_eq_spec` (`hcsvlog`, `hnum`),
`stack_pixel_partial` (`hbin`, for the files that have binaries), `csv_pixel` (`hexp`, `hscan`); `hacq` is what
`acqNames_eq_massNames` concludes, assumed here. -/
theorem callOn_eq_spec {α γ : Type} (enc : α → γ) (encQ : Rat → γ) (divide : List MassInfo → Image α → Image α)
    (hdiv : ∀ t im, (divide t im).times = im.times)
    (d : Disk α) (fn : EntryPoint) (o : CallOpts) (R k : Nat) (ok : d.Ok o.methodsV R k) :
    callOn enc encQ divide d fn o = callOnSpec enc encQ divide d fn o := by
  obtain ⟨hm, hids⟩ := massInfo_spec d.xs d.xadd ok.hidx
  rw [ok.hk] at hids
  have hlines := (collect_eq_spec d.mt o.methodsV ok.hcsvlog ok.hnum).2
  have hb : loadBinaryCall d.mt d.files (massInfo d.xs d.xadd) divide o
      = loadBinaryCallSpec d.mt d.files (massInfoSpec d.xs d.xadd) divide o := by
    rw [hm]
    exact loadBinaryCall_eq_spec d.mt d.files _ divide o R k hdiv hids ok.hbin hlines
  have hlen : ((massInfoSpec d.xs d.xadd).map (·.str)).length = k + 1 - 1 := by
    rw [List.length_map, length_of_ids hids]; rfl
  have hc : loadCsvCall d.mt d.files d.acq o
      = loadCsvCallSpec d.mt d.files d.acq ((massInfoSpec d.xs d.xadd).map (·.str)) o :=
    loadCsvCall_eq_spec d.mt d.files d.acq _ o (k + 1) R ok.hscan ok.hexp hlen ok.hacq hlines
  unfold callOn callOnSpec
  simp only [hb, hc]

/-- `load_binary`, `load_csv` and `load` with any options return the same value whatever the order in which the
directory is listed. -/
theorem callOn_listing_independent {α γ : Type} (enc : α → γ) (encQ : Rat → γ) (divide : List MassInfo → Image α → Image α)
    (d : Disk α) (m₂ : Meta) (h : d.mt.SameUpToListing m₂)
    (hinj : ∀ a ∈ dataDirs d.mt.listing, ∀ b ∈ dataDirs d.mt.listing, digitsVal a = digitsVal b → a = b)
    (fn : EntryPoint) (o : CallOpts) :
    callOn enc encQ divide d fn o = callOn enc encQ divide { d with mt := m₂ } fn o := by
  have hl := (collect_listing_independent d.mt m₂ h hinj o.methodsV).2
  have hb : ∀ masses, loadBinary d.mt d.files masses o.methodsV = loadBinary m₂ d.files masses o.methodsV := by
    intro masses
    unfold loadBinary
    rw [hl]
  have hc : ∀ names, loadCsv d.mt d.files names o.methodsV = loadCsv m₂ d.files names o.methodsV := by
    intro names
    unfold loadCsv
    rw [hl]
  unfold callOn loadBinaryCall loadCsvCall
  simp only [hb, hc]

/-- Histories: any number of imports made one after another by one process, through any entry points with any
options, the batch directory rewritten in any way between them (other masses, another number of masses, lines,
scans, another acquisition order; the same path or not): call by call the process returns what the specification
says of the disk AS IT IS AT THAT CALL, provided each disk satisfies `Disk.Ok`.  (The model of the module has no
state; `processMemo_by_path_wrong` shows what a state would do.) -/
theorem process_eq_spec {α γ : Type} (enc : α → γ) (encQ : Rat → γ) (divide : List MassInfo → Image α → Image α)
    (hdiv : ∀ t im, (divide t im).times = im.times)
    (calls : List (Disk α × EntryPoint × CallOpts))
    (ok : ∀ c ∈ calls, ∃ R k, c.1.Ok c.2.2.methodsV R k) :
    process enc encQ divide calls = processSpec enc encQ divide calls := by
  apply List.map_congr_left
  intro c hc
  obtain ⟨R, k, h⟩ := ok c hc
  exact callOn_eq_spec enc encQ divide hdiv c.1 c.2.1 c.2.2 R k h

/-- The value of a call in a process does not depend on the calls before it or after it. -/
theorem process_step {α γ : Type} (enc : α → γ) (encQ : Rat → γ) (divide : List MassInfo → Image α → Image α)
    (pre post : List (Disk α × EntryPoint × CallOpts)) (c : Disk α × EntryPoint × CallOpts) :
    (process enc encQ divide (pre ++ c :: post))[pre.length]? = some (callOn enc encQ divide c.1 c.2.1 c.2.2) := by
  rw [process, List.getElem?_map, List.getElem?_append_right (Nat.le_refl _), Nat.sub_self]
  rfl

/-- a one-line, one-mass batch at a fixed path: mass `name``mz`, recorded values `v`, `v + 1` -/
def memoDisk (name : Name) (mz : Int) (v : Nat) : Disk Nat :=
  { mt := { listing := [⟨"1.d".toList, true⟩], xml := some [⟨pass, some "1.d".toList⟩], csv := none, acq := none },
    files := [{ name := "1.d".toList, hasBinary := true, scans := [⟨68, 28, 0⟩, ⟨96, 28, 1⟩], profile := [[v], [v + 1]], csv := none }],
    xs := [⟨name, mz, 1⟩], xadd := none, acq := none }

def memoOpts : CallOpts := { methods := some [.batchXml], cps := none, useAcq := none, full := none }

/-- non-vacuity of `Disk.Ok` / `callOn_eq_spec` / `process_eq_spec`: the two disks of `processMemo_by_path_wrong`
(one line, one mass, two scans, no export, a BatchLog.xml) satisfy `Disk.Ok` -/
theorem memoDisk_ok (name : Name) (mz : Int) (v : Nat) : (memoDisk name mz v).Ok [.batchXml] 2 1 :=
  { hk := rfl
    hidx := fun _ _ h => nomatch h
    hbin := by
      intro f hf _
      obtain rfl := List.mem_singleton.mp hf
      exact layoutB_sound 1 [⟨68, 28, 0⟩, ⟨96, 28, 1⟩] [[v], [v + 1]] rfl
    hcsvlog := fun _ h => nomatch h
    hnum := by
      -- a listing of one entry has at most one data directory
      have h1 : ∀ a ∈ dataDirs (memoDisk name mz v).mt.listing, a = "1.d".toList := fun a ha => by
        obtain ⟨e, he, rfl⟩ := List.mem_map.mp ha
        rw [List.mem_singleton.mp (List.mem_filter.mp he).1]
      intro a ha b hb _
      rw [h1 a ha, h1 b hb]
    hscan := by decide
    hexp := fun f hf c hc => by
      obtain rfl := List.mem_singleton.mp hf
      exact nomatch hc
    hacq := fun _ h => nomatch h }

example : (callOn (γ := Nat) id (fun _ => 0) (fun _ im => im) (memoDisk "Eu".toList 153 7) .load memoOpts).toOption.map
    (fun r => (r.names, r.img)) = some (["Eu153".toList], [[[7, 8]]]) := by decide +kernel

/-- Remembering what was read is harmless exactly when the key determines it: if two disks with the same key
hold the same mass table files (a key made of the files' CONTENT, say), the remembering process returns, call by
call, what the stateless `load_binary` returns — for every history. -/
theorem processMemo_eq_of_key_determines {α κ : Type} [DecidableEq κ] (key : Disk α → κ)
    (divide : List MassInfo → Image α → Image α)
    (hkey : ∀ d d' : Disk α, key d = key d' → d.xs = d'.xs ∧ d.xadd = d'.xadd)
    (calls : List (Disk α × CallOpts)) :
    processMemo key divide [] calls
      = calls.map (fun c => loadBinaryCall c.1.mt c.1.files (massInfo c.1.xs c.1.xadd) divide c.2) := by
  suffices H : ∀ (cache : List (κ × Option (List MassInfo))),
      (∀ p ∈ cache, ∀ d : Disk α, key d = p.1 → p.2 = massInfo d.xs d.xadd) →
      processMemo key divide cache calls
        = calls.map (fun c => loadBinaryCall c.1.mt c.1.files (massInfo c.1.xs c.1.xadd) divide c.2) from
    H [] (by simp)
  induction calls with
  | nil => intro cache _; rfl
  | cons c rest ih =>
    intro cache inv
    obtain ⟨d, o⟩ := c
    have htbl : (memoGet (key d) cache).getD (massInfo d.xs d.xadd) = massInfo d.xs d.xadd := by
      cases hg : memoGet (key d) cache with
      | none => rfl
      | some t => exact inv _ (memoGet_mem _ _ _ hg) d rfl
    simp only [processMemo, List.map_cons, htbl]
    congr 1
    apply ih
    intro p hp d' hd'
    rcases List.mem_cons.mp hp with rfl | hp
    · simp only at hd' ⊢
      obtain ⟨h1, h2⟩ := hkey d' d hd'
      rw [h1, h2]
    · exact inv p hp d' hd'

/-- Remembering what was read is wrong when the key does not determine it: a batch measuring P31 is imported, the
batch at the SAME path is replaced by one measuring Eu153 and imported again.  Keyed on the path, the second image is
named `P31`; the stateless import names it `Eu153`. -/
theorem processMemo_by_path_wrong :
    ((processMemo (fun _ => ()) (fun _ im => im) [] [(memoDisk "P".toList 31 5, memoOpts), (memoDisk "Eu".toList 153 7, memoOpts)]).map
        (fun r => r.toOption.map (·.names))) = [some ["P31".toList], some ["P31".toList]] ∧
    (([(memoDisk "P".toList 31 5, memoOpts), (memoDisk "Eu".toList 153 7, memoOpts)].map
        (fun c => loadBinaryCall c.1.mt c.1.files (massInfo c.1.xs c.1.xadd) (fun _ im => im) c.2)).map
        (fun r => r.toOption.map (·.names))) = [some ["P31".toList], some ["Eu153".toList]] := by
  constructor <;> decide +kernel

end Pew.Agilent
