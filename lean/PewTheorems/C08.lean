import PewProofs.SyncSingle
import PewProofs.SyncSqueeze
import PewProofs.SyncText

/-! # C08 — property theorems (statements only depend on `PewModel.Sync`)

Fifteen of the registered theorems stand in the proof modules, where later proofs use them: `pixel_index_robust`,
`pixel_of_aligned`, `line_placement`, `sync_date_invariant` (PewProofs/Sync.lean),
`render_spot_roundtrip` (SyncDecimal), `calendar_roundtrip` (SyncCalendar), `render_event_index` (SyncLayout),
`render_selects_lines` (SyncRows), `render_line_cells` (SyncGeom), `render_defined` (SyncRender), `domain_single_pattern`
(SyncSingle), `stamp_roundtrip`, `coordinate_roundtrip`, `line_roundtrip`, `log_roundtrip` (SyncText). -/
namespace Pew.Sync

example : pixIdx ((32 : Nat) + (-(1 : Rat) / 1000000000)) = 32 :=
  pixel_index_robust 32 _ (by norm_num) (by norm_num)

/-- The conversion before the repair, `q.astype(int)`, returns the previous pixel as soon as the
quotient is the least bit below the integer: this is why truncation is wrong for coordinates
printed with four decimals. -/
theorem pixel_index_trunc_fragile (j : Nat) (hj : 1 ≤ j) (δ : Rat) (h1 : -1 < δ) (h2 : δ < 0) :
    pixIdxTrunc ((j : Rat) + δ) = (j : Int) - 1 := by
  unfold pixIdxTrunc truncR
  have hj' : (1 : Rat) ≤ (j : Rat) := by exact_mod_cast hj
  rw [if_pos (by linarith)]
  exact floor_eq_of_bounds _ _ (by push_cast; linarith) (by push_cast; linarith)

example : pixIdxTrunc ((32 : Nat) + (-(1 : Rat) / 1000000000)) = 31 := by
  have := pixel_index_trunc_fragile 32 (by norm_num) (-(1 : Rat) / 1000000000) (by norm_num) (by norm_num)
  simpa using this

/-- the input of the defect repaired in 2644f39 (origin 80394.6132 µm, spot 1.1 µm, 32 pixels), in exact arithmetic; in
floats the quotient comes out a hair below 32, the situation of the two examples above -/
example : toPix 803946132 ((11000 : Nat) / 10000) (803946132 + (32 * 11000 : Nat)) = 32 := by
  exact_mod_cast toPix_aligned 803946132 11000 32 (by norm_num)

/-- one sample per pixel (`n = L`): travel step `j` of the line holds sample `j` — the line is
reproduced, in the orientation of travel, for all four directions -/
theorem line_exact {α} (xs : List α) (g : Seg) (hax : g.y0 = g.y1 ∨ g.x0 = g.x1) (hn : xs.length = g.len) :
    ∃ w, segWrites xs g = some w ∧
      ∀ (p : Int × Int) (v : α), (p, v) ∈ w ↔ ∃ j : Nat, j < g.len ∧ p = g.cellAt j ∧ xs[j]? = some v := by
  obtain ⟨w, hw, hmem⟩ := mem_segWrites xs g hax
  refine ⟨w, hw, fun p v => ?_⟩
  rw [hmem, hn]
  constructor
  · rintro ⟨j, m, hj, hjm, hv, hp⟩
    obtain rfl : j = m := by omega
    exact ⟨j, hj, hp, hv⟩
  · rintro ⟨j, hj, hp, hv⟩
    exact ⟨j, j, hj, rfl, hv, hp⟩

/-- right-to-left line of 3 pixels with the `On` coordinate at pixel 5: samples a, b, c land on
pixels 4, 3, 2 -/
example : segWrites ["a", "b", "c"] { t0 := 0, t1 := 3, x0 := 5, x1 := 2, y0 := 1, y1 := 1 }
    = some [((1, 2), "c"), ((1, 3), "b"), ((1, 4), "a")] := by decide

/-- two samples on a top-to-bottom line of 3 pixels: they land on the last two pixels of travel -/
example : segWrites ["a", "b"] { t0 := 0, t1 := 2, x0 := 7, x1 := 7, y0 := 0, y1 := 3 }
    = some [((1, 7), "a"), ((2, 7), "b")] := by decide

/-- no pixel is assigned twice within one line -/
theorem line_injective {α} (lo hi : Int) (flip : Bool) (xs : List α) :
    ((place1 lo hi flip xs).map Prod.fst).Nodup := by
  simp only [place1]
  have hc := cells_nodup lo (hi - lo).toNat
  split
  · exact (map_fst_zip_sublist _ _).nodup ((List.take_sublist _ _).nodup hc)
  · split
    · simp
    · exact (map_fst_zip_sublist _ _).nodup ((List.drop_sublist _ _).nodup hc)

/-- One sample per pixel on every imported line (`t1 − t0 = len`), lines that do not share a pixel:
every pixel visited at travel step `j` of a line holds that line's `j`-th sample, and every pixel
that no line visits keeps the NaN fill.  (All eight scan patterns are lists of such lines.) -/
theorem image_of_lines (n : Nat) (segs : List Seg)
    (hex : ∀ g ∈ segs, (g.y0 = g.y1 ∨ g.x0 = g.x1) ∧ g.t0 ≤ g.t1 ∧ g.t1 ≤ n ∧ g.t1 - g.t0 = g.len)
    (hdisj : segs.Pairwise (fun g h => ∀ a b, a < g.len → b < h.len → g.cellAt a ≠ h.cellAt b)) :
    ∃ w, allWrites n segs = some w ∧
      (∀ g ∈ segs, ∀ j, j < g.len → lookupLast w (g.cellAt j) = some (g.t0 + j)) ∧
      (∀ p, (∀ g ∈ segs, ∀ j, j < g.len → p ≠ g.cellAt j) → lookupLast w p = none) := by
  obtain ⟨w, hw, h1, h2⟩ :=
    lookupLast_allWrites n segs (fun g hg => ⟨(hex g hg).1, (hex g hg).2.2.1⟩) hdisj
  refine ⟨w, hw, fun g hg j hj => h1 g hg j _ ?_, fun p hp => h2 p fun g hg j v hput => hp g hg j hput.1⟩
  have := (hex g hg).2.2.2
  exact ⟨hj, by omega, by omega, by omega⟩

/-- a serpentine raster of two lines of three pixels (left-to-right, then right-to-left one row
down), samples 0–2 and 4–6 (sample 3 was taken in the gap): the image is the ground truth -/
example : (allWrites 7 [{ t0 := 0, t1 := 3, x0 := 0, x1 := 3, y0 := 0, y1 := 0 },
                        { t0 := 4, t1 := 7, x0 := 3, x1 := 0, y0 := 1, y1 := 1 }]).map
      (fun w => [[lookupLast w (0, 0), lookupLast w (0, 1), lookupLast w (0, 2), lookupLast w (0, 3)],
                 [lookupLast w (1, 0), lookupLast w (1, 1), lookupLast w (1, 2), lookupLast w (1, 3)]])
    = some [[some 0, some 1, some 2, none], [some 6, some 5, some 4, none]] := by decide

/-- With sorted sample times, the index range `[searchsorted t0, searchsorted t1)` computed on the
shifted times is exactly the set of samples whose time, counted from the first sample, lies in
`[t0 − d, t1 − d)`: a delay `d` makes an event at `t` pick up the signal recorded at `t − d`. -/
theorem sample_range (ts : List Rat) (hs : ts.Pairwise (· ≤ ·)) (d a b : Rat) (k : Nat) :
    k ∈ pySlice (List.range ts.length) (searchsorted (shiftTimes ts d) a) (searchsorted (shiftTimes ts d) b) ↔
      ∃ t, ts[k]? = some t ∧ a - d ≤ t - minRat ts ∧ t - minRat ts < b - d := by
  rw [mem_pySlice_range]
  constructor
  · rintro ⟨h1, h2, h3⟩
    have ht := List.getElem?_eq_getElem h3
    exact ⟨_, ht, not_lt.mp ((lt_searchsorted_shift ts hs d a k _ ht).not.mp (Nat.not_lt.mpr h1)),
      (lt_searchsorted_shift ts hs d b k _ ht).mp h2⟩
  · rintro ⟨t, ht, h1, h2⟩
    exact ⟨Nat.not_lt.mp ((lt_searchsorted_shift ts hs d a k t ht).not.mpr (not_lt.mpr h1)),
      (lt_searchsorted_shift ts hs d b k t ht).mpr h2, (List.getElem?_eq_some_iff.mp ht).1⟩

/-- four samples at 10, 11, 12, 13 s, delay 1/2 s, laser on from 1 s to 3 s: the samples recorded
at 1 s and 2 s after the first one (indices 1 and 2) are in the range, index 3 is not -/
example : (2 : Nat) ∈ pySlice (List.range 4) (searchsorted (shiftTimes [10, 11, 12, 13] (1 / 2)) 1)
    (searchsorted (shiftTimes [10, 11, 12, 13] (1 / 2)) 3) :=
  (sample_range [10, 11, 12, 13] (by decide) (1 / 2) 1 3 2).mpr ⟨12, rfl, by decide +kernel, by decide +kernel⟩

/-- Every sample that ends up in the image was recorded while the laser was on during one of the
imported lines (laser time counted from the first firing, signal time from its first sample,
shifted by the delay): samples taken while the laser was off are discarded. -/
theorem off_samples_discarded (ts : List Rat) (hs : ts.Pairwise (· ≤ ·)) (d : Rat) (first : Row)
    (ox oy : Int) (sx sy : Rat) (prs : List (Row × Row)) (w : List ((Int × Int) × Nat))
    (h : allWrites ts.length (prs.map (mkSeg (shiftTimes ts d) first ox oy sx sy)) = some w)
    (p : Int × Int) (k : Nat) (hk : lookupLast w p = some k) :
    ∃ pr ∈ prs, ∃ t, ts[k]? = some t ∧
      laserTime first pr.1 - d ≤ t - minRat ts ∧ t - minRat ts < laserTime first pr.2 - d := by
  obtain ⟨g, hg, hv⟩ := allWrites_values _ _ _ h _ (lookupLast_mem w p k hk)
  obtain ⟨pr, hpr, rfl⟩ := List.mem_map.mp hg
  exact ⟨pr, hpr, (sample_range ts hs d _ _ k).mp hv⟩

def exOn : Row := { time := 1000, seq := 1, x := 0, y := 0, on := true, spot := "1" }

def exOff : Row := { time := 3000, seq := 1, x := 20000, y := 0, on := false, spot := "1" }

/-- laser on from 1 s to 3 s over two pixels of 1 µm, samples at 10, 11, 12, 13 s, delay 1/2 s:
samples 1 and 2 are placed, samples 0 and 3 (laser off) are not -/
example : (allWrites 4 ([(exOn, exOff)].map
      (mkSeg (shiftTimes [10, 11, 12, 13] (1 / 2)) { exOn with time := 0 } 0 0 1 1))).map
    (fun w => [lookupLast w (0, 0), lookupLast w (0, 1), lookupLast w (0, 2)])
    = some [some 1, some 2, none] := by
  decide +kernel

/-- Forward fill and selection: in a log made of patterns whose header rows carry non-decreasing
sequence numbers (≥ −1) and whose other rows leave the column blank, selecting `sel` keeps exactly
the rows of the patterns whose number is in `sel`, each labelled with its pattern's number —
whatever the position of the wanted pattern. -/
theorem select_pattern (bs : List Block) (sel : List Int)
    (hbody : ∀ b ∈ bs, ∀ r ∈ b.body, r.seq = -1)
    (hlow : ∀ b ∈ bs, -1 ≤ b.hdr.seq)
    (hinc : bs.Pairwise (fun a b => a.hdr.seq ≤ b.hdr.seq)) :
    selectRows (some sel) (bs.flatMap Block.rows)
      = (bs.filter (fun b => sel.contains b.hdr.seq)).flatMap (fun b => b.rows.map (setSeq · b.hdr.seq)) :=
  select_blocks bs (some sel) hbody hlow hinc

def exRow (s : Int) : Row := { time := 0, seq := s, x := 0, y := 0, on := false, spot := "1" }

/-- the hypotheses hold for a log of two patterns numbered 1 and 3 -/
example : (∀ b ∈ [Block.mk (exRow 1) [exRow (-1)], Block.mk (exRow 3) [exRow (-1), exRow (-1)]],
      ∀ r ∈ b.body, r.seq = -1) ∧
    (∀ b ∈ [Block.mk (exRow 1) [exRow (-1)], Block.mk (exRow 3) [exRow (-1), exRow (-1)]], -1 ≤ b.hdr.seq) ∧
    [Block.mk (exRow 1) [exRow (-1)], Block.mk (exRow 3) [exRow (-1), exRow (-1)]].Pairwise
      (fun a b => a.hdr.seq ≤ b.hdr.seq) := by
  decide

/-- The reported origin is the per-axis minimum of the imported `On`/`Off` coordinates: it is one
of them and no imported coordinate lies below it (so every pixel index is ≥ 0 and the image starts
at pixel 0). -/
theorem origin_spec (xs : List Int) (hne : xs ≠ []) :
    minList xs ∈ xs ∧ ∀ x ∈ xs, minList xs ≤ x :=
  ⟨minList_mem xs hne, fun x hx => minList_le xs x hx⟩

example : minList [85677972, 96097972, 85677972, 96097972] = 85677972 := by decide

/-- The top-level function reports the parameters of the log: the spot size parsed from the first
imported `On` row and, as origin, the per-axis minimum of the imported `On`/`Off` coordinates. -/
theorem params_spec (rows : List Row) (sel : Option (List Int)) (ts : List Rat) (delay : Rat)
    (isnan : Nat → Bool) (squeeze : Bool) (r : Result)
    (h : sync rows sel ts delay isnan squeeze = .ok r) :
    ∃ prs first, pairs (selectRows sel rows) = some prs ∧ prs.head? = some first ∧
      spotSize first.1.spot = some r.spot ∧
      r.origin = (minList (prs.flatMap (fun p => [p.1.x, p.2.x])), minList (prs.flatMap (fun p => [p.1.y, p.2.y]))) := by
  obtain ⟨prs, first, spot, writes, h1, h2, h3, _, rfl⟩ := steps_of_sync_ok rows sel ts delay isnan squeeze r h
  rw [(syncResult_params ..).1, (syncResult_params ..).2]
  exact ⟨prs, first, h1, h2, h3, rfl⟩

/-- the top-level function: every sample index found in the returned image was recorded while the
laser was on during one of the imported lines -/
theorem sync_samples_were_on (rows : List Row) (sel : Option (List Int)) (ts : List Rat) (delay : Rat)
    (isnan : Nat → Bool) (squeeze : Bool) (r : Result) (hs : ts.Pairwise (· ≤ ·))
    (h : sync rows sel ts delay isnan squeeze = .ok r) :
    ∃ prs first, pairs (selectRows sel rows) = some prs ∧ prs.head? = some first ∧
      ∀ row ∈ r.pixels, ∀ k : Nat, some k ∈ row →
        ∃ pr ∈ prs, ∃ t, ts[k]? = some t ∧
          laserTime first.1 pr.1 - delay ≤ t - minRat ts ∧ t - minRat ts < laserTime first.1 pr.2 - delay := by
  obtain ⟨prs, first, spot, writes, h1, h2, _, h4, rfl⟩ := steps_of_sync_ok rows sel ts delay isnan squeeze r h
  refine ⟨prs, first, h1, h2, fun row hrow k hk => ?_⟩
  -- with `squeeze` the rows are parts of rows of the canvas
  obtain ⟨row', hrow', hk'⟩ : ∃ row' ∈ canvasImage _ _ writes, some k ∈ row' := by
    cases squeeze
    · exact ⟨row, hrow, hk⟩
    · exact squeezeImg_mem _ _ _ row hrow k hk
  obtain ⟨p, hp⟩ := mem_canvasImage _ _ _ row' hrow' k hk'
  exact off_samples_discarded ts hs delay first.1 _ _ _ _ prs writes h4 p k hp

/-! ## end to end: `sync (render a)` is the ground-truth image

`render` (the specification) writes the log, the sample times and the delay of a rastered acquisition:
any number of logged patterns, each one of the eight scan patterns (`dir` × `serp`), any number and
length of lines, laser-off gaps with or without samples before every line, stage-move rows, a lead-in
and a tail, one sample per pixel somewhere strictly inside its dwell slot, and a signal that may start
late or end early (`skip`, `take`).  `truthHyp` is the decidable domain on which the property's text
defines the ground truth (see `PewModel.Sync`). -/

def exSpotPat : Pattern :=
  { seq := 1, dir := .lr, serp := false, X := 0, Y := 0, sxu := 11000, syu := 125000, circular := false,
    npix := 1, dwell := 1, lines := [] }

example : exSpotPat.spotStr = "1.1 x 12.5" := congrArg String.ofList (by decide +kernel)

/-- The delay: `render` passes as delay the time between the first firing `f` (laser clock, ms) and the
first sample of the signal — negative when the signal starts first.  With it, `sync`'s shifted sample
times are the samples' laser-clock times counted from the first firing: a laser event at `t` picks up
the signal recorded at `t − d` in the signal's own time. -/
theorem render_delay (a : Acq) (sel : Option (List Int)) (rd : Rendered)
    (h0 : 0 < a.phase) (h1 : a.phase < 1) (hd : ∀ p ∈ a.patterns, 0 < p.dwell) (hr : render a sel = some rd) :
    ∃ (f : Int) (s0 : Sample), firstFiring a sel = some f ∧ (signal a).head? = some s0 ∧
      rd.delay = (s0.t - (f : Rat)) / 1000 ∧
      shiftTimes rd.times rd.delay = (signal a).map (fun x => (x.t - (f : Rat)) / 1000) := by
  obtain ⟨f, s0, hf, hs0, rfl⟩ := render_some a sel rd hr
  exact ⟨f, s0, hf, hs0, rfl, shifted_times a h0 h1 hd s0 hs0 f⟩

/-- The ground truth line by line: pixel (r, c) holds sample `v` of the signal iff `v` is the sample of
travel step `j` of an imported line and lies in the recorded window. -/
theorem truth_by_lines (a : Acq) (sel : Option (List Int)) (hyp : truthHyp a sel = true) (r c : Int) (v : Nat) :
    ∃ p0, (selectedPatterns a sel).head? = some p0 ∧
      ((r, c, v) ∈ truthCells a sel ↔
        ∃ lP ∈ lineStarts 0 a.lines, lP.1 ∈ selLines a sel ∧ ∃ j, j < lP.1.p.npix ∧ a.skip + v = lP.2 + j ∧
          v < a.take ∧ (r, c) = truthPixel a sel p0 lP.1 j) := by
  obtain ⟨p0, H⟩ := truthHyp_spec a sel hyp
  exact ⟨p0, H.head, truthCells_iff a sel p0 H.head r c v⟩

/-- **C08, main statement.**  For every rendered acquisition in the domain of the ground truth —
one or several logged patterns, each any of the eight scan patterns, any number and length of lines,
any stage origin and spot size (square, rectangular, circular notation), arbitrary laser-off gaps with
or without samples, any selection `sel`, a signal that starts before or after the first firing (delay
of either sign) and may end early — `sync` on the rendered log, times and delay succeeds, reports the
log's origin and spot size, and its image is the ground-truth image: every pixel holds the sample
recorded while the laser was over it, unvisited pixels are NaN (`none`), laser-off samples appear
nowhere; and every visited pixel lies inside the returned canvas. -/
theorem sync_render (a : Acq) (sel : Option (List Int)) (isnan : Nat → Bool) (rd : Rendered)
    (hyp : truthHyp a sel = true) (hr : render a sel = some rd) :
    ∃ r, sync rd.rows sel rd.times rd.delay isnan false = .ok r ∧
      r.origin = truthOrigin a sel ∧
      (∃ p0, (selectedPatterns a sel).head? = some p0 ∧ r.spot = [(p0.sxu : Rat) / 10000, (p0.syu : Rat) / 10000]) ∧
      r.pixels = truthImage a sel r.height r.width ∧
      ∀ e ∈ truthCells a sel, 0 ≤ e.1 ∧ e.1 < (r.height : Int) ∧ 0 ≤ e.2.1 ∧ e.2.1 < (r.width : Int) := by
  obtain ⟨p0, h, w, H, hok, hb⟩ := sync_render_result a sel isnan false rd hyp hr
  exact ⟨_, hok, rfl, ⟨p0, H.head, rfl⟩, rfl, hb⟩

/-- The same with `squeeze=True`: the result is the ground-truth image on a canvas holding every
visited pixel, with its all-NaN rows and columns removed (`isnan k`: sample `k` is NaN in every
element). -/
theorem sync_render_squeeze (a : Acq) (sel : Option (List Int)) (isnan : Nat → Bool) (rd : Rendered)
    (hyp : truthHyp a sel = true) (hr : render a sel = some rd) :
    ∃ (r : Result) (h w : Nat), sync rd.rows sel rd.times rd.delay isnan true = .ok r ∧
      r.origin = truthOrigin a sel ∧
      (∃ p0, (selectedPatterns a sel).head? = some p0 ∧ r.spot = [(p0.sxu : Rat) / 10000, (p0.syu : Rat) / 10000]) ∧
      (∀ e ∈ truthCells a sel, 0 ≤ e.1 ∧ e.1 < (h : Int) ∧ 0 ≤ e.2.1 ∧ e.2.1 < (w : Int)) ∧
      r.pixels = (squeezeImg isnan w (truthImage a sel h w)).1 ∧
      r.width = (squeezeImg isnan w (truthImage a sel h w)).2 ∧ r.height = r.pixels.length := by
  obtain ⟨p0, h, w, H, hok, hb⟩ := sync_render_result a sel isnan true rd hyp hr
  exact ⟨_, h, w, hok, rfl, ⟨p0, H.head, rfl⟩, hb, rfl, rfl, rfl⟩

/-- **C08 for one pattern, hypotheses spelled out** (one line or many, each direction,
unidirectional or serpentine, gaps with laser-off samples): the complete recording of any single
logged raster is synchronised to its ground-truth image. -/
theorem sync_render_single (a : Acq) (isnan : Nat → Bool) (p : Pattern) (hp : a.patterns = [p])
    (h0 : 0 < a.phase) (h1 : a.phase < 1) (hseq : 0 ≤ p.seq) (hd : 0 < p.dwell)
    (hu : 0 < p.sxu) (hv : 0 < p.syu) (hc : p.circular = true → p.sxu = p.syu)
    (hn : 0 < p.npix) (hl : p.lines ≠ [])
    (hskip : a.skip = 0) (htake : a.take = (emitAll a).samples.length) :
    ∃ rd r, render a none = some rd ∧ sync rd.rows none rd.times rd.delay isnan false = .ok r ∧
      r.origin = (p.X, p.Y) ∧ r.spot = [(p.sxu : Rat) / 10000, (p.syu : Rat) / 10000] ∧
      r.pixels = truthImage a none r.height r.width ∧
      ∀ e ∈ truthCells a none, 0 ≤ e.1 ∧ e.1 < (r.height : Int) ∧ 0 ≤ e.2.1 ∧ e.2.1 < (r.width : Int) := by
  have hyp := domain_single_pattern a none p hp rfl h0 h1 hseq hd hu hv hc hn hl hskip htake
  obtain ⟨rd, hr⟩ := render_defined a none hyp
  obtain ⟨r, hok, horig, ⟨p0, hhead, hspot⟩, hpix, hb⟩ := sync_render a none isnan rd hyp hr
  rw [selectedPatterns_single a none p hp rfl] at hhead
  simp only [List.head?_cons, Option.some.injEq] at hhead
  subst hhead
  refine ⟨rd, r, hr, hok, ?_, hspot, hpix, hb⟩
  rw [horig, truthOrigin_single a none p hp rfl]

/-- **Clock given as the acquisition time per sample.**  For a signal sampled every `dt ≥ 0` seconds
(stamp `k` = first stamp + `k·dt`) held in an array of any shape with `data.size` = number of stamps,
passing the float `dt` instead of the stamps gives the same result: `np.arange(data.size) * dt` and the
stamps are shifted to the same times.  The shape enters only through its product. -/
theorem clock_interval (rows : List Row) (sel : Option (List Int)) (shape : List Nat) (ts : List Rat) (dt delay : Rat)
    (isnan : Nat → Bool) (squeeze : Bool) (hn : dataSize shape = ts.length) (hu : isUniform ts dt = true) :
    syncClock rows sel shape (.interval dt) delay isnan squeeze = sync rows sel ts delay isnan squeeze :=
  sync_congr_times _ _ _ _ _ _ _ _ (hn ▸ shiftTimes_interval ts dt delay hu) (by simp [Clock.times, hn])

example : isUniform [69 / 4, 69 / 4 + 1 / 100, 69 / 4 + 2 / 100, 69 / 4 + 3 / 100] (1 / 100) = true := by decide +kernel

example : dataSize [2, 2] = 4 ∧ dataSize [1, 4] = 4 ∧ dataSize [4] = 4 := by decide

/-- **C08 with the clock as a float.**  A rendered acquisition in the domain of the ground truth whose
signal was sampled at a constant interval (`a.interval rd.times = some dt`: equal dwell times, gaps of
whole sample intervals), held in an array of any shape of that size and synchronised with
`times = dt`, gives the ground-truth image, origin and spot size exactly as with the stamps. -/
theorem sync_render_interval (a : Acq) (sel : Option (List Int)) (isnan : Nat → Bool) (rd : Rendered) (shape : List Nat)
    (dt : Rat) (hyp : truthHyp a sel = true) (hr : render a sel = some rd)
    (hn : dataSize shape = rd.times.length) (hdt : a.interval rd.times = some dt) :
    ∃ r, syncClock rd.rows sel shape (.interval dt) rd.delay isnan false = .ok r ∧
      r.origin = truthOrigin a sel ∧
      (∃ p0, (selectedPatterns a sel).head? = some p0 ∧ r.spot = [(p0.sxu : Rat) / 10000, (p0.syu : Rat) / 10000]) ∧
      r.pixels = truthImage a sel r.height r.width ∧
      ∀ e ∈ truthCells a sel, 0 ≤ e.1 ∧ e.1 < (r.height : Int) ∧ 0 ≤ e.2.1 ∧ e.2.1 < (r.width : Int) := by
  rw [clock_interval rd.rows sel shape rd.times dt rd.delay isnan false hn (interval_isUniform a _ dt hdt)]
  exact sync_render a sel isnan rd hyp hr

/-! ### non-vacuity: concrete acquisitions satisfy the hypotheses -/

/-- a serpentine raster of two lines of three pixels (left-to-right, then right-to-left one row down),
stage origin (80394.6132, 34824.0754) µm, spot 1.1 × 2.5 µm, 10 ms dwell; a 25 ms lead-in with two
laser-off samples, a 7 ms gap with one laser-off sample between the lines, samples at 1/3 of their
slots, a 5 ms tail with one sample -/
def exSerp : Acq :=
  { patterns := [{ seq := 2, dir := .lr, serp := true, X := 803946132, Y := 348240754, sxu := 11000, syu := 25000,
                   circular := false, npix := 3, dwell := 10,
                   lines := [{ gap := 25, gapSamples := 2, moves := 2 }, { gap := 7, gapSamples := 1, moves := 1 }] }]
    phase := 1 / 3, tailGap := 5, tailSamples := 1, skip := 0, take := 10, t0 := 69 / 4 }

theorem exSerp_hyp : truthHyp exSerp none = true := by decide +kernel

example : truthHyp exSerp none = true := exSerp_hyp

example : (render exSerp none).isSome = true := by decide +kernel

/-- its ground truth: samples 2,3,4 on row 0 left to right, samples 6,7,8 on row 1 right to left -/
example : truthImage exSerp none 2 3 = [[some 2, some 3, some 4], [some 8, some 7, some 6]] := by decide +kernel

/-- the same acquisition with the signal starting in the middle of the first line (a positive delay)
and ending before the tail -/
def exLate : Acq := { exSerp with skip := 3, take := 6 }

example : truthHyp exLate (some [2]) = true := by decide +kernel

example : (render exLate (some [2])).isSome = true := by decide +kernel

example : truthImage exLate (some [2]) 2 3 = [[none, some 0, some 1], [some 5, some 4, some 3]] := by decide +kernel

/-- two logged patterns (a bottom-to-top unidirectional one, numbered 1, and the serpentine one above,
numbered 2); the second is selected -/
def exTwo : Acq :=
  { exSerp with
    patterns := { seq := 1, dir := .bt, serp := false, X := 0, Y := -50000, sxu := 400000, syu := 400000,
                  circular := true, npix := 2, dwell := 4,
                  lines := [{ gap := 0, gapSamples := 0, moves := 0 }, { gap := 3, gapSamples := 0, moves := 2 }] }
                :: exSerp.patterns
    take := 14 }

example : truthHyp exTwo (some [2]) = true := by decide +kernel

example : truthHyp exTwo none = false := by decide +kernel   -- different spot sizes: no common pixel grid

example : (render exTwo (some [2])).isSome = true := by decide +kernel

example : truthImage exTwo (some [2]) 2 3 = [[some 6, some 7, some 8], [some 12, some 11, some 10]] := by
  decide +kernel

/-- `sync` of the rendered acquisition (an empty result where `render` or `sync` fails) -/
def exRes (a : Acq) (sel : Option (List Int)) : Result :=
  match (render a sel).map (fun rd => sync rd.rows sel rd.times rd.delay (fun _ => false) false) with
  | some (.ok r) => r
  | _ => { height := 0, width := 0, pixels := [], origin := (0, 0), spot := [] }

theorem exSerp_res : (exRes exSerp none).pixels = [[some 2, some 3, some 4, none], [some 8, some 7, some 6, none]] ∧
    (exRes exSerp none).origin = (803946132, 348240754) ∧ (exRes exSerp none).spot = [11 / 10, 5 / 2] := by
  decide +kernel

/-- the whole chain evaluated on `exSerp`: `sync` of the rendered log is the ground truth (the canvas
has a fourth, unvisited column because the `Off` coordinate of a left-to-right line is pixel 3) -/
example : (exRes exSerp none).pixels = [[some 2, some 3, some 4, none], [some 8, some 7, some 6, none]] := exSerp_res.1

example : (exRes exSerp none).pixels = truthImage exSerp none 2 4 := exSerp_res.1.trans (by decide +kernel)

example : (exRes exSerp none).origin = (803946132, 348240754) ∧ (exRes exSerp none).spot = [11 / 10, 5 / 2] :=
  exSerp_res.2

example : (exRes exLate (some [2])).pixels = [[none, some 0, some 1, none], [some 5, some 4, some 3, none]] := by
  decide +kernel

example : (exRes exTwo (some [2])).pixels = [[some 6, some 7, some 8, none], [some 12, some 11, some 10, none]] := by
  decide +kernel

/-- a uniformly sampled acquisition: `exSerp` with gaps of whole dwell times (20 ms lead-in with two
samples, 10 ms gap with one, 10 ms tail with one); its clock can be given as 0.01 s per sample, the
signal as 2 rows of 5 consecutive samples -/
def exUniform : Acq :=
  { exSerp with
    patterns := exSerp.patterns.map (fun p =>
      { p with lines := [{ gap := 20, gapSamples := 2, moves := 2 }, { gap := 10, gapSamples := 1, moves := 1 }] })
    tailGap := 10 }

example : truthHyp exUniform none = true := by decide +kernel

example : (render exUniform none).map (fun rd => exUniform.interval rd.times) = some (some (1 / 100)) := by decide +kernel

example : (render exUniform none).map (fun rd => rd.times.length) = some (dataSize [2, 5]) := by decide +kernel

example : ((render exUniform none).map (fun rd =>
      match syncClock rd.rows none [2, 5] (.interval (1 / 100)) rd.delay (fun _ => false) false with
      | .ok r => r.pixels
      | .error _ => [])) = some [[some 2, some 3, some 4, none], [some 8, some 7, some 6, none]] := by
  decide +kernel

/-- the acquisition `exSerp` itself (7 ms gap, 25 ms lead-in) is not sampled at a constant interval -/
example : (render exSerp none).map (fun rd => exSerp.interval rd.times) = some none := by decide +kernel

/-- **`squeeze`, mechanism = specification.**  The code removes the rows without data, recomputes the mask on what is
left and removes the columns without data; the result is the sub-image on the rows and columns that hold data in the
*whole* image (`keptRows`, `keptCols`, both strictly increasing: nothing is reordered), where a pixel holds data iff
its sample is a number in at least one element. -/
theorem squeeze_spec (isnan : Nat → Bool) (w : Nat) (img : List (List (Option Nat))) :
    squeezeImg isnan w img = (squeezeSpec isnan w img, (keptCols isnan w img).length) ∧
      (keptRows isnan img).Pairwise (· < ·) ∧ (keptCols isnan w img).Pairwise (· < ·) :=
  ⟨squeezeImg_eq_spec isnan w img, List.pairwise_lt_range.filter _, List.pairwise_lt_range.filter _⟩

/-- **`squeeze` loses no data.**  A pixel `(r, c)` of the image whose sample `k` is a number in some element is found
in the squeezed image, at the rank of `r` among the rows that hold data and the rank of `c` among such columns. -/
theorem squeeze_keeps_data (isnan : Nat → Bool) (w : Nat) (img : List (List (Option Nat))) (r c k : Nat)
    (row : List (Option Nat)) (hr : img[r]? = some row) (hc : c < w) (hk : row[c]? = some (some k))
    (hn : isnan k = false) :
    ∃ (i j : Nat), (keptRows isnan img)[i]? = some r ∧ (keptCols isnan w img)[j]? = some c ∧
      ((squeezeImg isnan w img).1[i]?.bind (fun (row : List (Option Nat)) => row[j]?)) = some (some k) := by
  rw [squeezeImg_eq_spec]
  exact squeezeSpec_keeps isnan w img r c k row hr hc hk hn

/-- an image of 3 × 3 whose middle row was visited (samples 0, 1, 2) and whose samples are NaN in every element
but the last: nothing but the never-visited rows and column is removed -/
example : squeezeImg (allNan [fun _ => true, fun _ => true, fun _ => false]) 3
    [[none, none, none], [some 0, some 1, none], [none, none, none]] = ([[some 0, some 1]], 2) := by decide

/-- NaN in every element: the visited row cannot be told from an unvisited one and goes -/
example : squeezeImg (allNan [fun _ => true, fun k => k == 0]) 2 [[some 0, none], [some 1, some 2]]
    = ([[some 1, some 2]], 2) := by decide

/-- **C08 with `squeeze=True`, element by element.**  `masks` holds one NaN mask per element of the signal
(`allNan masks k`: sample `k` is NaN in every element, the only thing the code's mask reads).  For every rendered
acquisition in the domain of the ground truth the squeezed result is `squeezeSpec` of the ground-truth image, and every
ground-truth pixel whose sample is a number in at least one element — first, middle or last — is in the result, at
the rank of its row and column among those that hold data: a line that dropped out in some elements is still there. -/
theorem sync_render_squeeze_keeps (a : Acq) (sel : Option (List Int)) (masks : List (Nat → Bool)) (rd : Rendered)
    (hyp : truthHyp a sel = true) (hr : render a sel = some rd) :
    ∃ (r : Result) (h w : Nat), sync rd.rows sel rd.times rd.delay (allNan masks) true = .ok r ∧
      r.pixels = squeezeSpec (allNan masks) w (truthImage a sel h w) ∧
      ∀ e ∈ truthCells a sel, (∃ m ∈ masks, m e.2.2 = false) →
        ∃ (i j : Nat), (keptRows (allNan masks) (truthImage a sel h w))[i]? = some e.1.toNat ∧
          (keptCols (allNan masks) w (truthImage a sel h w))[j]? = some e.2.1.toNat ∧
          (r.pixels[i]?.bind (fun (row : List (Option Nat)) => row[j]?)) = some (some e.2.2) := by
  obtain ⟨p0, h, w, H, hok, hb⟩ := sync_render_result a sel (allNan masks) true rd hyp hr
  refine ⟨_, h, w, hok, congrArg Prod.fst (squeezeImg_eq_spec _ _ _), fun e he hm => ?_⟩
  obtain ⟨b1, b2, b3, b4⟩ := hb e he
  obtain ⟨row, hrow, hcell⟩ := truthImage_at a sel h w H.nodup e he b1 b2 b3 b4
  exact squeeze_keeps_data (allNan masks) w _ e.1.toNat e.2.1.toNat e.2.2 row hrow (by omega) hcell
    ((allNan_eq_false_iff masks _).mpr hm)

/-! ### the log as text

The round trips of the date, the stamp, a coordinate and a line stand in `SyncCalendar` and `SyncText`; here what is
written at the leap day, a year's end and midnight, for a negative coordinate and one below 1 µm, and one line as the
instrument writes it. -/

example : civilOfDay 19782 = ⟨2024, 2, 29⟩ ∧ civilOfDay 19783 = ⟨2024, 3, 1⟩ := by decide +kernel

example : civilOfDay 20088 = ⟨2024, 12, 31⟩ ∧ civilOfDay 20089 = ⟨2025, 1, 1⟩ := by decide +kernel

example : String.ofList (fmtStamp 1721260799999) = "2024-07-17 23:59:59.999" ∧
    String.ofList (fmtStamp 1721260800000) = "2024-07-18 00:00:00.000" :=
  ⟨congrArg String.ofList (by decide +kernel), congrArg String.ofList (by decide +kernel)⟩

example : String.ofList (fmtFixed4 (-85677972)) = "-8567.7972" ∧ String.ofList (fmtFixed4 5) = "0.0005" :=
  ⟨congrArg String.ofList (by decide +kernel), congrArg String.ofList (by decide +kernel)⟩

def exTextRow : Row := { time := 3877, seq := -1, x := 85677972, y := -348240754, on := true, spot := "40 x 40" }

example : String.ofList (fmtLine 1721221978112 exTextRow (extrasOf false exTextRow))
    = "2024-07-17 13:13:01.989,,,,,8567.7972,-34824.0754,,,,On,200,,40 x 40" :=
  congrArg String.ofList (by decide +kernel)

example : (parseLine (fmtLine 1721221978112 exTextRow (extrasOf false exTextRow))
    == some { exTextRow with time := 1721221981989 }) = true := by decide +kernel

/-- the unread columns as the correspondence check fills them (`withExtras`, like the instrument) are comma-free
and leave the rows alone, so `sync_text_model` and `sync_render_text` apply to the text the check writes -/
theorem instrument_text (b : Bool) (rows : List Row) :
    (withExtras b rows).map (·.1) = rows ∧ ∀ re ∈ withExtras b rows, re.2.clean :=
  ⟨withExtras_fst b rows, withExtras_clean b rows⟩

/-- **The model run on the text is the model run on the rows**: for rows within `textHyp`, reading the written
lines and synchronising (`syncText`, what the driver evaluates) is `syncClock` on the rows. -/
theorem sync_text_model (base : Int) (rows : List Row) (b : Bool) (h : textHyp base rows = true)
    (sel : Option (List Int)) (shape : List Nat) (clk : Clock) (delay : Rat) (isnan : Nat → Bool) (squeeze : Bool) :
    syncText (renderLog base (withExtras b rows)) sel shape clk delay isnan squeeze
      = syncClock rows sel shape clk delay isnan squeeze := by
  unfold syncText
  rw [parseLog_of_textHyp base _ rows (instrument_text b rows).1 h (instrument_text b rows).2]
  simp only [syncClock, sync_date_invariant]

/-- **C08 from the text of the log.**  A rendered acquisition in the domain of the ground truth, written as text
with laser clock 0 at any instant `base` ≥ 1 ms after 1970-01-01 that keeps the log before the year 10000 — so the
run may cross midnight, a month's or year's end, the leap day, or last longer than a day —, any comma-free content in
the unread columns, spot size strings of at most 32 characters: the lines are read back, and their synchronisation
is the ground truth, exactly as in `sync_render`. -/
theorem sync_render_text (a : Acq) (sel : Option (List Int)) (isnan : Nat → Bool) (rd : Rendered)
    (hyp : truthHyp a sel = true) (hr : render a sel = some rd) (base : Int) (l : List (Row × Extras))
    (hl : l.map (·.1) = rd.rows) (hex : ∀ re ∈ l, re.2.clean) (hb0 : 1 ≤ base)
    (hb1 : ∀ r ∈ rd.rows, base + r.time < 253402300800000) (hspot : ∀ p ∈ a.patterns, p.spotL.length ≤ 32) :
    ∃ rows', parseLog (renderLog base l) = some rows' ∧
      ∃ r, sync rows' sel rd.times rd.delay isnan false = .ok r ∧
        r.origin = truthOrigin a sel ∧
        (∃ p0, (selectedPatterns a sel).head? = some p0 ∧ r.spot = [(p0.sxu : Rat) / 10000, (p0.syu : Rat) / 10000]) ∧
        r.pixels = truthImage a sel r.height r.width ∧
        ∀ e ∈ truthCells a sel, 0 ≤ e.1 ∧ e.1 < (r.height : Int) ∧ 0 ≤ e.2.1 ∧ e.2.1 < (r.width : Int) := by
  obtain ⟨p0, H⟩ := truthHyp_spec a sel hyp
  have ht := rendered_textHyp a base H.seq0 hspot hb0 (by rw [← render_rows hr]; exact hb1)
  rw [← render_rows hr] at ht
  exact ⟨_, parseLog_of_textHyp base l rd.rows hl ht hex, by
    rw [sync_date_invariant]; exact sync_render a sel isnan rd hyp hr⟩

/-- the rows of the serpentine example, with laser clock 0 one second before midnight of 31 December 2024, satisfy
`textHyp` -/
example : textHyp 1735689599000 ((render exSerp none).map (·.rows)).get! = true := by
  obtain ⟨rd, hr⟩ := render_defined exSerp none exSerp_hyp
  rw [hr, show (some rd).map (·.rows) = some (emitAll exSerp).rows from congrArg some (render_rows hr)]
  exact rendered_textHyp exSerp _ (by decide) (by decide +kernel) (by decide) (by decide +kernel)

end Pew.Sync
