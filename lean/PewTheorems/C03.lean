import PewProofs.ThermoCalls

/-! # C03 — property theorems (statements depend on `PewModel.Thermo` and on the hypothesis structures and
predicates of `PewProofs`: `RowsOK` / `ColsOK`, `ColsAbsent`, `RowsFileOK` / `ColsFileOK` / `ContentOK`,
`Judged` / `JudgedAll`, `IsLine` / `NoEol`) -/
namespace Pew.Thermo

variable {α : Type}

/-- **Samples in rows.** For every acquisition with n ≥ 0 samples (no sample row at all gives the
image without samples), m ≥ 1 scans, k ≥ 1 distinct labels of at most 32 characters and any exported
channels, the requested one (`ci`) among them and recognisable in the 7-character channel row, the rows
reader returns for every element, in order of first appearance, pixel [sample, scan] = the exported
value of the requested channel.
Sample names, labels and values are arbitrary strings: a `#` in any of them is data (`comments=None`).
(`hscans`: `int(str(s)[:16]) = s`, the external conversion of scan numbers.) -/
theorem readRows_render (x : Ext α) (sh : Nat → String) (comma : Bool) (a : Acq) (ci : Nat)
    (hm : 0 < a.nscans) (hk : 0 < a.elements.length)
    (hdistinct : a.elements.Nodup) (hlabels : ∀ e ∈ a.elements, trunc 32 e = e)
    (hci : ci < a.channels.length)
    (hchans : ∀ c, c < a.channels.length → (trunc 7 (a.chan c) == a.chan ci) = (c == ci))
    (hscans : ∀ s, s < a.nscans → x.readInt (trunc 16 (sh s)) = some (s : Int)) :
    readRows x comma (a.chan ci) (renderRows sh a) = some (specImg x comma a ci) :=
  RowsOK.readRows ⟨hm, hk, hdistinct, hlabels, hci, hchans, hscans⟩ comma

/-- **Samples in columns.** The same for the columns reader, for n ≥ 1 samples with non-empty names,
at least two lines of the requested channel (`2 ≤ k · m`: two scans as in the property's quantifier, or
two elements), labels that the decimal-comma replacement leaves alone, and a requested channel whose
name occurs as a substring of a `MainRuns` line only in that line's channel field.  A `#` in a sample
name, a label or a value is data. -/
theorem readCols_render (x : Ext α) (sh : Nat → String) (comma : Bool) (a : Acq) (ci : Nat)
    (hn : 0 < a.samples.length) (hsamples : ∀ s ∈ a.samples, s ≠ "") (hm : 0 < a.nscans)
    (hk : 0 < a.elements.length) (hlines : 2 ≤ a.elements.length * a.nscans) (hdistinct : a.elements.Nodup)
    (hlabels : ∀ e ∈ a.elements, trunc 32 (fixDec comma e) = e)
    (hci : ci < a.channels.length)
    (hself : ∀ c, c < a.channels.length → hasSub (a.chan ci) (a.chan c) = (c == ci))
    (hmain : hasSub (a.chan ci) "MainRuns" = false) (heol : hasSub (a.chan ci) "\n" = false)
    (hscan : ∀ s, s < a.nscans → hasSub (a.chan ci) (sh s) = false)
    (hlabel : ∀ e ∈ a.elements, hasSub (a.chan ci) e = false)
    (hvalue : ∀ i, i < a.samples.length → ∀ s, s < a.nscans → ∀ e, e < a.elements.length → ∀ c, c < a.channels.length →
      hasSub (a.chan ci) (a.value i s e c) = false)
    (hscans : ∀ s, s < a.nscans → x.readInt (fixDec comma (sh s)) = some (s : Int)) :
    readCols x comma (a.chan ci) (renderCols sh a) = some (specImg x comma a ci) :=
  ColsOK.readCols
    ⟨hn, hsamples, hm, hk, hlines, hdistinct, hlabels, hci, hself, hmain, heol, hscan, hlabel, hvalue, hscans⟩

/-- **The boundary of the columns reader**: a file of the two header lines and a single line of the requested
channel (the export of one scan of one element in that channel alone — below the 2 scans of the property's
quantifier) is not imported, whatever its values: `np.genfromtxt` returns a 0-d record and the reader raises
`IndexError`. (For an export with further channels the same follows from `readCols_renderCols`: one selected line.) -/
theorem readCols_single_line (x : Ext α) (comma : Bool) (chan : String) (first hdr line : Row)
    (hsel : (lineStarts line && lineHas chan line) = true) (hhdr : lineStarts hdr = false)
    (hline : (gfSplit (line.map (fixDec comma))).isEmpty = false) :
    readCols x comma chan [first, hdr, line] = none := by
  unfold readCols readColsWith
  simp only [List.filter_cons, hhdr, Bool.false_and, Bool.false_eq_true, if_false, hsel, if_true, List.filter_nil]
  simp only [gfLinesWith, List.map_cons, List.map_nil, List.filter_cons, hline, Bool.not_false, if_true, List.filter_nil,
    List.length_cons, List.length_nil, Nat.zero_add, BEq.rfl, ite_self]

/-- **The two layouts of one acquisition import to identical arrays** (`RowsOK` / `ColsOK` bundle
exactly the hypotheses of the two theorems above). -/
theorem rows_eq_cols (x : Ext α) (sh : Nat → String) (comma : Bool) (a : Acq) (ci : Nat)
    (hr : RowsOK x sh a ci) (hc : ColsOK x sh comma a ci) :
    readRows x comma (a.chan ci) (renderRows sh a) = readCols x comma (a.chan ci) (renderCols sh a) := by
  rw [hr.readRows comma, hc.readCols]

/-- pixel [sample `i`, scan `s`] of element `e` of the specification image is the exported token of
channel `c`, converted -/
theorem specImg_pixel (x : Ext α) (comma : Bool) (a : Acq) (c e i s : Nat)
    (he : e < a.elements.length) (hi : i < a.samples.length) (hs : s < a.nscans) :
    (specImg x comma a c).pixel e i s = some (specPixel x comma a c e i s) := by
  simp [specImg, Img.pixel, specPixel, he, hi, hs]

/-- **Channel selection never crosses wires.** With both channels exported, asking for `Analog`
(`use_analog`) returns, in both layouts, one image whose every pixel is the value exported in the
**Analog** channel, and asking for `Counter` one image whose every pixel is the value exported in the
**Counter** channel; wherever the two exported values convert to different numbers the two images
differ at that pixel. -/
theorem analog_vs_counter (x : Ext α) (sh : Nat → String) (comma : Bool) (a : Acq) (ia ic : Nat)
    (hA : a.chan ia = "Analog") (hC : a.chan ic = "Counter")
    (hra : RowsOK x sh a ia) (hca : ColsOK x sh comma a ia) (hrc : RowsOK x sh a ic) (hcc : ColsOK x sh comma a ic) :
    ∃ imgA imgC : Img α,
      readRows x comma "Analog" (renderRows sh a) = some imgA ∧ readCols x comma "Analog" (renderCols sh a) = some imgA ∧
      readRows x comma "Counter" (renderRows sh a) = some imgC ∧ readCols x comma "Counter" (renderCols sh a) = some imgC ∧
      (∀ e i s, e < a.elements.length → i < a.samples.length → s < a.nscans →
        imgA.pixel e i s = some (x.parse (fixDec comma (a.value i s e ia))) ∧
        imgC.pixel e i s = some (x.parse (fixDec comma (a.value i s e ic)))) ∧
      (∀ e i s, e < a.elements.length → i < a.samples.length → s < a.nscans →
        x.parse (fixDec comma (a.value i s e ia)) ≠ x.parse (fixDec comma (a.value i s e ic)) →
        imgA.pixel e i s ≠ imgC.pixel e i s) := by
  refine ⟨specImg x comma a ia, specImg x comma a ic, ?_, ?_, ?_, ?_, ?_, ?_⟩
  · rw [← hA]; exact hra.readRows comma
  · rw [← hA]; exact hca.readCols
  · rw [← hC]; exact hrc.readRows comma
  · rw [← hC]; exact hcc.readCols
  · intro e i s he hi hs
    exact ⟨specImg_pixel x comma a ia e i s he hi hs, specImg_pixel x comma a ic e i s he hi hs⟩
  · intro e i s he hi hs hne hEq
    rw [specImg_pixel x comma a ia e i s he hi hs, specImg_pixel x comma a ic e i s he hi hs] at hEq
    exact hne (Option.some.inj hEq)

/-- **The image of a channel is built from that channel's exported values alone**: two acquisitions
with the same samples, scans, elements and channel names whose values agree in channel `ci` import to
the same image in both layouts, whatever the other channels hold. -/
theorem channel_values_only (x : Ext α) (sh : Nat → String) (comma : Bool) (a a' : Acq) (ci : Nat)
    (hs : a'.samples = a.samples) (hm : a'.nscans = a.nscans) (he : a'.elements = a.elements) (hc : a'.channels = a.channels)
    (hval : ∀ i s e, a'.value i s e ci = a.value i s e ci)
    (hr : RowsOK x sh a ci) (hr' : RowsOK x sh a' ci) (hco : ColsOK x sh comma a ci) (hco' : ColsOK x sh comma a' ci) :
    readRows x comma (a.chan ci) (renderRows sh a') = readRows x comma (a.chan ci) (renderRows sh a) ∧
    readCols x comma (a.chan ci) (renderCols sh a') = readCols x comma (a.chan ci) (renderCols sh a) := by
  have hchan : a'.chan ci = a.chan ci := by unfold Acq.chan; rw [hc]
  rw [← hchan, hr'.readRows comma, hco'.readCols, hchan, hr.readRows comma, hco.readCols,
    specImg_congr x (congrArg _ hs) hm he fun i _ s _ e _ => by rw [hval]]
  exact ⟨rfl, rfl⟩

/-- **Scan time**: both `*_read_params` return the times of the first element and the mean
interval of the exported Time channel over all samples and scans, rounded to 4 decimals. -/
theorem scantime_render (x : Ext V) (sh : Nat → String) (comma : Bool) (a : Acq) (ct : Nat)
    (htime : a.chan ct = "Time") (hr : RowsOK x sh a ct) (hc : ColsOK x sh comma a ct) :
    readParams x true comma (renderRows sh a) = some (specParams x comma a ct) ∧
    readParams x false comma (renderCols sh a) = some (specParams x comma a ct) :=
  ⟨hr.readParams htime comma, hc.readParams htime⟩

/-- **A trailing blank line changes nothing** in the rows layout: for every table with its four
header rows, appending an empty line gives the same result (image or exception). -/
theorem readRows_trailing_blank (x : Ext α) (comma : Bool) (chan : String) (t : Table) (h4 : 4 ≤ t.length) :
    readRows x comma chan (t ++ [["\n"]]) = readRows x comma chan t := by
  apply readRowsWith_congr
  · intro i hi
    simp only [List.getD, List.getElem?_append_left (show i < t.length by omega)]
  · rw [List.drop_append_of_le_length h4]
    simp only [gfLinesWith, List.map_append, List.map_cons, List.map_nil, List.filter_append, fixDec_eol, gfSplit_blank, List.filter_cons,
      List.isEmpty_nil, Bool.not_true, Bool.false_eq_true, if_false, List.filter_nil, List.append_nil]

/-! ## the comment handling that e68affa removed

Before e68affa the three `np.genfromtxt` calls ran with NumPy's default `comments="#"`
(`readColsOld` / `readRowsOld`: the same readers with the line splitter `gfSplitOld`, which cuts a line
at the first `#`).  The theorems above hold for the readers as they are now, with arbitrary sample names
and labels; the three concrete statements below record what the old mechanism did with a `#`, and
`readColsOld_eq` / `readRowsOld_eq` say that on files without a `#` the fix changed nothing.
The three are facts about one input each, not general claims: `decide +kernel` lets the kernel compute the
readers, no axiom is added. -/

def dig (n : Nat) : Char := Char.ofNat (48 + n)

/-- external conversions of the concrete inputs: values stay text, `int` knows the scans 0 and 1 -/
def regExt : Ext String :=
  { parse := fun s => s, readInt := fun t => if t = "0" then some 0 else if t = "1" then some 1 else none }

/-- two samples `S#1`, `S2`, two scans, one element; sample `i`, scan `s` holds `1 + i + 2 s` -/
def hashAcq : Acq :=
  { samples := ["S#1", "S2"], nscans := 2, elements := ["31P"], channels := ["Counter"],
    value := fun i s _ _ => String.ofList [dig (1 + i + 2 * s)] }

/-- the same acquisition with a `#` in the label instead -/
def hashLabelAcq : Acq := { hashAcq with samples := ["S1", "S2"], elements := ["44Ca#"] }

def regShow (s : Nat) : String := String.ofList [dig s]

/-- **Regression (old mechanism, columns layout).** The two-sample export whose first sample is named
`S#1`: with the comment cut the sample count is taken from the text before the `#`, sample `S2` is
dropped **without an error** (an image of one sample: `[[1, 3]]`); the reader as it is now returns both
samples, which is the specification. -/
theorem readCols_old_drops_samples :
    renderCols regShow hashAcq =
      [["", "", "", "", "S#1", "S2", "\n"], ["", "", "", "", "<Identifier>", "<Identifier>", "\n"],
       ["MainRuns", "0", "31P", "Counter", "1", "2", "\n"], ["MainRuns", "1", "31P", "Counter", "3", "4", "\n"]] ∧
    readColsOld regExt false "Counter" (renderCols regShow hashAcq) = some { names := ["31P"], planes := [[["1", "3"]]] } ∧
    readCols regExt false "Counter" (renderCols regShow hashAcq) = some { names := ["31P"], planes := [[["1", "3"], ["2", "4"]]] } ∧
    specImg regExt false hashAcq 0 = { names := ["31P"], planes := [[["1", "3"], ["2", "4"]]] } := by
  decide +kernel

/-- **Regression (old mechanism, rows layout).** The same acquisition in the rows layout: the comment
cut leaves one field of the row `S#1,<Identifier>,1,3,` and the old reader raises; the reader as it is
now imports the specification image. -/
theorem readRows_old_raises :
    (renderRows regShow hashAcq).drop 4 = [["S#1", "<Identifier>", "1", "3", "\n"], ["S2", "<Identifier>", "2", "4", "\n"]] ∧
    readRowsOld regExt false "Counter" (renderRows regShow hashAcq) = none ∧
    readRows regExt false "Counter" (renderRows regShow hashAcq) = some (specImg regExt false hashAcq 0) := by
  decide +kernel

/-- **Regression (old mechanism, `#` in an element label).** The columns reader raised (the `MainRuns`
lines are cut to three fields, shorter than the record); the rows reader, whose header rows never went
through `genfromtxt`, imported.  Now both import the specification image. -/
theorem readCols_old_label_raises :
    readColsOld regExt false "Counter" (renderCols regShow hashLabelAcq) = none ∧
    readRowsOld regExt false "Counter" (renderRows regShow hashLabelAcq) = some (specImg regExt false hashLabelAcq 0) ∧
    readCols regExt false "Counter" (renderCols regShow hashLabelAcq) = some (specImg regExt false hashLabelAcq 0) ∧
    readRows regExt false "Counter" (renderRows regShow hashLabelAcq) = some (specImg regExt false hashLabelAcq 0) := by
  decide +kernel

/-- **On a file without a `#` the fix changed nothing** (columns layout): for every table none of whose
fields contains a `#`, the reader with the comment cut and the reader without return the same image or
both raise. -/
theorem readColsOld_eq (x : Ext α) (comma : Bool) (chan : String) (t : Table)
    (h : ∀ r ∈ t, ∀ g ∈ r, hasHash g = false) :
    readColsOld x comma chan t = readCols x comma chan t := by
  unfold readColsOld readCols readColsWith
  cases t with
  | nil => rfl
  | cons first rest =>
    have h1 : gfSplitOld first = gfSplit first := gfSplitOld_eq first (h first List.mem_cons_self)
    have h2 : gfLinesWith gfSplitOld comma (rest.filter (fun r => lineStarts r && lineHas chan r))
        = gfLinesWith gfSplit comma (rest.filter (fun r => lineStarts r && lineHas chan r)) :=
      gfLinesOld_eq comma _ (fun r hr => h r (List.mem_cons_of_mem _ (List.mem_filter.mp hr).1))
    simp only [h1, h2]

/-- … and in the rows layout, where only the sample rows (everything after the four header rows) ever
went through `genfromtxt`: a `#` in a header row (an element label) never mattered. -/
theorem readRowsOld_eq (x : Ext α) (comma : Bool) (chan : String) (t : Table)
    (h : ∀ r ∈ t.drop 4, ∀ g ∈ r, hasHash g = false) :
    readRowsOld x comma chan t = readRows x comma chan t :=
  readRowsWith_congr x comma chan (fun _ _ => rfl) (gfLinesOld_eq comma (t.drop 4) h)

/-- the rows layout is recognised (at least one exported cell) -/
theorem sniff_renderRows (sh : Nat → String) (a : Acq)
    (hm : 0 < a.nscans) (hk : 0 < a.elements.length) (hc : 0 < a.channels.length) :
    sniff (renderRows sh a) = .rows :=
  sniff_rows (renderRows_first sh a hm hk hc)

/-- the columns layout is recognised when no sample name contains "MainRuns" -/
theorem sniff_renderCols (sh : Nat → String) (a : Acq)
    (hm : 0 < a.nscans) (hk : 0 < a.elements.length) (hc : 0 < a.channels.length)
    (hs : ∀ s ∈ a.samples, hasSub "MainRuns" s = false) :
    sniff (renderCols sh a) = .columns :=
  sniff_columns (renderCols_first sh a hs) (renderCols_third sh a hm hk hc)

/-- anything whose first and third line do not contain "MainRuns" is `unknown` … -/
theorem sniff_unknown (t : Table)
    (h0 : lineHas "MainRuns" (t.getD 0 []) = false) (h2 : lineHas "MainRuns" (t.getD 2 []) = false) :
    sniff t = .unknown := by
  unfold sniff
  rw [if_neg (by rw [h0]; simp), if_neg (by rw [h2]; simp)]

/-- … in particular every file shorter than three lines whose first line does not -/
theorem sniff_short (t : Table) (hlen : t.length < 3) (h0 : lineHas "MainRuns" (t.getD 0 []) = false) :
    sniff t = .unknown := by
  apply sniff_unknown t h0
  have : t.getD 2 [] = [] := by
    simp [List.getD, List.getElem?_eq_none (show t.length ≤ 2 by omega)]
  rw [this]; rfl

/-- **"'unknown' for anything else"**: on every text whose first and third line do not mention
`MainRuns` (`otherFile`, the domain on which the check demands the constant) the sniffer answers the
specification's constant -/
theorem sniff_other (t : Table) (h : otherFile t = true) : sniff t = specSniffOther := by
  unfold otherFile at h
  simp only [Bool.and_eq_true, Bool.not_eq_true'] at h
  exact sniff_unknown t h.1 h.2

/-- … and no export of either layout is such a text: the two cases of the sniffing clause do not overlap -/
theorem render_not_other (sh : Nat → String) (a : Acq)
    (hm : 0 < a.nscans) (hk : 0 < a.elements.length) (hc : 0 < a.channels.length) :
    otherFile (renderRows sh a) = false ∧ otherFile (renderCols sh a) = false := by
  unfold otherFile
  rw [renderRows_first sh a hm hk hc, renderCols_third sh a hm hk hc]
  simp

/-- **Sniffing the text of the file names each layout correctly**: the substring test of
`icap_csv_sample_format` on the whole first and third line answers `rows` for every samples-in-rows
export and `columns` for every samples-in-columns export, for every delimiter that is not a letter of
`MainRuns`. -/
theorem sniff_text (sh : Nat → String) (d : Char) (a : Acq) (hd : d ∉ "MainRuns".toList)
    (hm : 0 < a.nscans) (hk : 0 < a.elements.length) (hc : 0 < a.channels.length)
    (hs : ∀ s ∈ a.samples, hasSub "MainRuns" s = false) :
    sniffText (renderText d (renderRows sh a)) = .rows ∧ sniffText (renderText d (renderCols sh a)) = .columns := by
  rw [sniffText_renderText d hd, sniffText_renderText d hd]
  exact ⟨sniff_renderRows sh a hm hk hc, sniff_renderCols sh a hm hk hc hs⟩

/-- **`load` on a samples-in-rows export** returns the requested channel (Counter, or Analog when
asked) exactly as exported and the scan time, for every delimiter / decimal-mark combination:
`dec = true` (decimal commas) only with the `;` delimiter; without decimal commas the file
contains no comma outside the delimiters. -/
theorem load_renderRows (x : Ext V) (sh : Nat → String) (delim : Char) (a : Acq) (ci ct : Nat) (ua dec : Bool)
    (hchan : a.chan ci = (if ua then "Analog" else "Counter")) (htime : a.chan ct = "Time")
    (hr : RowsOK x sh a ci) (hrt : RowsOK x sh a ct)
    (hdec : dec = true → delim = ';')
    (hnodec : dec = false → ∀ r ∈ renderRows sh a, ∀ f ∈ r, hasSub "," f = false) :
    load x delim (renderRows sh a) ua = .ok (specImg x dec a ci) (some (specParams x dec a ct)) :=
  hr.load hchan (po := some ct) (hrt.readParams htime) (fun _ h => Option.some.inj h ▸ hrt.chanIdx) hdec hnodec

/-- **`load` on a samples-in-columns export**, likewise. -/
theorem load_renderCols (x : Ext V) (sh : Nat → String) (delim : Char) (a : Acq) (ci ct : Nat) (ua dec : Bool)
    (hchan : a.chan ci = (if ua then "Analog" else "Counter")) (htime : a.chan ct = "Time")
    (hc : ∀ b, ColsOK x sh b a ci) (hct : ∀ b, ColsOK x sh b a ct)
    (hs : ∀ s ∈ a.samples, hasSub "MainRuns" s = false)
    (hdec : dec = true → delim = ';')
    (hnodec : dec = false → ∀ r ∈ renderCols sh a, ∀ f ∈ r, hasSub "," f = false) :
    load x delim (renderCols sh a) ua = .ok (specImg x dec a ci) (some (specParams x dec a ct)) :=
  ColsOK.load hc hchan hs (po := some ct) (fun b => (hct b).readParams htime)
    (fun _ h => Option.some.inj h ▸ (hct false).chanIdx) hdec hnodec

/-- **The text layer**: for a table whose first line starts with an empty field (both layouts do) and
whose fields do not contain the delimiter, splitting the lines of its text — at the delimiter passed to
a reader, or at the first character of the file when none is passed — gives the table back. -/
theorem tableOf_renderText (d : Char) (g : String) (r : Row) (rest : Table)
    (hne : ∀ q ∈ ("" :: g :: r) :: rest, q ≠ []) (h : ∀ q ∈ ("" :: g :: r) :: rest, ∀ f ∈ q, d ∉ f.toList) :
    tableOf (some d) (renderText d (("" :: g :: r) :: rest)) = some (("" :: g :: r) :: rest) ∧
    tableOf none (renderText d (("" :: g :: r) :: rest)) = some (("" :: g :: r) :: rest) :=
  ⟨tableOf_renderText_of d ⟨_, _, _, rfl⟩ hne h (.inr rfl), tableOf_renderText_of d ⟨_, _, _, rfl⟩ hne h (.inl rfl)⟩

/-- **`load` on the text of a samples-in-rows export** (the file as Qtegra writes it, decoded): the
requested channel exactly as exported and the scan time; hypotheses of `load_renderRows`, and no field
contains the delimiter. -/
theorem load_text_rows (x : Ext V) (sh : Nat → String) (delim : Char) (a : Acq) (ci ct : Nat) (ua dec : Bool)
    (hchan : a.chan ci = (if ua then "Analog" else "Counter")) (htime : a.chan ct = "Time")
    (hr : RowsOK x sh a ci) (hrt : RowsOK x sh a ct)
    (hdec : dec = true → delim = ';')
    (hnodec : dec = false → ∀ r ∈ renderRows sh a, ∀ f ∈ r, hasSub "," f = false)
    (hfree : ∀ r ∈ renderRows sh a, ∀ f ∈ r, delim ∉ f.toList) :
    loadText x (renderText delim (renderRows sh a)) ua = .ok (specImg x dec a ci) (some (specParams x dec a ct)) := by
  rw [loadText_export (renderRows_export sh a) x delim ua hfree]
  exact load_renderRows x sh delim a ci ct ua dec hchan htime hr hrt hdec hnodec

/-- **`load` on the text of a samples-in-columns export**, likewise. -/
theorem load_text_cols (x : Ext V) (sh : Nat → String) (delim : Char) (a : Acq) (ci ct : Nat) (ua dec : Bool)
    (hchan : a.chan ci = (if ua then "Analog" else "Counter")) (htime : a.chan ct = "Time")
    (hc : ∀ b, ColsOK x sh b a ci) (hct : ∀ b, ColsOK x sh b a ct)
    (hs : ∀ s ∈ a.samples, hasSub "MainRuns" s = false)
    (hdec : dec = true → delim = ';')
    (hnodec : dec = false → ∀ r ∈ renderCols sh a, ∀ f ∈ r, hasSub "," f = false)
    (hfree : ∀ r ∈ renderCols sh a, ∀ f ∈ r, delim ∉ f.toList) :
    loadText x (renderText delim (renderCols sh a)) ua = .ok (specImg x dec a ci) (some (specParams x dec a ct)) := by
  rw [loadText_export (renderCols_export sh a) x delim ua hfree]
  exact load_renderCols x sh delim a ci ct ua dec hchan htime hc hct hs hdec hnodec

/-- **`icap_csv_rows_read_data(path, delimiter, comma_decimal, use_analog)` on the text of a samples-in-rows
export**, with the delimiter passed or left to be taken from the first character of the file: the image of
the requested channel (Counter, or Analog when asked), pixel by pixel the exported value. -/
theorem readData_text_rows (x : Ext α) (sh : Nat → String) (d : Char) (explicit : Option Char) (comma ua : Bool) (a : Acq) (ci : Nat)
    (hexp : explicit = none ∨ explicit = some d)
    (hchan : a.chan ci = chanOf ua) (hr : RowsOK x sh a ci)
    (hfree : ∀ r ∈ renderRows sh a, ∀ f ∈ r, d ∉ f.toList) :
    readDataText x true explicit comma ua (renderText d (renderRows sh a)) = some (specImg x comma a ci) := by
  rw [readDataText_export (renderRows_export sh a) x true d explicit comma ua hfree hexp, if_pos rfl, ← hchan]
  exact hr.readRows comma

/-- **`icap_csv_columns_read_data` on the text of a samples-in-columns export**, likewise. -/
theorem readData_text_cols (x : Ext α) (sh : Nat → String) (d : Char) (explicit : Option Char) (comma ua : Bool) (a : Acq) (ci : Nat)
    (hexp : explicit = none ∨ explicit = some d)
    (hchan : a.chan ci = chanOf ua) (hc : ColsOK x sh comma a ci)
    (hfree : ∀ r ∈ renderCols sh a, ∀ f ∈ r, d ∉ f.toList) :
    readDataText x false explicit comma ua (renderText d (renderCols sh a)) = some (specImg x comma a ci) := by
  rw [readDataText_export (renderCols_export sh a) x false d explicit comma ua hfree hexp, if_neg Bool.false_ne_true, ← hchan]
  exact hc.readCols

/-- **Both `*_read_params` on the text of the file**: the times of the first element and the rounded mean
interval of the exported Time channel. -/
theorem readParams_text (x : Ext V) (sh : Nat → String) (d : Char) (explicit : Option Char) (comma : Bool) (a : Acq) (ct : Nat)
    (hexp : explicit = none ∨ explicit = some d) (htime : a.chan ct = "Time")
    (hr : RowsOK x sh a ct) (hc : ColsOK x sh comma a ct)
    (hfreeR : ∀ r ∈ renderRows sh a, ∀ f ∈ r, d ∉ f.toList) (hfreeC : ∀ r ∈ renderCols sh a, ∀ f ∈ r, d ∉ f.toList) :
    readParamsText x true explicit comma (renderText d (renderRows sh a)) = some (specParams x comma a ct) ∧
    readParamsText x false explicit comma (renderText d (renderCols sh a)) = some (specParams x comma a ct) := by
  rw [readParamsText_export (renderRows_export sh a) x true d explicit comma hfreeR hexp,
    readParamsText_export (renderCols_export sh a) x false d explicit comma hfreeC hexp]
  exact ⟨hr.readParams htime comma, hc.readParams htime⟩

/-- **`load` on a samples-in-rows export without a Time channel**: the requested channel exactly as
exported and no parameters (`{}`). -/
theorem load_text_rows_noTime (x : Ext V) (sh : Nat → String) (delim : Char) (a : Acq) (ci : Nat) (ua dec : Bool)
    (hchan : a.chan ci = chanOf ua) (hnt : a.chanIdx "Time" = none)
    (hr : RowsOK x sh a ci)
    (hdec : dec = true → delim = ';')
    (hnodec : dec = false → ∀ r ∈ renderRows sh a, ∀ f ∈ r, hasSub "," f = false)
    (hfree : ∀ r ∈ renderRows sh a, ∀ f ∈ r, delim ∉ f.toList) :
    loadText x (renderText delim (renderRows sh a)) ua = .ok (specImg x dec a ci) none := by
  rw [loadText_export (renderRows_export sh a) x delim ua hfree]
  exact hr.load hchan (po := none) (fun b => readParams_rows_noTime x sh b a hnt) (fun _ h => nomatch h) hdec hnodec

/-- **`load` on a samples-in-columns export without a Time channel**, likewise. -/
theorem load_text_cols_noTime (x : Ext V) (sh : Nat → String) (delim : Char) (a : Acq) (ci : Nat) (ua dec : Bool)
    (hchan : a.chan ci = chanOf ua) (hnt : ColsAbsent sh a "Time")
    (hc : ∀ b, ColsOK x sh b a ci)
    (hs : ∀ s ∈ a.samples, hasSub "MainRuns" s = false)
    (hdec : dec = true → delim = ';')
    (hnodec : dec = false → ∀ r ∈ renderCols sh a, ∀ f ∈ r, hasSub "," f = false)
    (hfree : ∀ r ∈ renderCols sh a, ∀ f ∈ r, delim ∉ f.toList) :
    loadText x (renderText delim (renderCols sh a)) ua = .ok (specImg x dec a ci) none := by
  rw [loadText_export (renderCols_export sh a) x delim ua hfree]
  exact ColsOK.load hc hchan hs (po := none) (fun b => readParams_cols_noTime x sh b a hnt) (fun _ h => nomatch h) hdec hnodec

/-- **`load(full=False)` hands back the array of `load(full=True)`**, for every text (export or not):
the same image, or both raise. -/
theorem load_full_false (x : Ext V) (lines : List String) (ua : Bool) :
    loadCall x lines ua false = (match loadCall x lines ua true with
      | .full img _ => .data img
      | r => r) := by
  unfold loadCall
  simp only [Bool.false_eq_true, if_false, if_true, loadDataText_eq]
  cases loadText x lines ua <;> rfl

/-- **The two layouts of one acquisition import to identical arrays through `load`** — sniffing, the
detection of the decimal mark and the dispatch included — whatever delimiter each file uses. -/
theorem load_layouts_agree (x : Ext V) (sh : Nat → String) (dr dc : Char) (a : Acq) (ci ct : Nat) (ua dec : Bool)
    (hchan : a.chan ci = (if ua then "Analog" else "Counter")) (htime : a.chan ct = "Time")
    (hr : RowsOK x sh a ci) (hrt : RowsOK x sh a ct)
    (hc : ∀ b, ColsOK x sh b a ci) (hct : ∀ b, ColsOK x sh b a ct)
    (hs : ∀ s ∈ a.samples, hasSub "MainRuns" s = false)
    (hdecR : dec = true → dr = ';') (hdecC : dec = true → dc = ';')
    (hnodecR : dec = false → ∀ r ∈ renderRows sh a, ∀ f ∈ r, hasSub "," f = false)
    (hnodecC : dec = false → ∀ r ∈ renderCols sh a, ∀ f ∈ r, hasSub "," f = false)
    (hfreeR : ∀ r ∈ renderRows sh a, ∀ f ∈ r, dr ∉ f.toList)
    (hfreeC : ∀ r ∈ renderCols sh a, ∀ f ∈ r, dc ∉ f.toList) :
    loadText x (renderText dr (renderRows sh a)) ua = loadText x (renderText dc (renderCols sh a)) ua := by
  rw [load_text_rows x sh dr a ci ct ua dec hchan htime hr hrt hdecR hnodecR hfreeR,
    load_text_cols x sh dc a ci ct ua dec hchan htime hc hct hs hdecC hnodecC hfreeC]

/-! ## histories: every call is judged by what the path holds when it is made -/

/-- **One call, judged by the file alone**: on the text of any export a history may write (either layout,
any of the three delimiter / decimal-mark pairs) and on any text that is no export, every public function
returns what the specification names from what was exported — layout name, image of the requested
channel, times and scan time — wherever the specification speaks. -/
theorem call_spec (x : Ext V) (sh : Nat → String) (k : Content) (c : Call) (h : ContentOK x sh k) :
    Judged (specCall x k c) (callText x (k.text sh) c) := by
  cases k with
  | rows d dec a =>
    have h : RowsFileOK x sh d dec a := h
    exact call_spec_table x d dec true (renderRows_export sh a) h.free h.delimMain
      (sniff_renderRows sh a h.nscans h.nelements h.nchannels)
      (fun ua ci hlt hch => (h.chans ci hlt (hch ▸ asked_chanOf ua)).load hch (readParams_renderRows h)
        (fun ct hct => (chanIdx_some a _ ct hct).1) h.decDelim h.noComma)
      (fun comma ua ci hlt hch => by rw [if_pos rfl, ← hch]; exact (h.chans ci hlt (hch ▸ asked_chanOf ua)).readRows comma)
      (readParams_renderRows h) c
  | cols d dec a =>
    have h : ColsFileOK x sh d dec a := h
    exact call_spec_table x d dec false (renderCols_export sh a) h.free h.delimMain
      (sniff_renderCols sh a h.nscans h.nelements h.nchannels h.sampleMain)
      (fun ua ci hlt hch => ColsOK.load (h.chans ci hlt (hch ▸ asked_chanOf ua)) hch h.sampleMain (readParams_renderCols h)
        (fun ct hct => (chanIdx_some a _ ct hct).1) h.decDelim h.noComma)
      (fun comma ua ci hlt hch => by
        rw [if_neg Bool.false_ne_true, ← hch]; exact (h.chans ci hlt (hch ▸ asked_chanOf ua) comma).readCols)
      (readParams_renderCols h) c
  | other ls =>
    cases c with
    | sniff => exact congrArg Out.fmt (sniff_other _ h)
    | load ua full => trivial
    | data rows explicit comma ua => trivial
    | params rows explicit comma => trivial

/-- **Histories.** For every sequence of exports written to any paths (with any modification times: kept,
moved on, or the same as before) and of calls of the public functions in between — the same path
rewritten with the other layout, another delimiter or decimal mark, a text that is no export; the same
file imported twice; several files in turn; sniffing, then `load`, then the readers — every call returns
what the specification names for the file **its path holds at the time of the call**, whatever the path
held before and however often it was read. (`fs` / `cs`: the files and the exports they came from when
the history starts.) -/
theorem history_spec (x : Ext V) (sh : Nat → String) : ∀ (evs : List SEvent) (fs : FS) (cs : Nat → Option Content),
    (∀ p mt c, SEvent.write p mt c ∈ evs → ContentOK x sh c) →
    (∀ p, (fs p).map (·.lines) = (cs p).map (Content.text sh)) →
    (∀ p c, cs p = some c → ContentOK x sh c) →
    JudgedAll (specHistory x cs evs) (runHistory x fs (evs.map (SEvent.event sh)))
  | [], _, _, _, _, _ => trivial
  | .write p mt c :: rest, fs, cs, hok, hfs, hcs => by
    simp only [specHistory, List.map_cons, SEvent.event, runHistory]
    refine history_spec x sh rest _ _ (fun p' mt' c' hm => hok p' mt' c' (List.mem_cons_of_mem _ hm)) (fun q => ?_)
      (fun q c' hq => ?_)
    · show (fs.write p _).texts q = _
      rw [FS.texts_write, show fs.texts q = _ from hfs q]
      split <;> rfl
    · split at hq
      · exact Option.some.inj hq ▸ hok p mt c List.mem_cons_self
      · exact hcs q c' hq
  | .call p c :: rest, fs, cs, hok, hfs, hcs => by
    simp only [specHistory, List.map_cons, SEvent.event, runHistory_call, show fs.texts p = _ from hfs p]
    refine ⟨?_, history_spec x sh rest fs cs (fun p' mt' c' hm => hok p' mt' c' (List.mem_cons_of_mem _ hm)) hfs hcs⟩
    cases hk : cs p with
    | none => trivial
    | some k => exact call_spec x sh k c (hcs p k hk)

/-- … in particular from a process that has not touched any file yet -/
theorem history_spec_fresh (x : Ext V) (sh : Nat → String) (evs : List SEvent)
    (hok : ∀ p mt c, SEvent.write p mt c ∈ evs → ContentOK x sh c) :
    JudgedAll (specHistory x (fun _ => none) evs) (runHistory x (fun _ => none) (evs.map (SEvent.event sh))) :=
  history_spec x sh evs _ _ hok (fun _ => rfl) (fun _ _ h => by cases h)

/-- **The modification time plays no part**: two histories that differ only in the modification times of
the files they write give the same results, call by call (for every text written, export or not). -/
theorem history_mtime_irrelevant (x : Ext V) (f : Nat → Nat) : ∀ (evs : List Event) (fs fs' : FS),
    (∀ p, (fs p).map (·.lines) = (fs' p).map (·.lines)) →
    runHistory x fs (evs.map fun e => match e with | .write p mt ls => .write p (f mt) ls | e => e) = runHistory x fs' evs
  | [], _, _, _ => rfl
  | .write p mt ls :: rest, fs, fs', h => by
    refine history_mtime_irrelevant x f rest _ _ fun q => ?_
    show (fs.write p _).texts q = (fs'.write p _).texts q
    rw [FS.texts_write, FS.texts_write, show fs.texts q = fs'.texts q from h q]
  | .call p c :: rest, fs, fs', h => by
    simp only [List.map_cons, runHistory_call, show fs.texts p = fs'.texts p from h p,
      history_mtime_irrelevant x f rest fs fs' h]

/-- **The text layer gives the lines back.** For every list of lines (each some characters that are no
line end, then `\n`), written with `\n` or `\r\n` at the end of each line, with or without a UTF-8 byte
order mark in front: dropping the byte order mark, translating the line ends and cutting after every `\n`
returns exactly those lines. (Without a byte order mark the text itself must not begin with U+FEFF.) -/
theorem decodeLines_rawText (bom : Bool) (eol : List Char) (heol : eol = ['\n'] ∨ eol = ['\r', '\n']) (lines : List String)
    (h : ∀ l ∈ lines, IsLine l)
    (hfirst : bom = false → ∀ l ∈ lines.head?, l.toList.head? ≠ some bomChar) :
    decodeLines (rawText bom eol lines) = lines := by
  rw [decodeLines, stripBom_rawText bom eol heol lines h hfirst, univNl_lines eol heol lines h, splitKeep_lines lines h,
    map_ofList_toList]

/-- **… for the text of a table**: every line ends with the field `"\n"`, no other field holds a line
end, the first line starts with an empty field (both layouts do), and the delimiter is neither a line end
nor U+FEFF. With this the theorems about the text of an export (`load_text_rows`, `readData_text_cols`,
`sniff_text`, `history_spec`, …) are theorems about the characters of the file. -/
theorem decode_table (bom : Bool) (eol : List Char) (heol : eol = ['\n'] ∨ eol = ['\r', '\n']) (d : Char) (t : Table)
    (hdn : d ≠ '\n') (hdr : d ≠ '\r') (hdb : d ≠ bomChar)
    (hend : ∀ r ∈ t, r.getLast? = some "\n")
    (hclean : ∀ r ∈ t, ∀ f ∈ r.dropLast, NoEol f)
    (hfirst : ∀ r ∈ t.head?, ∃ g fs, r = "" :: g :: fs) :
    decodeLines (rawText bom eol (renderText d t)) = renderText d t :=
  decodeLines_rawText bom eol heol _ (isLine_renderText d hdn hdr t hend hclean)
    fun _ => head_renderText_ne d _ hdb t hfirst

/-- **The two export layouts as files**: with either line end and with or without a byte order mark, the
text layer hands the readers exactly the lines of the rendered export (no field holds a line end). -/
theorem decode_export (sh : Nat → String) (bom : Bool) (eol : List Char) (heol : eol = ['\n'] ∨ eol = ['\r', '\n']) (d : Char) (a : Acq)
    (hdn : d ≠ '\n') (hdr : d ≠ '\r') (hdb : d ≠ bomChar)
    (hcleanR : ∀ r ∈ renderRows sh a, ∀ f ∈ r.dropLast, NoEol f)
    (hcleanC : ∀ r ∈ renderCols sh a, ∀ f ∈ r.dropLast, NoEol f) :
    decodeLines (rawText bom eol (renderText d (renderRows sh a))) = renderText d (renderRows sh a) ∧
    decodeLines (rawText bom eol (renderText d (renderCols sh a))) = renderText d (renderCols sh a) :=
  ⟨decode_table bom eol heol d _ hdn hdr hdb (renderRows_export sh a).lines.getLast hcleanR (renderRows_export sh a).head,
    decode_table bom eol heol d _ hdn hdr hdb (renderCols_export sh a).lines.getLast hcleanC (renderCols_export sh a).head⟩

/-! ## non-vacuity: a 2-sample, 2-scan, 2-element acquisition with all five channels -/

section examples

def exAcq : Acq :=
  { samples := ["Sample 1", "2"], nscans := 2, elements := ["31P", "56Fe | 56Fe.16O"],
    channels := ["X [u]", "Y", "Time", "Analog", "Counter"],
    value := fun i s e c => String.ofList [dig i, '.', dig s, dig e, dig c] }

def exShow (s : Nat) : String := String.ofList [dig s]

def exExt : Ext String :=
  { parse := fun s => s, readInt := fun t => if t = "0" then some 0 else if t = "1" then some 1 else none }

theorem exAcq_value (i s e c : Nat) : (exAcq.value i s e c).toList = [dig i, '.', dig s, dig e, dig c] :=
  String.toList_ofList

/-- `RowsOK` for the example, for the three channels the public functions ask for (Time 2, Analog 3,
Counter 4) and every `x` that reads scan numbers as `exExt` does: the record does not look at `x.parse` -/
theorem exAcq_rowsOK (x : Ext α) (hx : x.readInt = exExt.readInt) {ci : Nat} (hci : ci < 5) (h2 : 2 ≤ ci) :
    RowsOK x exShow exAcq ci where
  nscans := by decide
  nelements := by decide
  distinct := by decide +kernel
  labels := by decide +kernel
  chanIdx := hci
  chans := by revert ci; decide +kernel
  scans := by rw [hx]; decide +kernel

/-- … and `ColsOK`, with and without the decimal-comma replacement -/
theorem exAcq_colsOK (x : Ext α) (hx : x.readInt = exExt.readInt) (b : Bool) {ci : Nat} (hci : ci < 5) (h2 : 2 ≤ ci) :
    ColsOK x exShow b exAcq ci where
  nsamples := by decide
  sampleNames := by decide +kernel
  nscans := by decide
  nelements := by decide
  lines := by decide
  distinct := by decide +kernel
  labels := by cases b <;> decide +kernel
  chanIdx := hci
  chanSelf := by revert ci; decide +kernel
  chanMain := by revert ci; decide +kernel
  chanEol := by revert ci; decide +kernel
  chanScan := by revert ci; decide +kernel
  chanLabel := by revert ci; decide +kernel
  chanValue := by
    -- `revert ci; decide` fails here: the fourfold bounded `∀` under `∀ ci` is beyond `Decidable` synthesis
    obtain rfl | rfl | rfl : ci = 2 ∨ ci = 3 ∨ ci = 4 := by omega
    all_goals simp only [hasSub, exAcq_value]; decide +kernel
  scans := by rw [hx]; cases b <;> decide +kernel

/-- the hypotheses of `readRows_render` and `readCols_render` hold for the Counter (4) and the
Analog (3) channel of the example, so the reader theorems above apply to it -/
example : RowsOK exExt exShow exAcq 4 := exAcq_rowsOK exExt rfl (by decide) (by decide)

example : RowsOK exExt exShow exAcq 3 := exAcq_rowsOK exExt rfl (by decide) (by decide)

example : ColsOK exExt exShow false exAcq 4 := exAcq_colsOK exExt rfl false (by decide) (by decide)

example : ColsOK exExt exShow true exAcq 3 := exAcq_colsOK exExt rfl true (by decide) (by decide)

/-- and the two channels really are different data: `analog_vs_counter` applies with `ia = 3`, `ic = 4`,
and at every pixel the Analog value differs from the Counter value (so the two images differ there) -/
example : specImg exExt false exAcq 4 ≠ specImg exExt false exAcq 3 := by decide +kernel
example : ∀ e, e < 2 → ∀ i, i < 2 → ∀ s, s < 2 →
    exExt.parse (fixDec false (exAcq.value i s e 3)) ≠ exExt.parse (fixDec false (exAcq.value i s e 4)) := by decide +kernel
example : (specImg exExt false exAcq 3).pixel 1 0 1 = some "0.113" ∧ (specImg exExt false exAcq 4).pixel 1 0 1 = some "0.114" := by decide +kernel

/-- `channel_values_only`: an acquisition that differs from the example in the Counter channel only -/
def exAcq' : Acq := { exAcq with value := fun i s e c => if c = 4 then "9" else exAcq.value i s e c }
example : ∀ i s e, exAcq'.value i s e 3 = exAcq.value i s e 3 := by intro i s e; rfl
example : RowsOK exExt exShow exAcq' 3 :=
  (exAcq_rowsOK exExt rfl (ci := 3) (by decide) (by decide)).of_eq rfl rfl rfl
example : ColsOK exExt exShow false exAcq' 3 :=
  have h := exAcq_colsOK exExt rfl false (ci := 3) (by decide) (by decide)
  h.of_eq rfl rfl rfl rfl fun i hi s hs e he c hc => by
    show hasSub _ (if c = 4 then "9" else _) = false
    by_cases h4 : c = 4
    · rw [if_pos h4]; decide +kernel
    · rw [if_neg h4]; exact h.chanValue i hi s hs e he c hc

/-- `readRows_render` with no sample at all: the image without samples -/
def exAcq0 : Acq := { exAcq with samples := [] }
example : RowsOK exExt exShow exAcq0 4 :=
  (exAcq_rowsOK exExt rfl (ci := 4) (by decide) (by decide)).of_eq rfl rfl rfl
example : readRows exExt false "Counter" (renderRows exShow exAcq0) = some { names := ["31P", "56Fe | 56Fe.16O"], planes := [[], []] } :=
  RowsOK.readRows (a := exAcq0) (ci := 4) ((exAcq_rowsOK exExt rfl (by decide) (by decide)).of_eq rfl rfl rfl) false

/-- arbitrary sample names and isotope labels: an acquisition with a `#` in every sample name, in every
label and in every value of a channel that is not read meets the hypotheses of `readRows_render`,
`readCols_render` and of every theorem stated with `RowsOK` / `ColsOK` -/
def exAcqH : Acq :=
  { samples := ["Sample #1", "#2"], nscans := 2, elements := ["44Ca#", "#31P"], channels := ["X [u]", "Counter"],
    value := fun i s e c => if c = 0 then "#" else String.ofList [dig i, '.', dig s, dig e] }
example : RowsOK exExt exShow exAcqH 1 :=
  { nscans := by decide, nelements := by decide, distinct := by decide +kernel,
    labels := by decide +kernel, chanIdx := by decide, chans := by decide +kernel, scans := by decide +kernel }
example : ∀ b, ColsOK exExt exShow b exAcqH 1 := fun b =>
  { nsamples := by decide, sampleNames := by decide +kernel, nscans := by decide, nelements := by decide, lines := by decide,
    distinct := by decide +kernel, labels := by cases b <;> decide +kernel, chanIdx := by decide,
    chanSelf := by decide +kernel, chanMain := by decide +kernel, chanEol := by decide +kernel,
    chanScan := by decide +kernel, chanLabel := by decide +kernel, chanValue := by decide +kernel,
    scans := by cases b <;> decide +kernel }
example : (renderText ',' (renderCols exShow exAcqH)).take 4 =
    [",,,,Sample #1,#2,\n", ",,,,<Identifier>,<Identifier>,\n", "MainRuns,0,44Ca#,X [u],#,#,\n", "MainRuns,1,44Ca#,X [u],#,#,\n"] := by decide +kernel
example : (specImg exExt false exAcqH 1).names = ["44Ca#", "#31P"] ∧ (specImg exExt false exAcqH 1).pixel 1 0 1 = some "0.11" := by decide +kernel

theorem exAcq_tokens : Tokens exShow exAcq fun f =>
    hasSub "," f = false ∧ ';' ∉ f.toList ∧ hasHash f = false ∧ '\n' ∉ f.toList ∧ '\r' ∉ f.toList := by
  constructor
  case values => simp only [hasSub, hasHash, exAcq_value]; decide +kernel
  all_goals decide +kernel

/-- `readColsOld_eq` / `readRowsOld_eq`: the example export carries no `#` -/
example : ∀ r ∈ renderCols exShow exAcq, ∀ g ∈ r, hasHash g = false :=
  (exAcq_tokens.mono fun _ h => h.2.2.1).renderCols.fields (by decide +kernel)
example : ∀ r ∈ (renderRows exShow exAcq).drop 4, ∀ g ∈ r, hasHash g = false := fun r hr =>
  (exAcq_tokens.mono fun _ h => h.2.2.1).renderRows.fields (by decide +kernel) r (List.mem_of_mem_drop hr)

/-- `readCols_single_line`: one scan of one element -/
example : (lineStarts ["MainRuns", "0", "31P", "Counter", "1.0", "\n"] && lineHas "Counter" ["MainRuns", "0", "31P", "Counter", "1.0", "\n"]) = true ∧
    lineStarts ["", "", "", "", "<Identifier>", "\n"] = false ∧
    (gfSplit (["MainRuns", "0", "31P", "Counter", "1.0", "\n"].map (fixDec false))).isEmpty = false := by decide +kernel

/-- `readRows_trailing_blank`: the example export is a table of six lines -/
example : 4 ≤ (renderRows exShow exAcq).length := by decide

def exExtV : Ext V :=
  { parse := fun _ => none, readInt := fun t => if t = "0" then some 0 else if t = "1" then some 1 else none }

/-- the hypotheses of `scantime_render`, `load_renderRows` and `load_renderCols` hold for the example
(Time is channel 2, Counter 4, Analog 3; the example file has no comma outside the delimiters) -/
example : RowsOK exExtV exShow exAcq 2 := exAcq_rowsOK exExtV rfl (by decide) (by decide)

example : ∀ b, ColsOK exExtV exShow b exAcq 2 := fun b => exAcq_colsOK exExtV rfl b (by decide) (by decide)

example : ∀ b, ColsOK exExtV exShow b exAcq 4 := fun b => exAcq_colsOK exExtV rfl b (by decide) (by decide)

example : exAcq.chan 2 = "Time" ∧ exAcq.chan 4 = "Counter" ∧ exAcq.chan 3 = "Analog" := by decide +kernel
example : ∀ r ∈ renderCols exShow exAcq, ∀ f ∈ r, hasSub "," f = false :=
  (exAcq_tokens.mono fun _ h => h.1).renderCols.fields (by decide +kernel)
example : ∀ r ∈ renderRows exShow exAcq, ∀ f ∈ r, hasSub "," f = false :=
  (exAcq_tokens.mono fun _ h => h.1).renderRows.fields (by decide +kernel)
theorem exAcq_sampleMain : ∀ s ∈ exAcq.samples, hasSub "MainRuns" s = false := by decide +kernel
theorem semicolon_not_mainRuns : ';' ∉ "MainRuns".toList := by decide +kernel
example : ∀ s ∈ exAcq.samples, hasSub "MainRuns" s = false := exAcq_sampleMain

/-- `load_text_rows` / `load_text_cols` / `tableOf_renderText`: no field of the example contains `;` -/
example : ∀ r ∈ renderRows exShow exAcq, ∀ f ∈ r, ';' ∉ f.toList :=
  (exAcq_tokens.mono fun _ h => h.2.1).renderRows.fields (by decide +kernel)
example : ∀ r ∈ renderCols exShow exAcq, ∀ f ∈ r, ';' ∉ f.toList :=
  (exAcq_tokens.mono fun _ h => h.2.1).renderCols.fields (by decide +kernel)
example : (renderText ';' (renderCols exShow exAcq)).take 3 =
    [";;;;Sample 1;2;\n", ";;;;<Identifier>;<Identifier>;\n", "MainRuns;0;31P;X [u];0.000;1.000;\n"] := by decide +kernel

/-- `render_not_other` applies to the example -/
example : 0 < exAcq.nscans ∧ 0 < exAcq.elements.length ∧ 0 < exAcq.channels.length := by decide

/-- `sniff_other`: a text that is no export -/
example : otherFile [["A", "B\n"], ["MainRuns", "0", "31P", "Counter", "1.0", "\n"]] = true := by decide +kernel

/-! ### histories: `RowsFileOK` / `ColsFileOK` / `ContentOK` for both decimal marks, with and without a Time channel -/

theorem asked_cases {ci : Nat} (h : ci < 5) : ci = 0 ∨ ci = 1 ∨ ci = 2 ∨ ci = 3 ∨ ci = 4 := by omega

theorem exAcq_asked {ci : Nat} (hci : ci < 5) (hask : Asked (exAcq.chan ci)) : 2 ≤ ci := by
  rcases asked_cases hci with rfl | rfl | h
  · rcases hask with h | h | h <;> exact absurd h (by decide +kernel)
  · rcases hask with h | h | h <;> exact absurd h (by decide +kernel)
  · omega

/-- the example export meets `RowsFileOK` / `ColsFileOK` (delimiter `;`, decimal points): every theorem
about calls and histories applies to files written from it -/
example : RowsFileOK exExtV exShow ';' false exAcq :=
  { nscans := by decide, nelements := by decide, nchannels := by decide,
    chans := fun _ hci hask => exAcq_rowsOK exExtV rfl hci (exAcq_asked hci hask)
    decDelim := by decide
    noComma := fun _ => (exAcq_tokens.mono fun _ h => h.1).renderRows.fields (by decide +kernel)
    free := (exAcq_tokens.mono fun _ h => h.2.1).renderRows.fields (by decide +kernel)
    delimMain := semicolon_not_mainRuns }

example : ColsFileOK exExtV exShow ';' false exAcq :=
  { nscans := by decide, nelements := by decide, nchannels := by decide,
    chans := fun _ hci hask b => exAcq_colsOK exExtV rfl b hci (exAcq_asked hci hask)
    sampleMain := exAcq_sampleMain
    decDelim := by decide
    noComma := fun _ => (exAcq_tokens.mono fun _ h => h.1).renderCols.fields (by decide +kernel)
    free := (exAcq_tokens.mono fun _ h => h.2.1).renderCols.fields (by decide +kernel)
    delimMain := semicolon_not_mainRuns
    noTime := fun h => absurd h (by decide +kernel) }

/-- an export with decimal commas and without a Time channel (`;`-delimited), for the `dec = true` and the
no-Time branches of the same theorems -/
def exAcqC : Acq :=
  { samples := ["Sample 1", "2"], nscans := 2, elements := ["31P", "63Cu"], channels := ["Analog", "Counter"],
    value := fun i s e c => String.ofList [dig i, ',', dig s, dig e, dig c] }

theorem asked_cases2 {ci : Nat} (h : ci < 2) : ci = 0 ∨ ci = 1 := by omega

theorem exAcqC_value (i s e c : Nat) : (exAcqC.value i s e c).toList = [dig i, ',', dig s, dig e, dig c] :=
  String.toList_ofList

theorem exAcqC_tokens : Tokens exShow exAcqC fun f => ';' ∉ f.toList := by
  constructor
  case values => simp only [exAcqC_value]; decide +kernel
  all_goals decide +kernel

theorem exAcqC_rowsOK {ci : Nat} (hci : ci < 2) : RowsOK exExtV exShow exAcqC ci where
  nscans := by decide
  nelements := by decide
  distinct := by decide +kernel
  labels := by decide +kernel
  chanIdx := hci
  chans := by revert ci; decide +kernel
  scans := by decide +kernel

theorem exAcqC_colsOK (b : Bool) {ci : Nat} (hci : ci < 2) : ColsOK exExtV exShow b exAcqC ci where
  nsamples := by decide
  sampleNames := by decide +kernel
  nscans := by decide
  nelements := by decide
  lines := by decide
  distinct := by decide +kernel
  labels := by cases b <;> decide +kernel
  chanIdx := hci
  chanSelf := by revert ci; decide +kernel
  chanMain := by revert ci; decide +kernel
  chanEol := by revert ci; decide +kernel
  chanScan := by revert ci; decide +kernel
  chanLabel := by revert ci; decide +kernel
  chanValue := by
    obtain rfl | rfl : ci = 0 ∨ ci = 1 := by omega
    all_goals simp only [hasSub, exAcqC_value]; decide +kernel
  scans := by cases b <;> decide +kernel

example : RowsFileOK exExtV exShow ';' true exAcqC :=
  { nscans := by decide, nelements := by decide, nchannels := by decide,
    chans := fun _ hci _ => exAcqC_rowsOK hci
    decDelim := fun _ => rfl, noComma := fun h => absurd h (by decide),
    free := exAcqC_tokens.renderRows.fields (by decide +kernel), delimMain := semicolon_not_mainRuns }

example : ColsFileOK exExtV exShow ';' true exAcqC :=
  { nscans := by decide, nelements := by decide, nchannels := by decide,
    chans := fun _ hci _ b => exAcqC_colsOK b hci
    -- `exAcqC` has the sample names of `exAcq`
    sampleMain := exAcq_sampleMain, decDelim := fun _ => rfl, noComma := fun h => absurd h (by decide),
    free := exAcqC_tokens.renderCols.fields (by decide +kernel), delimMain := semicolon_not_mainRuns,
    noTime := fun _ =>
      { nsamples := by decide, sampleNames := by decide +kernel, chanMain := by decide +kernel, chanEol := by decide +kernel,
        chanScan := by decide +kernel, chanLabel := by decide +kernel, chanChan := by decide +kernel,
        chanValue := by simp only [hasSub, exAcqC_value]; decide +kernel } }

example : exAcqC.chanIdx "Time" = none ∧ exAcqC.chanIdx "Counter" = some 1 ∧ exAcq.chanIdx "Time" = some 2 := by decide +kernel

/-- a text that is no export -/
example : ContentOK exExtV exShow (.other ["1.0,2.0,3.0\n", "4.0,5.0,6.0\n"]) := by
  show otherFile _ = true
  decide +kernel

def Out.fmt? : Out → Option Fmt
  | .fmt f => some f
  | _ => none

/-- one path, three files one after the other with the **same** modification time: a rows export, the
columns export of the same acquisition, a text image; each is sniffed after it was written -/
def exHistory : List SEvent :=
  [.write 0 7 (.rows ';' false exAcq), .call 0 .sniff, .write 0 7 (.cols ';' false exAcq), .call 0 .sniff,
   .write 0 7 (.other ["1.0,2.0,3.0\n", "4.0,5.0,6.0\n"]), .call 0 .sniff, .call 0 .sniff]

/-- the same sniffer with its answers cached per (path, modification time) — the optimisation of seeded
change C03-c1; every other call is answered as the code does -/
def runSniffCached (x : Ext V) : List ((Nat × Nat) × Fmt) → FS → List Event → List Out
  | _, _, [] => []
  | cache, fs, .write p mt ls :: rest => runSniffCached x cache (fs.write p { mtime := mt, lines := ls }) rest
  | cache, fs, .call p c :: rest =>
    match fs p with
    | none => Out.noFile :: runSniffCached x cache fs rest
    | some f =>
      match c with
      | .sniff =>
        match cache.lookup (p, f.mtime) with
        | some r => Out.fmt r :: runSniffCached x cache fs rest
        | none => Out.fmt (sniffText f.lines) :: runSniffCached x (((p, f.mtime), sniffText f.lines) :: cache) fs rest
      | c => callText x f.lines c :: runSniffCached x cache fs rest

/-- **Why histories are checked (witness).** On `exHistory` the code as it is names each file correctly
— as `history_spec` says it must — while the sniffer with a (path, modification time) cache answers
`rows` for the columns export and for the text image: a mechanism with state between calls breaks the
conclusion of `history_spec`, which therefore is no consequence of the single-call theorems alone.
(What the sniffer answers on the two exports is `sniff_text`; the rest is unfolding the seven events.) -/
theorem history_cache_witness :
    (specHistory exExtV (fun _ => none) exHistory).map (fun o => o.bind Out.fmt?)
      = [some .rows, some .columns, some .unknown, some .unknown] ∧
    (runHistory exExtV (fun _ => none) (exHistory.map (SEvent.event exShow))).map Out.fmt?
      = [some .rows, some .columns, some .unknown, some .unknown] ∧
    (runSniffCached exExtV [] (fun _ => none) (exHistory.map (SEvent.event exShow))).map Out.fmt?
      = [some .rows, some .rows, some .rows, some .rows] := by
  obtain ⟨hr, hc⟩ := sniff_text exShow ';' exAcq semicolon_not_mainRuns (by decide) (by decide) (by decide) exAcq_sampleMain
  have ho : sniffText ["1.0,2.0,3.0\n", "4.0,5.0,6.0\n"] = .unknown := by decide +kernel
  refine ⟨by decide +kernel, ?_, ?_⟩
  · simp [exHistory, SEvent.event, Content.text, runHistory, FS.write, callText, hr, hc, ho, Out.fmt?]
  · simp [exHistory, SEvent.event, Content.text, runSniffCached, FS.write, hr, Out.fmt?, List.lookup]

/-- `history_spec_fresh` applies to `exHistory` -/
example : ∀ p mt c, SEvent.write p mt c ∈ exHistory → c = .rows ';' false exAcq ∨ c = .cols ';' false exAcq ∨
    c = .other ["1.0,2.0,3.0\n", "4.0,5.0,6.0\n"] := by
  intro p mt c h
  simp only [exHistory, List.mem_cons, SEvent.write.injEq, List.mem_nil_iff, or_false, reduceCtorEq, false_or] at h
  rcases h with ⟨_, _, rfl⟩ | ⟨_, _, rfl⟩ | ⟨_, _, rfl⟩
  · exact Or.inl rfl
  · exact Or.inr (Or.inl rfl)
  · exact Or.inr (Or.inr rfl)

/-- `load_full_false`, `readData_text_rows` … on the example: `;` is no letter of `MainRuns` and occurs in no field -/
example : ';' ∉ "MainRuns".toList ∧ ',' ∉ "MainRuns".toList := ⟨semicolon_not_mainRuns, by decide +kernel⟩
example : exAcq.chan 4 = chanOf false ∧ exAcq.chan 3 = chanOf true := by decide +kernel

/-- `decode_export` on the example: no field of either layout holds a line end; the raw characters of the
columns file with a byte order mark and `\r\n` line ends, and what the text layer makes of them -/
example : (∀ r ∈ renderRows exShow exAcq, ∀ f ∈ r.dropLast, '\n' ∉ f.toList ∧ '\r' ∉ f.toList) ∧
    (∀ r ∈ renderCols exShow exAcq, ∀ f ∈ r.dropLast, '\n' ∉ f.toList ∧ '\r' ∉ f.toList) :=
  ⟨(exAcq_tokens.mono fun _ h => h.2.2.2).renderRows.dropLast, (exAcq_tokens.mono fun _ h => h.2.2.2).renderCols.dropLast⟩
example : ';' ≠ '\n' ∧ ';' ≠ '\r' ∧ ';' ≠ bomChar := by decide
example : (rawText true ['\r', '\n'] (renderText ';' (renderCols exShow exAcqC))).take 22 =
    [bomChar, ';', ';', ';', ';', 'S', 'a', 'm', 'p', 'l', 'e', ' ', '1', ';', '2', ';', '\r', '\n', ';', ';', ';', ';'] := by
  simp only [renderText, rawText, List.flatMap_map, rawLine, joinLine, String.toList_ofList]
  decide +kernel
example : (decodeLines (rawText true ['\r', '\n'] (renderText ';' (renderCols exShow exAcqC)))).take 3 =
    [";;;;Sample 1;2;\n", ";;;;<Identifier>;<Identifier>;\n", "MainRuns;0;31P;Analog;0,000;1,000;\n"] := by
  simp only [renderText, rawText, List.flatMap_map, rawLine, joinLine, String.toList_ofList]
  decide +kernel
/-- a lone `\r` is a line end too, a second U+FEFF is text -/
example : decodeLines [bomChar, bomChar, 'a', '\r', 'b', '\r', '\n', '\n', 'c'] = [String.ofList [bomChar, 'a', '\n'], "b\n", "\n", "c"] := by decide +kernel

end examples

end Pew.Thermo
