import PewProofs.Effects

/-! # C19 — property theorems: soundness of the may-write / may-alias analysis

The check's obligation for the current tree is a computation (`ana` run by the driver on the IR the
translator regenerates from pewlib's source on every run); `sound` relates every execution to the result of `ana`, and
the five theorems after it say what a negative answer of that computation means for every execution of the translated
program (from the start state `Start`). -/
namespace Pew.Effects

/-- Soundness of the abstract interpretation: for every program, every start state related to the
abstract input and every execution (completed `d = true` or raised `d = false`), the final state is
related to the abstract output (completed), and in both cases every written parameter, every returned object and
every heap edge is covered by the abstract output. -/
theorem sound (np : Nat) (s : Stmt) :
    ∀ (a : A) (σ : St) (d : Bool) (σ' : St), Exec np s σ d σ' → Rel np σ a →
      (d = true → Rel np σ' (ana np s a)) ∧ WRel np σ' (ana np s a) := by
  intro a σ d σ' h hr
  induction s generalizing a σ d σ' with
  | skip =>
    cases h with
    | raise => exact hr.raised _
    | skip => exact hr.done
  | kill xs =>
    cases h with
    | raise => exact hr.raised _
    | kill =>
      refine Rel.done fun ht => { hr ht with env := fun y o hy => ?_ }
      cases hc : xs.contains y with
      | true => cases (if_pos hc).symm.trans hy
      | false => exact (raw_kill np a hc).symm ▸ (hr ht).env y o ((if_neg (ne_true_of_eq_false hc)).symm.trans hy)
  | bind x src =>
    cases h with
    | raise => exact hr.raised _
    | bindParam _ i _ hi => exact (hr.bind fun _ => .head _).done
    | bindFresh _ k => exact (hr.alloc (.head _)).done
    | bindAlias _ ys y o _ hy ho => exact (hr.bind fun ht => (hr ht).mem_roots hy ho).done
    | bindLoadEdge _ ys l k y o l' o' _ hy ho he hl =>
      refine ((hr.bind fun ht => ?_).mono (Le.alloc (np + k) _)).done
      exact .tail _ <| List.mem_append_right _ <| mem_targets ((hr ht).heap _ he) ((hr ht).mem_roots hy ho) hl
    | bindLoadSelf _ ys l k y o _ hy ho hp =>
      refine ((hr.bind fun ht => ?_).mono (Le.alloc (np + k) _)).done
      exact .tail _ <| List.mem_append_left _ <| List.mem_filter.mpr ⟨(hr ht).mem_roots hy ho, decide_eq_true hp⟩
    | bindLoadNew _ ys l k => exact (hr.alloc (.head _)).done
    | bindReach _ ys y o o' _ hy ho hreach =>
      rcases ana_reach_cases np x ys a with e | ⟨c, hc, hys, e⟩ <;> rw [e]
      · exact Rel.top.done
      · exact (hr.bind fun ht => reach_closed (hr ht).heap hc hreach (hys ((hr ht).mem_roots hy ho))).done
    | bindUnknown _ o _ ho =>
      exact (hr.bind fun ht => List.mem_append.mpr (ho.imp List.mem_range.mpr ((hr ht).objs o))).done
  | write x =>
    cases h with
    | raise => exact hr.raised _
    | write _ o _ ho =>
      exact Rel.done fun ht =>
        { hr ht with
          w := List.forall_mem_cons.mpr
            ⟨fun hp => mem_dedup.mpr <| .inl <| List.mem_filter.mpr ⟨(hr ht).env x o ho, decide_eq_true hp⟩,
              -- the old entries: `ana` forgets none of them
              (WRel.ana np (.write x) hr.wrel ht).w⟩ }
  | ret x =>
    cases h with
    | raise => exact hr.raised _
    | ret _ o _ ho =>
      exact Rel.done fun ht =>
        { hr ht with
          r := List.forall_mem_cons.mpr
            ⟨mem_dedup.mpr (.inl ((hr ht).env x o ho)),
              (WRel.ana np (.ret x) hr.wrel ht).r⟩ }
  | store x l y =>
    cases h with
    | raise => exact hr.raised _
    | store _ _ _ o o' _ ho ho' =>
      exact Rel.done fun ht =>
        { hr ht with
          heap := List.forall_mem_cons.mpr
            ⟨mem_dedup.mpr <| .inl <| List.mem_flatMap.mpr
                ⟨o.1, (hr ht).env x o ho, List.mem_map.mpr ⟨o'.1, (hr ht).env y o' ho', rfl⟩⟩,
              (WRel.ana np (.store x l y) hr.wrel ht).heap⟩ }
  | seq s t ihs iht =>
    cases h with
    | raise => exact hr.raised _
    | seq _ _ _ σ₁ _ _ h1 h2 => exact iht _ σ₁ d σ' h2 ((ihs a σ true σ₁ h1 hr).1 rfl)
    | seqRaise _ _ _ _ h1 => exact ⟨nofun, WRel.ana np t (ihs a σ false σ' h1 hr).2⟩
  | branch s t ihs iht =>
    cases h with
    | raise => exact hr.raised _
    | branchL _ _ _ _ _ h1 =>
      exact (ihs a σ d σ' h1 hr).imp (fun h hd => (h hd).mono (Le.join_left _ _)) (·.mono (Le.join_left _ _))
    | branchR _ _ _ _ _ h1 =>
      exact (iht a σ d σ' h1 hr).imp (fun h hd => (h hd).mono (Le.join_right _ _)) (·.mono (Le.join_right _ _))
  | loop b ih =>
    rcases ana_loop_cases np b a with e | ⟨a', hpost, hle, e⟩ <;> rw [e]
    · exact Rel.top.done
    · exact loop_inv np b (Rel np · a') (WRel np · a')
        (fun τ τ₁ hp he => ((ih a' τ true τ₁ he hp).1 rfl).mono (Le.of_leA hpost))
        (fun τ τ₁ hp he => (ih a' τ false τ₁ he hp).2.mono (Le.of_leA hpost))
        (fun τ hp => hp.wrel) σ d σ' h (hr.mono (Le.of_leA hle))

/-- start state of a function body: nothing written or returned yet, no local bound, nothing allocated, and an
empty heap — i.e. the `np` parameters are `np` DISTINCT regions `(0,0) … (np-1,0)` none of which holds a reference
into another (a caller passing the same array twice, overlapping views, or a container and one of its own elements
is outside this start state; the dynamic half of the check makes such calls). -/
def Start (σ : St) : Prop :=
  σ.written = [] ∧ σ.returned = [] ∧ σ.heap = [] ∧ σ.objs = [] ∧ ∀ x, σ.env x = none

theorem start_rel (np : Nat) (σ : St) (h : Start σ) : Rel np σ A.empty := by
  obtain ⟨hw, hr, hh, ho, he⟩ := h
  exact fun _ =>
    { w := fun o hm => by rw [hw] at hm; cases hm
      r := fun o hm => by rw [hr] at hm; cases hm
      heap := fun e hm => by rw [hh] at hm; cases hm
      env := fun x o hx => by rw [he x] at hx; cases hx
      objs := fun o hm => by rw [ho] at hm; cases hm }

/-- A parameter the analysis does not report as possibly written is not written by ANY execution
of the program — of any length, through any branches and any number of loop iterations, whether it
completes (`d = true`) or raises at an arbitrary point (`d = false`): no written object is (in the region of)
parameter `p`. -/
theorem mayWrite_sound (np : Nat) (s : Stmt) (σ σ' : St) (d : Bool)
    (h : Exec np s σ d σ') (h0 : Start σ)
    (p : Nat) (hp : p < np) (hnot : p ∉ (ana np s A.empty).report np) :
    ∀ o ∈ σ'.written, o.1 ≠ p := by
  obtain ⟨ht, hw⟩ := not_mem_report hp hnot
  exact fun o hmem heq => hw (heq ▸ ((sound np s _ σ d σ' h (start_rel np σ h0)).2 ht).w o hmem (heq ▸ hp))

/-- A parameter the analysis does not report as possibly aliased by the result: no object returned by any execution
(every `return` site, early or late; completed or raised) is (in the region of) the parameter, and when the execution
ends the parameter does not hold a reference — direct or through other objects — to any returned object (so a function
that stores part of its result INTO an argument is covered as well).  The translator returns, besides the result
object itself, every object reachable from it (`bind t (reach [v]); ret t`), so a result that merely holds a reference
to the parameter is covered too; a value it takes to hold no references (by its annotation: `np.ndarray`, scalars, `str`,
`Path`) is returned as it is (`ret v`). -/
theorem mayAlias_sound (np : Nat) (s : Stmt) (σ σ' : St) (d : Bool)
    (h : Exec np s σ d σ') (h0 : Start σ)
    (p : Nat) (hp : p < np) (hnot : p ∉ (ana np s A.empty).reportRet np) :
    ∀ o ∈ σ'.returned, o.1 ≠ p ∧ ¬ Reach σ'.heap (p, 0) o := by
  intro o hmem
  obtain ⟨ht, c, hpc, hc, hrc⟩ := not_mem_reportRet hp hnot
  have W := (sound np s _ σ d σ' h (start_rel np σ h0)).2 ht
  have ho := hrc o.1 (W.r o hmem)
  exact ⟨fun heq => ho (heq ▸ hpc), fun hreach => ho (reach_closed W.heap hc hreach hpc)⟩

/-! ## call histories on one object (constructor-retained containers)

The per-class obligation of the check: for a class `C` with producer `c` (its constructor or a classmethod
constructor, inlined, binding the receiver variable) and the inlined bodies `ms` of its public methods (documented
mutators included), `ana` run on `history c ms` must report NO parameter of the history as possibly written — the
parameters being the arguments the caller passed to the constructor and to the later method calls.  The theorems say
what that computation means. -/

/-- **All histories.**  A parameter of the history (an argument of the constructor or of any later method call) that the
analysis of `history c ms` does not report is not written by ANY call history on the object: the constructor raising, or
returning and being followed by any number of calls of the methods `ms` in any order, all of which return or the last
of which raises at an arbitrary point.  In particular a container the constructor KEPT (the receiver holds a reference
to the parameter's region) is never written through the object later: a write to the aliased object would be a write to
the parameter's object, which is reported. -/
theorem history_write_sound (np : Nat) (c : Stmt) (ms : List Stmt) (σ σ' : St) (d : Bool)
    (h : Hist np c ms σ d σ') (h0 : Start σ)
    (p : Nat) (hp : p < np) (hnot : p ∉ (ana np (history c ms) A.empty).report np) :
    ∀ o ∈ σ'.written, o.1 ≠ p :=
  mayWrite_sound np (history c ms) σ σ' d (hist_exec h) h0 p hp hnot

/-- **Two-call histories** `construct; method` (what localises a broken history obligation to one method): the method
runs in the state the constructor left. -/
theorem twoCall_write_sound (np : Nat) (c m : Stmt) (σ σ₁ σ₂ : St) (d : Bool)
    (hc : Exec np c σ true σ₁) (hm : Exec np m σ₁ d σ₂) (h0 : Start σ)
    (p : Nat) (hp : p < np) (hnot : p ∉ (ana np (.seq c m) A.empty).report np) :
    ∀ o ∈ σ₂.written, o.1 ≠ p :=
  mayWrite_sound np (.seq c m) σ σ₂ d (.seq _ _ _ _ _ _ hc hm) h0 p hp hnot

/-- **Retention = may-alias at return.**  When the analysis of `retProg c x t` does not report parameter `p`, then after
ANY completed run of the constructor `c` nothing reachable from the object of the receiver variable `x` (the object
itself, what its fields hold, what those hold …) is (in the region of) `p`: the object retains nothing of that
argument.  The parameters the analysis does report are the "constructor-retained parameters" listed in the evidence. -/
theorem retention_sound (np : Nat) (c : Stmt) (x t : Var) (σ σ₁ : St) (o : Obj)
    (hc : Exec np c σ true σ₁) (hx : σ₁.env x = some o) (h0 : Start σ)
    (p : Nat) (hp : p < np) (hnot : p ∉ (ana np (retProg c x t) A.empty).reportRet np) :
    ∀ o', Reach σ₁.heap o o' → o'.1 ≠ p := by
  intro o' hr
  obtain ⟨σ₂, h2, hm⟩ := exec_retProg (t := t) hc hx hr
  exact (mayAlias_sound np _ σ σ₂ true h2 h0 p hp hnot o' hm).1

abbrev σ₀ : St := ⟨fun _ => none, 0, [], [], [], []⟩

example : Start σ₀ := ⟨rfl, rfl, rfl, rfl, fun _ => rfl⟩

/-! non-vacuity: `x = param0; x = fresh; write x; y = param1; return y` — the write goes to the object `x` was
rebound to (flow sensitivity: `x = x.copy(); x[m] = v`), so no parameter is reported written; parameter 1 is returned -/
def demo : Stmt :=
  .seq (.bind 0 (.param 0)) (.seq (.bind 0 (.fresh 0)) (.seq (.write 0) (.seq (.bind 1 (.param 1)) (.ret 1))))

example : (ana 2 demo A.empty).report 2 = [] ∧ (ana 2 demo A.empty).reportRet 2 = [1] := by decide +kernel

example : ∃ σ', Exec 2 demo σ₀ true σ' ∧ σ'.written = [(2, 0)] ∧ σ'.returned = [(1, 0)] :=
  ⟨_, .seq _ _ _ _ _ _ (.bindParam 0 0 _ (by decide)) <| .seq _ _ _ _ _ _ (.bindFresh 0 0 _) <|
    .seq _ _ _ _ _ _ (.write 0 (2, 0) _ rfl) <| .seq _ _ _ _ _ _ (.bindParam 1 1 _ (by decide)) <|
    .ret 1 (1, 0) _ rfl, rfl, rfl⟩

/-- the analysis is not trivially silent: writing through an alias of a parameter is reported -/
example : (ana 1 (.seq (.bind 0 (.param 0)) (.seq (.bind 1 (.alias [0])) (.write 1))) A.empty).report 1 = [0] := by
  decide +kernel

/-! sharing through the heap: `x = param0; out = []; tmp = out; tmp.append(x); v = out[0]; v[...] = 0; return out`
— the container has two names, the store goes through one, the load and the return through the other -/
def demoShare : Stmt :=
  .seq (.bind 0 (.param 0)) (.seq (.bind 1 (.fresh 0)) (.seq (.bind 2 (.alias [1])) (.seq (.store 2 0 0)
    (.seq (.bind 3 (.load [1] 0 1)) (.seq (.write 3) (.seq (.bind 4 (.reach [1])) (.ret 4)))))))

example : (ana 1 demoShare A.empty).report 1 = [0] ∧ (ana 1 demoShare A.empty).reportRet 1 = [0] := by decide +kernel

example : ∃ σ', Exec 1 demoShare σ₀ true σ' ∧ σ'.written = [(0, 0)] ∧ σ'.returned = [(0, 0)] :=
  ⟨_, .seq _ _ _ _ _ _ (.bindParam 0 0 _ (by decide)) <| .seq _ _ _ _ _ _ (.bindFresh 1 0 _) <|
    .seq _ _ _ _ _ _ (.bindAlias 2 [1] 1 (1, 0) _ (.head _) rfl) <|
    .seq _ _ _ _ _ _ (.store 2 0 0 (1, 0) (0, 0) _ rfl rfl) <|
    .seq _ _ _ _ _ _ (.bindLoadEdge 3 [1] 0 1 1 (1, 0) 0 (0, 0) _ (.head _) rfl (.head _) rfl) <|
    .seq _ _ _ _ _ _ (.write 3 (0, 0) _ rfl) <|
    .seq _ _ _ _ _ _ (.bindReach 4 [1] 1 (1, 0) (0, 0) _ (.head _) rfl (.step _ 0 _ _ (.head _) (.refl _))) <|
    .ret 4 (0, 0) _ rfl, rfl, rfl⟩

/-- `r = []; d.append(r); return r` (d a parameter): the result does not hold the parameter, the parameter holds the
result — reported as possibly aliased (and as written) -/
example : (ana 1 (.seq (.bind 0 (.param 0)) (.seq (.bind 1 (.fresh 0)) (.seq (.write 0) (.seq (.store 0 0 1) (.ret 1)))))
    A.empty).reportRet 1 = [0] := by decide +kernel

/-- storing a parameter in a local container and writing only the container's own slots is NOT a write to the
parameter, and a result that does not hold it does not alias it -/
example : (ana 1 (.seq (.bind 0 (.param 0)) (.seq (.bind 1 (.fresh 0)) (.seq (.store 1 0 0) (.seq (.write 1)
    (.seq (.bind 2 (.fresh 1)) (.seq (.bind 3 (.reach [2])) (.ret 3))))))) A.empty).report 1 = [] := by decide +kernel

/-! the shape of the seeded change `seeded/C19-c2`: `self.data = data` (the caller's list kept) followed by a mutator
doing `self.data[i] = new`; parameter 0 = the constructor's `data`, variable 1 = the receiver, label 2 = the field -/
def keepCtor : Stmt := .seq (.bind 0 (.param 0)) (.seq (.bind 1 (.fresh 0)) (.store 1 2 0))
def copyCtor : Stmt :=
  .seq (.bind 0 (.param 0)) (.seq (.bind 1 (.fresh 0)) (.seq (.bind 2 (.fresh 1)) (.seq (.store 2 0 0) (.store 1 2 2))))
def slotMutator : Stmt := .seq (.bind 3 (.load [1] 2 2)) (.seq (.bind 4 (.fresh 3)) (.seq (.write 3) (.store 3 0 4)))
def rebindMutator : Stmt := .seq (.bind 4 (.fresh 3)) (.seq (.write 1) (.store 1 2 4))

/-- keeping the list and writing its slots later is reported; copying it (`list(data)`) or replacing the field by a new
object (what `Laser.add` does although `Laser(arr).data is arr`) is not -/
example : (ana 1 (history keepCtor [slotMutator]) A.empty).report 1 = [0]
    ∧ (ana 1 (history copyCtor [slotMutator]) A.empty).report 1 = []
    ∧ (ana 1 (history keepCtor [rebindMutator]) A.empty).report 1 = []
    ∧ (ana 1 (retProg keepCtor 1 9) A.empty).reportRet 1 = [0] := by decide +kernel

/-- the hypotheses of `history_write_sound` are met by a real history that does write the caller's list -/
example : ∃ σ', Hist 1 keepCtor [slotMutator] σ₀ true σ' ∧ (0, 0) ∈ σ'.written :=
  ⟨_, .calls _ _ _ _
    (.seq _ _ _ _ _ _ (.bindParam 0 0 _ (by decide)) <| .seq _ _ _ _ _ _ (.bindFresh 1 0 _) <|
      .store 1 2 0 (1, 0) (0, 0) _ rfl rfl)
    (.call slotMutator _ _ _ _ (.head _)
      (.seq _ _ _ _ _ _ (.bindLoadEdge 3 [1] 2 2 1 (1, 0) 2 (0, 0) _ (.head _) rfl (.head _) rfl) <|
        .seq _ _ _ _ _ _ (.bindFresh 4 3 _) <| .seq _ _ _ _ _ _ (.write 3 (0, 0) _ rfl) <|
        .store 3 0 4 (0, 0) (4, 1) _ rfl rfl)
      (.done _)), .head _⟩

end Pew.Effects
