import PewProofs.Register
import PewProofs.RegisterFast
import PewProofs.RegisterMerge
import PewTheorems.C11

/-! # C12 — property theorems (statements only depend on `PewModel.Register` / `PewModel.RegisterFast` /
`PewModel.Overlap`)

All correlation theorems are stated and proved for **every number of dimensions**: `circ` and `lin` are nested sums
over the axis list; the one-axis facts (no wrap-around with `s = a + b − 1`, `dec (enc l) = l`) are lifted one axis at a
time, the re-indexing `m = n + l` once, for the sum over a box of which `lin` and `dot` are instances (`boxSum_shift`).
Helpers that need a property theorem of this file (`xcorrCirc_eq_decode`, `register_max`, `register_zero_of_max`) stand before
their first user.
The link "`irfftn(rfftn a · conj (rfftn b), s)` = `circ`" (correlation theorem of the DFT) is
trusted, not proved. -/
namespace Pew.Register

/-- **no wrap-around in n dimensions**: with `s = a.shape + b.shape − 1` the circular correlation
read at the encoded lag is the linear cross-correlation at that lag -/
theorem circ_eq_lin (sa sb : List Nat) (A B : List Nat → Rat) (l : List Int)
    (hpa : ∀ a ∈ sa, 0 < a) (hpb : ∀ b ∈ sb, 0 < b) (hl : inLagBox sa sb l = true) :
    circ (padShape sa sb) (padN sa A) (padN sb B) (encode (padShape sa sb) l) = lin sb (zext sa A) B l := by
  fun_induction inLagBox sa sb l generalizing A B with
  | case1 => simp [circ, lin, padN, zext, inBox, inBoxI, padShape]
  | case2 a as b bs l0 ls ih =>
    simp only [Bool.and_eq_true, decide_eq_true_eq] at hl
    obtain ⟨⟨h1, h2⟩, hls⟩ := hl
    have hpa' : ∀ x ∈ as, 0 < x := fun x hx => hpa x (by simp [hx])
    have hpb' : ∀ x ∈ bs, 0 < x := fun x hx => hpb x (by simp [hx])
    simp only [padShape, encode]
    rw [circ_cons, lin_cons]
    refine sumRange_congr _ _ _ fun n hn => ?_
    -- one axis: the wrapped index is `n + l0` where that lies inside `a`, and lies outside `a` otherwise
    have hw := wrap_index a b n hn l0 h1 h2
    split at hw
    · rename_i hin
      rw [if_pos hin, hw, if_pos ((Int.toNat_lt hin.1).mpr hin.2), ih _ _ hpa' hpb' hls]
    · rename_i hout
      rw [if_neg hout, if_neg (Nat.not_lt.mpr hw)]
  | case3 => exact absurd hl Bool.false_ne_true

/-- **decode ∘ encode = id** on the whole lag box, every axis, every dimension (`dec`: `k < a ↦ k, else k − s`) -/
theorem decode_encode (sa sb : List Nat) (l : List Int)
    (hpa : ∀ a ∈ sa, 0 < a) (hpb : ∀ b ∈ sb, 0 < b) (hl : inLagBox sa sb l = true) :
    decode sa (padShape sa sb) (encode (padShape sa sb) l) = l := by
  fun_induction inLagBox sa sb l with
  | case1 => rfl
  | case2 a as b bs l0 ls ih =>
    simp only [Bool.and_eq_true, decide_eq_true_eq] at hl
    simp only [padShape, encode, decode]
    rw [dec_enc a b l0 hl.1.1 hl.1.2,
      ih (fun x hx => hpa x (by simp [hx])) (fun x hx => hpb x (by simp [hx])) hl.2]
  | case3 => exact absurd hl Bool.false_ne_true

theorem xcorrCirc_eq_decode (a b : Img) (hlen : a.shape.length = b.shape.length)
    (hpa : ∀ x ∈ a.shape, 0 < x) (hpb : ∀ x ∈ b.shape, 0 < x) (k : List Nat)
    (hk : k ∈ allIdx (padShape a.shape b.shape)) :
    inLagBox a.shape b.shape (decode a.shape (padShape a.shape b.shape) k) = true ∧
      xcorrCirc a b k = xcorr a b (decode a.shape (padShape a.shape b.shape) k) := by
  obtain ⟨e1, e2⟩ := encode_decode_nd a.shape b.shape k hlen hpa hpb ((mem_allIdx _ _).mp hk)
  have := circ_eq_lin a.shape b.shape a.get b.get _ hpa hpb e2
  rw [e1] at this
  exact ⟨e2, this⟩

theorem register_max (a b : Img) (hlen : a.shape.length = b.shape.length)
    (hpa : ∀ x ∈ a.shape, 0 < x) (hpb : ∀ x ∈ b.shape, 0 < x) :
    inLagBox a.shape b.shape (register a b) = true ∧
      ∀ l, inLagBox a.shape b.shape l = true → xcorr a b l ≤ xcorr a b (register a b) := by
  have hne : allIdx (padShape a.shape b.shape) ≠ [] := by
    obtain ⟨tl, htl⟩ := allIdx_head _ (padShape_pos _ _ hpa hpb)
    rw [htl]; exact List.cons_ne_nil _ _
  obtain ⟨k, hk, hkm, hmax, -⟩ := argmaxFirst_spec (xcorrCirc a b) _ hne
  obtain ⟨e2, c2⟩ := xcorrCirc_eq_decode a b hlen hpa hpb k hkm
  simp only [register, hk]
  refine ⟨e2, fun l hl => ?_⟩
  have := hmax _ ((mem_allIdx _ _).mpr (encode_inBox _ _ _ hpb hl))
  rwa [show xcorrCirc a b (encode _ l) = xcorr a b l from circ_eq_lin _ _ _ _ l hpa hpb hl, c2] at this

/-- the estimate is the lag of the unique maximum of the linear cross-correlation -/
theorem register_argmax (a b : Img) (l : List Int)
    (hpa : ∀ x ∈ a.shape, 0 < x) (hpb : ∀ x ∈ b.shape, 0 < x)
    (hl : inLagBox a.shape b.shape l = true)
    (huniq : ∀ l', inLagBox a.shape b.shape l' = true → l' ≠ l → xcorr a b l' < xcorr a b l) :
    register a b = l := by
  obtain ⟨h1, h2⟩ := register_max a b (inLagBox_length _ _ _ hl).1 hpa hpb
  by_contra hne
  exact absurd (huniq _ h1 hne) (not_lt.mpr (h2 l hl))

/-- the hypothesis `hl` of `circ_eq_lin` / `register_argmax` in two dimensions: two corners of the lag box of opposite signs -/
example : inLagBox [4, 3] [2, 5] [-1, 2] = true ∧ inLagBox [4, 3] [2, 5] [3, -4] = true := by decide

/-- non-vacuity: an impulse at 2 registered against a single pixel satisfies the hypotheses of
`register_argmax` and `swap_negates` -/
theorem impulse_unique (l' : List Int)
    (h : inLagBox [4] [1] l' = true) (hne : l' ≠ [2]) :
    xcorr ⟨[4], fun i => if i = [2] then 1 else 0⟩ ⟨[1], fun _ => 1⟩ l'
      < xcorr ⟨[4], fun i => if i = [2] then 1 else 0⟩ ⟨[1], fun _ => 1⟩ [2] := by
  match l', h, hne with
  | [], h, _ => exact Bool.noConfusion h
  | _ :: _ :: _, h, _ => simp [inLagBox] at h
  | [x], h, hne =>
    simp only [inLagBox, Bool.and_eq_true, decide_eq_true_eq] at h
    have hx : x ≠ 2 := fun e => hne (by rw [e])
    have : x = 0 ∨ x = 1 ∨ x = 3 := by omega
    rcases this with rfl | rfl | rfl <;> decide +kernel

example : register ⟨[4], fun i => if i = [2] then 1 else 0⟩ ⟨[1], fun _ => 1⟩ = [2] :=
  register_argmax _ _ [2] (by simp) (by simp) (by decide) impulse_unique

/-- the code's expressions place `b` as the anchor names it: flush with the near side (offset 0),
flush with the far side (`offset + b = a`), or centred with offset `⌊(a − b)/2⌋` -/
theorem anchor_spec (a0 a1 b0 b1 : Int) (an : Anchor) :
    anchorMech a0 a1 b0 b1 an = anchorSpec a0 a1 b0 b1 an := by
  cases an <;> simp only [anchorMech, anchorSpec, Anchor.sides, sideOffset]
  rw [Int.fdiv_eq_ediv_of_nonneg _ (by decide), Int.fdiv_eq_ediv_of_nonneg _ (by decide),
    Int.fdiv_eq_ediv_of_nonneg _ (by decide), Int.fdiv_eq_ediv_of_nonneg _ (by decide)]
  congr 1 <;> omega

/-- what the three kinds of per-axis offset mean geometrically: near side flush, far side flush,
or the two margins differ by at most one with the smaller one first (floor) -/
theorem sideOffset_geometry (a b : Int) (sd : Side) :
    match sd with
    | .near => sideOffset a b sd = 0
    | .far => sideOffset a b sd + b = a
    | .mid => 2 * sideOffset a b sd ≤ a - b ∧ a - b ≤ 2 * sideOffset a b sd + 1 := by
  cases sd <;> simp only [sideOffset]
  · omega
  · rw [Int.fdiv_eq_ediv_of_nonneg _ (by decide)]; omega

example : anchorMech 5 8 8 3 .center = (-2, 2) := by decide

/-- the decode used before commit dfabb17 (`fftshift`, then subtract `s / 2`) is right exactly for
lags in `[−⌊s/2⌋, ⌈s/2⌉)` -/
theorem shift_decode_range (a b : Nat) (ha : 0 < a) (hb : 0 < b) (l : Int)
    (h1 : -((b : Int) - 1) ≤ l) (h2 : l ≤ (a : Int) - 1) :
    oldDec (a + b - 1) (enc (a + b - 1) l) = l ↔
      -(((a + b - 1) / 2 : Nat) : Int) ≤ l ∧ l < ((a + b - 1 : Nat) : Int) - (((a + b - 1) / 2 : Nat) : Int) := by
  generalize hab : a + b - 1 = s at *
  have hs : (0 : Int) < s := by omega
  -- the position after `fftshift`, as an integer: `l + ⌊s/2⌋` reduced into `[0, s)`
  have key : (((enc s l + s / 2) % s : Nat) : Int) = (l + ((s / 2 : Nat) : Int)) % s := by
    rw [Int.natCast_mod, Nat.cast_add, Int.add_emod, enc_emod s l (by omega), ← Int.add_emod]
  unfold oldDec
  rw [key]
  constructor
  · intro h
    have h3 := Int.emod_lt_of_pos (l + ((s / 2 : Nat) : Int)) hs
    omega
  · intro h
    rw [Int.emod_eq_of_lt (by omega) (by omega)]
    omega

/-- the regression input of the fix: `a = scene[0:100]`, `b = scene[80:100]` was reported at −39 -/
theorem shift_decode_wrong : oldDec (100 + 20 - 1) (enc (100 + 20 - 1) 80) = -39
    ∧ dec 100 (100 + 20 - 1) (enc (100 + 20 - 1) 80) = 80 := by decide

/-- **swapping the arguments negates the lag** (every dimension, every lag) -/
theorem lin_swap (sa sb : List Nat) (A B : List Nat → Rat) (l : List Int)
    (h1 : sa.length = sb.length) (h2 : l.length = sb.length) :
    lin sb (zext sa A) B l = lin sa (zext sb B) A (l.map (- ·)) := by
  rw [lin_eq_boxSum _ _ _ _ h2, lin_eq_boxSum _ _ _ _ (by rw [List.length_map, h2, h1])]
  simp only [zext_mul]
  rw [boxSum_shift sa sb l h1 h2 fun m n => A m * B n]
  simp only [mul_comm]

/-- cross-correlation with the arguments swapped is the cross-correlation at the negated lag -/
theorem xcorr_swap (a b : Img) (l : List Int) (h1 : a.shape.length = b.shape.length)
    (h2 : l.length = b.shape.length) : xcorr a b l = xcorr b a (l.map (- ·)) :=
  lin_swap a.shape b.shape a.get b.get l h1 h2

/-- **swapping the arguments negates the estimate** (under the hypotheses of `register_argmax`) -/
theorem swap_negates (a b : Img) (l : List Int)
    (hpa : ∀ x ∈ a.shape, 0 < x) (hpb : ∀ x ∈ b.shape, 0 < x)
    (hl : inLagBox a.shape b.shape l = true)
    (huniq : ∀ l', inLagBox a.shape b.shape l' = true → l' ≠ l → xcorr a b l' < xcorr a b l) :
    register a b = l ∧ register b a = l.map (- ·) := by
  refine ⟨register_argmax a b l hpa hpb hl huniq, ?_⟩
  obtain ⟨hlen, hll⟩ := inLagBox_length _ _ _ hl
  refine register_argmax b a _ hpb hpa (inLagBox_neg _ _ _ hl) fun l' hl' hne => ?_
  -- in `b`'s frame every lag is the negative of a lag in `a`'s frame (`xcorr_swap`)
  rw [xcorr_swap b a l' hlen.symm (inLagBox_length _ _ _ hl').2, ← xcorr_swap a b l hlen hll]
  exact huniq _ (inLagBox_neg _ _ _ hl') fun e => hne (by rw [← e, map_neg_neg])

example : register ⟨[1], fun _ => 1⟩ ⟨[4], fun i => if i = [2] then 1 else 0⟩ = [-2] :=
  (swap_negates _ _ [2] (by simp) (by simp) (by decide) impulse_unique).2

/-- **zero lag is a maximum of the self-correlation**, every dimension: `x[l] ≤ x[0] = Σ a²` -/
theorem xcorr_self_le (a : Img) (l : List Int) (hl : l.length = a.shape.length) :
    xcorr a a l ≤ xcorr a a (List.replicate a.shape.length 0) := by
  unfold xcorr
  rw [lin_self_zero]
  exact lin_self_le a.shape a.get l hl

/-- ties go to the zero lag: it is stored first, and `argmax` takes the first maximum -/
theorem register_zero_of_max (a b : Img) (hlen : a.shape.length = b.shape.length)
    (hpa : ∀ x ∈ a.shape, 0 < x) (hpb : ∀ x ∈ b.shape, 0 < x)
    (hmax : ∀ l, inLagBox a.shape b.shape l = true → xcorr a b l ≤ xcorr a b (List.replicate a.shape.length 0)) :
    register a b = List.replicate a.shape.length 0 := by
  have hs := padShape_length a.shape b.shape hlen
  obtain ⟨tl, htl⟩ := allIdx_head _ (padShape_pos a.shape b.shape hpa hpb)
  rw [hs] at htl
  have hne : allIdx (padShape a.shape b.shape) ≠ [] := by rw [htl]; exact List.cons_ne_nil _ _
  obtain ⟨k, hk, -, -, hfirst⟩ := argmaxFirst_spec (xcorrCirc a b) _ hne
  have hd := decode_zeros a.shape (padShape a.shape b.shape) hs hpa
  rw [hs] at hd
  have c := fun k' hk' => xcorrCirc_eq_decode a b hlen hpa hpb k' hk'
  simp only [htl, List.head_cons] at hfirst
  rw [register, hk, hfirst fun k' hk' => by
    rw [(c k' (htl ▸ hk')).2, (c _ (htl ▸ List.mem_cons_self)).2, hd]
    exact hmax _ (c k' (htl ▸ hk')).1]
  exact hd

/-- **every image registers to itself at offset zero**: zero lag is stored first, it is a maximum
(`xcorr_self_le`) and `argmax` takes the first maximum -/
theorem register_self (a : Img) (hpa : ∀ x ∈ a.shape, 0 < x) :
    register a a = List.replicate a.shape.length 0 :=
  register_zero_of_max a a rfl hpa hpa fun l hl => xcorr_self_le a l (inLagBox_length _ _ _ hl).2

/-- **zero lag is the unique maximum of the self-correlation** of an image that is not identically
zero, in every dimension: `x[l] < x[0]` for every lag `l ≠ 0` (finite support: a non-zero image
cannot coincide with a translate of itself) -/
theorem xcorr_self_lt (a : Img) (i : List Nat) (hi : inBox i a.shape = true) (hA : a.get i ≠ 0)
    (l : List Int) (hl : l.length = a.shape.length) (hne : l ≠ List.replicate a.shape.length 0) :
    xcorr a a l < xcorr a a (List.replicate a.shape.length 0) := by
  unfold xcorr
  rw [lin_self_zero]
  exact lin_self_lt a.shape a.get l hl hne i hi hA

/-- non-vacuity: the 1-D image `[0, 3]` at lag 1 -/
example : xcorr ⟨[2], fun i => if i = [1] then 3 else 0⟩ ⟨[2], fun i => if i = [1] then 3 else 0⟩ [1]
    < xcorr ⟨[2], fun i => if i = [1] then 3 else 0⟩ ⟨[2], fun i => if i = [1] then 3 else 0⟩ [0] :=
  xcorr_self_lt ⟨[2], fun i => if i = [1] then 3 else 0⟩ [1] (by decide) (by simp) [1] rfl (by decide)

section merge
open Pew.Overlap

/-- **register, then merge**: any number of windows of one scene, merged at their true offsets in
`replace` (the default) or `mean` mode, reproduce the scene on the union of the windows and hold the
fill elsewhere -/
theorem merge_reproduces_scene (m : Mode) (hm : m ≠ .sum) (fill : V) (scene : Idx → Rat)
    (ws : List (List Int × List Nat)) (p : Idx) :
    mech m fill (ws.map fun w => window scene w.1 w.2) p
      = sceneOnUnion scene fill (ws.map fun w => window scene w.1 w.2) p := by
  rw [pixel_spec]
  unfold spec sceneOnUnion
  rw [contribs_windows]
  generalize (ws.map fun w => window scene w.1 w.2) = L
  cases hc : L.countP (fun a => a.inside p) with
  | zero =>
    rw [if_neg fun h => let ⟨x, hx, hpx⟩ := List.any_eq_true.mp h; List.countP_eq_zero.mp hc x hx hpx]
    rfl
  | succ n =>
    rw [if_pos (List.any_eq_true.mpr (List.countP_pos_iff.mp (hc ▸ Nat.succ_pos n)))]
    cases m with
    | sum => exact absurd rfl hm
    | replace => exact congrArg some (List.getLast_replicate (n := n + 1) (List.cons_ne_nil _ _))
    | mean =>
      have hn : ((n + 1 : Nat) : Rat) ≠ 0 := Nat.cast_ne_zero.mpr (Nat.succ_ne_zero n)
      show some ((List.replicate (n + 1) (scene p)).sum / ((List.replicate (n + 1) (scene p)).length : Rat)) = _
      rw [List.sum_replicate, List.length_replicate, nsmul_eq_mul, mul_div_cancel_left₀ _ hn]

/-- the offset normalisation of `overlap_arrays` turns windows of a scene into windows of the same
scene in canvas coordinates (origin moved to the per-axis minimum offset) -/
theorem normalise_windows (ndim : Nat) (scene : Idx → Rat) (ws : List (List Int × List Nat))
    (hoff : ∀ w ∈ ws, w.1.length = ndim) :
    normalise ndim (ws.map fun w => window scene w.1 w.2)
      = ws.map (fun w =>
          window (fun q => scene (List.zipWith (· + ·) q (minOffset ndim (ws.map fun w => window scene w.1 w.2))))
            (Pew.Overlap.sub w.1 (minOffset ndim (ws.map fun w => window scene w.1 w.2))) w.2) := by
  simp only [normalise, List.map_map]
  apply List.map_congr_left
  intro w hw
  simp only [Function.comp, window]
  congr 1
  funext i
  rw [add_sub_add_self i w.1 _ (by rw [minOffset_length]; exact hoff w hw)]

/-- **register, then merge, end to end**: the canvas that `overlap_arrays` fills for windows of one
scene placed at their true offsets (normalised as the code does) is that scene in canvas
coordinates on the union of the windows and the fill elsewhere (`replace` and `mean` modes) -/
theorem merge_normalised_reproduces_scene (m : Mode) (hm : m ≠ .sum) (fill : V) (ndim : Nat)
    (scene : Idx → Rat) (ws : List (List Int × List Nat)) (hoff : ∀ w ∈ ws, w.1.length = ndim) (p : Idx) :
    mech m fill (normalise ndim (ws.map fun w => window scene w.1 w.2)) p
      = sceneOnUnion (fun q => scene (List.zipWith (· + ·) q (minOffset ndim (ws.map fun w => window scene w.1 w.2))))
          fill (normalise ndim (ws.map fun w => window scene w.1 w.2)) p := by
  rw [normalise_windows ndim scene ws hoff]
  have := merge_reproduces_scene m hm fill
    (fun q => scene (List.zipWith (· + ·) q (minOffset ndim (ws.map fun w => window scene w.1 w.2))))
    (ws.map fun w => (Pew.Overlap.sub w.1 (minOffset ndim (ws.map fun w => window scene w.1 w.2)), w.2)) p
  rw [List.map_map] at this
  exact this

/-- **register, then merge, the whole result**: shape and every pixel of what `overlap_arrays`
returns for windows of one scene at their true offsets equal `mergeSpec` — the function the driver
sends as `spec` of `c12.merge`: the scene (read at canvas pixel + minimum offset) where a window
covers the pixel, the fill elsewhere; `replace` and `mean` modes, every fill, any number of windows -/
theorem merge_whole (m : Mode) (hm : m ≠ .sum) (fill : V) (ndim : Nat)
    (scene : Idx → Rat) (ws : List (List Int × List Nat)) (hoff : ∀ w ∈ ws, w.1.length = ndim) :
    overlap false m fill ndim (ws.map fun w => window scene w.1 w.2)
      = mergeSpec scene fill ndim (ws.map fun w => window scene w.1 w.2) := by
  simp only [overlap, mergeSpec, Bool.false_eq_true, if_false]
  refine congrArg _ (List.map_congr_left fun p hp => ?_)
  have hM := minOffset_length ndim (ws.map fun w => window scene w.1 w.2)
  rw [normalise_eq, mech_reoff m fill _ _ p (by rw [hM, Overlap.allIdx_length _ p hp, List.length_map, newShape_length])
    (fun a ha => by obtain ⟨w, hw, rfl⟩ := List.mem_map.mp ha; rw [hM]; exact hoff w hw),
    merge_reproduces_scene m hm]

end merge

/-! ## the array twin of the driver (`PewModel.RegisterFast`) equals the model

`PewDriver.C12` parses an image into the pair `(mkImg shape data, toFImg shape data)` and, for long
axes, evaluates `fastLin` / `fastCirc` / `peakOfTable` / `registerOf` on the integer arrays instead of
`xcorr` / `xcorrCirc` / `peak` / `register` on the model image.  The theorems below hold for **every
number of dimensions, every shape (zero extents included), every data list (whatever its length:
both sides read a missing entry as 0) and every lag / index vector (in or out of the box, of any
length)**; the only hypothesis is that the two shapes have the same number of axes (which the driver
checks before it evaluates anything). -/

/-- **`fastLin` is `xcorr`**: the integer-array evaluation of the linear cross-correlation (common
denominator, common factor taken out, flat strided reads, loop over the overlap only) is the
model's cross-correlation at every lag -/
theorem fastLin_eq_xcorr (sa sb : List Nat) (da db : List Rat) (h : sa.length = sb.length) (l : List Int) :
    fastLin (toFImg sa da) (toFImg sb db) l = xcorr (mkImg sa da) (mkImg sb db) l := by
  simp only [fastLin, xcorr, mkImg, axesOf_toFImg, linGo_eq sa sb h, mkGet_eq, zext_smul, lin_smul]

/-- **`fastCirc` is `xcorrCirc`**: the integer-array evaluation of the circular correlation of the
zero padded images (the zero terms `n ∉ box b`, `(n + k) mod s ∉ box a` skipped) is the model's
padded correlation array at every index vector -/
theorem fastCirc_eq_xcorrCirc (sa sb : List Nat) (da db : List Rat) (h : sa.length = sb.length) (k : List Nat) :
    fastCirc (toFImg sa da) (toFImg sb db) k = xcorrCirc (mkImg sa da) (mkImg sb db) k := by
  simp only [fastCirc, xcorrCirc, mkImg, axesOf_toFImg, circGo_eq sa sb h, mkGet_eq, padN_smul, circ_smul]

/-- the whole table of correlation values over the lag box, in the row-major order in which the
driver builds it (`c12.registerLong`: `table`), is the model's table -/
theorem fastLin_table_eq (sa sb : List Nat) (da db : List Rat) (h : sa.length = sb.length) :
    (lags sa sb).map (fun l => (l, fastLin (toFImg sa da) (toFImg sb db) l))
      = (lags (mkImg sa da).shape (mkImg sb db).shape).map (fun l => (l, xcorr (mkImg sa da) (mkImg sb db) l)) := by
  simp only [fastLin_eq_xcorr sa sb da db h, mkImg]

/-- the whole circular correlation array in row-major order is the model's -/
theorem fastCirc_table_eq (sa sb : List Nat) (da db : List Rat) (h : sa.length = sb.length) :
    (allIdx (padShape sa sb)).map (fastCirc (toFImg sa da) (toFImg sb db))
      = (allIdx (padShape sa sb)).map (xcorrCirc (mkImg sa da) (mkImg sb db)) := by
  rw [funext (fastCirc_eq_xcorrCirc sa sb da db h)]

/-- **maximum, its lag (first in row-major order) and runner-up** computed from the twin's table
(what `c12.registerLong` reports as `lag`, `max`, `runner`) are those of the model's `peak` -/
theorem peakOfTable_fast_eq_peak (sa sb : List Nat) (da db : List Rat) (h : sa.length = sb.length) :
    peakOfTable ((lags sa sb).map (fun l => (l, fastLin (toFImg sa da) (toFImg sb db) l)))
      = peak (mkImg sa da) (mkImg sb db) := by
  rw [fastLin_table_eq sa sb da db h, peak_eq_peakOfTable]

/-- the same through `peakOf` (what `c12.register` compares with the model at run time) -/
theorem peakOf_fast_eq_peak (sa sb : List Nat) (da db : List Rat) (h : sa.length = sb.length) :
    peakOf (fastLin (toFImg sa da) (toFImg sb db)) (lags sa sb) = peak (mkImg sa da) (mkImg sb db) :=
  peakOfTable_fast_eq_peak sa sb da db h

/-- **the mechanism's answer computed from the twin** (first maximum of the circular array in
row-major order, decoded; what `c12.registerLong` reports as `model`) is the model's `register` -/
theorem registerOf_fast_eq_register (sa sb : List Nat) (da db : List Rat) (h : sa.length = sb.length) :
    registerOf (fastCirc (toFImg sa da) (toFImg sb db)) sa sb = register (mkImg sa da) (mkImg sb db) := by
  have e : fastCirc (toFImg sa da) (toFImg sb db) = xcorrCirc (mkImg sa da) (mkImg sb db) :=
    funext (fastCirc_eq_xcorrCirc sa sb da db h)
  rw [e]
  rfl

/-- end to end on the twin: a unique maximum of the twin's linear correlation over the lag box is
what the twin's mechanism returns (`register_argmax` carried over; shapes positive as there) -/
theorem registerOf_fast_argmax (sa sb : List Nat) (da db : List Rat) (l : List Int)
    (hpa : ∀ x ∈ sa, 0 < x) (hpb : ∀ x ∈ sb, 0 < x) (hl : inLagBox sa sb l = true)
    (huniq : ∀ l', inLagBox sa sb l' = true → l' ≠ l →
      fastLin (toFImg sa da) (toFImg sb db) l' < fastLin (toFImg sa da) (toFImg sb db) l) :
    registerOf (fastCirc (toFImg sa da) (toFImg sb db)) sa sb = l := by
  have h := (inLagBox_length _ _ _ hl).1
  rw [registerOf_fast_eq_register sa sb da db h]
  apply register_argmax (mkImg sa da) (mkImg sb db) l hpa hpb hl
  intro l' hl' hne
  rw [← fastLin_eq_xcorr sa sb da db h, ← fastLin_eq_xcorr sa sb da db h]
  exact huniq l' hl' hne

/-- non-vacuity / the twin really computes: a 2-D pair with non-integer entries (common denominator 6,
common factor 1 resp. 2) at a lag with partial overlap, both routes -/
example : fastLin (toFImg [2, 2] [1, 1/2, 3, -2/3]) (toFImg [1, 2] [4, 2]) [1, -1] = 6
    ∧ xcorr (mkImg [2, 2] [1, 1/2, 3, -2/3]) (mkImg [1, 2] [4, 2]) [1, -1] = 6 := by decide +kernel

example : fastCirc (toFImg [2, 2] [1, 1/2, 3, -2/3]) (toFImg [1, 2] [4, 2]) [1, 2] = 6
    ∧ xcorrCirc (mkImg [2, 2] [1, 1/2, 3, -2/3]) (mkImg [1, 2] [4, 2]) [1, 2] = 6 := by decide +kernel

/-! ## from the driver's `peak` to the hypothesis of `register_argmax` -/

/-- **a positive margin makes the reported lag the unique maximiser over the lag box.**  `peak` is
what the driver evaluates as the specification (lag of the maximum, maximum, largest value at any
other lag).  If the runner-up is strictly below the maximum (or there is no other lag) then the
reported lag is in the lag box, the reported value is the correlation there, and the correlation at
every other lag of the lag box is strictly smaller — the `huniq` hypothesis of `register_argmax`. -/
theorem peak_margin_unique (a b : Img) (pk : Peak) (h : peak a b = some pk)
    (hm : ∀ r, pk.runnerUp = some r → r < pk.value) :
    inLagBox a.shape b.shape pk.lag = true ∧ pk.value = xcorr a b pk.lag ∧
      ∀ l', inLagBox a.shape b.shape l' = true → l' ≠ pk.lag → xcorr a b l' < xcorr a b pk.lag := by
  rw [peak_eq_peakOfTable] at h
  obtain ⟨hmem, hlt⟩ := peakOfTable_margin _ pk h hm
  obtain ⟨l, hl, e⟩ := List.mem_map.mp hmem
  simp only [Prod.mk.injEq] at e
  obtain ⟨e1, e2⟩ := e
  subst e1
  refine ⟨(mem_lags _ _ _).mp hl, e2.symm, ?_⟩
  intro l' hl' hne
  have := hlt (l', xcorr a b l') (List.mem_map.mpr ⟨l', (mem_lags _ _ _).mpr hl', rfl⟩) hne
  rw [e2]
  exact this

/-- **the mechanism returns the lag that `peak` reports whenever the margin is positive** (whether
or not that lag is the true translation): this is the comparison `c12.py` makes in every determined
case -/
theorem peak_margin_register (a b : Img) (pk : Peak)
    (hpa : ∀ x ∈ a.shape, 0 < x) (hpb : ∀ x ∈ b.shape, 0 < x) (h : peak a b = some pk)
    (hm : ∀ r, pk.runnerUp = some r → r < pk.value) :
    register a b = pk.lag ∧ register b a = pk.lag.map (- ·) := by
  obtain ⟨h1, -, h3⟩ := peak_margin_unique a b pk h hm
  exact swap_negates a b pk.lag hpa hpb h1 h3

/-- the same on the driver's array twin (long axes): peak of the twin's table with a positive margin
⇒ the twin's mechanism returns that lag -/
theorem peak_margin_registerOf_fast (sa sb : List Nat) (da db : List Rat) (pk : Peak)
    (hpa : ∀ x ∈ sa, 0 < x) (hpb : ∀ x ∈ sb, 0 < x) (hlen : sa.length = sb.length)
    (h : peakOfTable ((lags sa sb).map (fun l => (l, fastLin (toFImg sa da) (toFImg sb db) l))) = some pk)
    (hm : ∀ r, pk.runnerUp = some r → r < pk.value) :
    registerOf (fastCirc (toFImg sa da) (toFImg sb db)) sa sb = pk.lag := by
  rw [peakOfTable_fast_eq_peak sa sb da db hlen] at h
  rw [registerOf_fast_eq_register sa sb da db hlen]
  exact (peak_margin_register (mkImg sa da) (mkImg sb db) pk hpa hpb h hm).1

/-- non-vacuity: the impulse pair of `impulse_unique`: peak `(lag 2, value 1, runner-up 0)` -/
example : (peak ⟨[4], fun i => if i = [2] then 1 else 0⟩ ⟨[1], fun _ => 1⟩).map
    (fun pk => (pk.lag, pk.value, pk.runnerUp)) = some ([2], 1, some 0) := by decide +kernel

/-- **the estimate is the true translation** under the decidable scene hypothesis `truthHyp`:
`t` is a lag of the lag box, `b` is the window of zero-extended `a` at `t` (a sub-window of `a`; or a
window that sticks out of `a` and vanishes there, e.g. two overlapping windows of a scene that is
zero outside their overlap), and the window of `a` at `t` has the largest energy among the windows
of `b`'s shape at all lags of the lag box, without an identical twin of the same energy.  Then the
cross-correlation has its unique maximum at `t` (Cauchy–Schwarz, `window_peak`), `register a b = t`
and `register b a = −t`.  The driver evaluates `truthHyp` per case. -/
theorem register_truth (a b : Img) (t : List Int)
    (hpa : ∀ x ∈ a.shape, 0 < x) (hpb : ∀ x ∈ b.shape, 0 < x) (h : truthHyp a b t = true) :
    (∀ l, inLagBox a.shape b.shape l = true → l ≠ t → xcorr a b l < xcorr a b t) ∧
      register a b = t ∧ register b a = t.map (- ·) := by
  obtain ⟨hbox, hwin, hall⟩ := (truthHyp_iff a b t).mp h
  have huniq : ∀ l, inLagBox a.shape b.shape l = true → l ≠ t → xcorr a b l < xcorr a b t := by
    intro l hl hne
    rcases hall l hl with e | ⟨hE, n, hn, hd⟩
    · exact absurd e hne
    · exact window_peak a b t l ((inLagBox_length _ _ _ hbox).2) ((inLagBox_length _ _ _ hl).2) hwin hE n hn hd
  exact ⟨huniq, swap_negates a b t hpa hpb hbox huniq⟩

/-- non-vacuity: `a = [0, 1, 2, 0]`, `b = a[1:3] = [1, 2]`, `t = 1`: the window energies over the lag
box `−1 … 3` are 0, 1, 5, 4, 0 -/
example : truthHyp ⟨[4], fun i => if i = [1] then 1 else if i = [2] then 2 else 0⟩
    ⟨[2], fun i => if i = [0] then 1 else 2⟩ [1] = true := by decide +kernel

/-- … and a pair for which it fails although `b` is a sub-window: `a = [3, 1, 2, 0]`, `b = a[1:3]`
(the window at lag 0 has more energy) -/
example : truthHyp ⟨[4], fun i => if i = [0] then 3 else if i = [1] then 1 else if i = [2] then 2 else 0⟩
    ⟨[2], fun i => if i = [0] then 1 else 2⟩ [1] = false := by decide +kernel

/-! ## an empty background: the estimate is the true translation without a per-case energy condition -/

/-- **the estimate is the true translation on an empty background**, every dimension, no per-case evaluation of window
energies: `b` is the window of zero-extended `a` at `t` and `a` vanishes outside that window (two windows of a scene
that is zero outside their overlap; a tile that holds the only feature of a frame), `a` not identically zero.  Then the
cross-correlation has its unique maximum at `t`, `register a b = t`, `register b a = −t`. -/
theorem register_zero_background (a b : Img) (t : List Int)
    (hpa : ∀ x ∈ a.shape, 0 < x) (hpb : ∀ x ∈ b.shape, 0 < x) (h : zeroBgHyp a b t = true) :
    (∀ l, inLagBox a.shape b.shape l = true → l ≠ t → xcorr a b l < xcorr a b t) ∧
      register a b = t ∧ register b a = t.map (- ·) := by
  obtain ⟨hbox, -, -, i, hi, hA⟩ := (zeroBgHyp_iff a b t).mp h
  obtain ⟨hlen, htl⟩ := inLagBox_length _ _ _ hbox
  have huniq : ∀ l, inLagBox a.shape b.shape l = true → l ≠ t → xcorr a b l < xcorr a b t := by
    intro l hl hne
    have hll := (inLagBox_length _ _ _ hl).2
    rw [xcorr_zero_background a b t l h hll, xcorr_zero_background a b t t h htl, zipWith_sub_self, htl, ← hlen]
    apply xcorr_self_lt a i hi hA
    · simp [List.length_zipWith, hll, htl, hlen]
    · intro e
      apply hne
      apply zipWith_sub_eq_zeros l t (by rw [hll, htl])
      rw [e, htl, hlen]
  exact ⟨huniq, swap_negates a b t hpa hpb hbox huniq⟩

/-- non-vacuity: `a = [0, 1, 2, 0]`, `b = [1, 2, 0]` placed at `1` (sticks out of `a` by one pixel, where it is zero) -/
example : zeroBgHyp ⟨[4], fun i => if i = [1] then 1 else if i = [2] then 2 else 0⟩
    ⟨[3], fun i => if i = [0] then 1 else if i = [1] then 2 else 0⟩ [1] = true := by decide +kernel

/-! ## register, then merge **at the estimate**

`merge_whole` is about windows placed at their true offsets.  The clause of the property ("merging the two images at
the estimated offset reproduces the common scene on their union") composes it with the estimate: the arrays handed to
`overlap_arrays` are the images themselves (`placed`), the second one at `register a b`. -/

section mergeAtEstimate
open Pew.Overlap

/-- **register, then merge at the estimate**: `a` and `b` show one scene (`a` from the origin, `b` from `t`), the
estimate is `t`; then `overlap_arrays([a, b], [0, fft_register_offset(a, b)])` is the scene on the union of the two
images and the fill elsewhere (`replace` and `mean` modes, every fill) -/
theorem merge_at_estimate (m : Mode) (hm : m ≠ .sum) (fill : V) (a b : Img) (t : List Int) (scene : Idx → Rat)
    (ht : t.length = a.shape.length)
    (ha : ∀ n, inBox n a.shape = true → a.get n = scene (n.map Int.ofNat))
    (hb : ∀ n, inBox n b.shape = true → b.get n = scene (List.zipWith (· + ·) (n.map Int.ofNat) t))
    (hreg : register a b = t) :
    overlap false m fill a.shape.length [placed a (List.replicate a.shape.length 0), placed b (register a b)]
      = mergeSpec scene fill a.shape.length
          [window scene (List.replicate a.shape.length 0) a.shape, window scene t b.shape] := by
  rw [hreg]
  have h0 : sameArr (placed a (List.replicate a.shape.length 0)) (window scene (List.replicate a.shape.length 0) a.shape) := by
    apply placed_sameArr a _ scene
    intro n hn
    rw [ha n hn, zipWith_add_zeros _ _ (by rw [List.length_map]; exact inBox_length _ _ hn)]
  have h1 : sameArr (placed b t) (window scene t b.shape) :=
    placed_sameArr b t scene hb
  rw [overlap_congr m fill _ _ _ (List.Forall₂.cons h0 (List.Forall₂.cons h1 List.Forall₂.nil))]
  have := merge_whole m hm fill a.shape.length scene
    [(List.replicate a.shape.length 0, a.shape), (t, b.shape)] (by
      intro w hw
      simp only [List.mem_cons, List.not_mem_nil, or_false] at hw
      rcases hw with rfl | rfl
      · simp
      · exact ht)
  simpa using this

/-- … under the scene hypothesis of `register_truth` -/
theorem register_then_merge (m : Mode) (hm : m ≠ .sum) (fill : V) (a b : Img) (t : List Int) (scene : Idx → Rat)
    (hpa : ∀ x ∈ a.shape, 0 < x) (hpb : ∀ x ∈ b.shape, 0 < x)
    (ha : ∀ n, inBox n a.shape = true → a.get n = scene (n.map Int.ofNat))
    (hb : ∀ n, inBox n b.shape = true → b.get n = scene (List.zipWith (· + ·) (n.map Int.ofNat) t))
    (h : truthHyp a b t = true) :
    overlap false m fill a.shape.length [placed a (List.replicate a.shape.length 0), placed b (register a b)]
      = mergeSpec scene fill a.shape.length
          [window scene (List.replicate a.shape.length 0) a.shape, window scene t b.shape] :=
  merge_at_estimate m hm fill a b t scene (inLagBox_lag_length ((truthHyp_iff a b t).mp h).1) ha hb
    (register_truth a b t hpa hpb h).2.1

/-- … on an empty background (`register_zero_background`) -/
theorem register_then_merge_zero_background (m : Mode) (hm : m ≠ .sum) (fill : V) (a b : Img) (t : List Int)
    (scene : Idx → Rat) (hpa : ∀ x ∈ a.shape, 0 < x) (hpb : ∀ x ∈ b.shape, 0 < x)
    (ha : ∀ n, inBox n a.shape = true → a.get n = scene (n.map Int.ofNat))
    (hb : ∀ n, inBox n b.shape = true → b.get n = scene (List.zipWith (· + ·) (n.map Int.ofNat) t))
    (h : zeroBgHyp a b t = true) :
    overlap false m fill a.shape.length [placed a (List.replicate a.shape.length 0), placed b (register a b)]
      = mergeSpec scene fill a.shape.length
          [window scene (List.replicate a.shape.length 0) a.shape, window scene t b.shape] :=
  merge_at_estimate m hm fill a b t scene (inLagBox_lag_length ((zeroBgHyp_iff a b t).mp h).1) ha hb
    (register_zero_background a b t hpa hpb h).2.1

/-- … **whenever the driver's `peak` has a positive margin and sits at the true translation** — the condition under
which `c12.py` compares the merge clause (it demands a 5 % margin) -/
theorem register_then_merge_peak (m : Mode) (hm : m ≠ .sum) (fill : V) (a b : Img) (pk : Peak) (scene : Idx → Rat)
    (hpa : ∀ x ∈ a.shape, 0 < x) (hpb : ∀ x ∈ b.shape, 0 < x)
    (ha : ∀ n, inBox n a.shape = true → a.get n = scene (n.map Int.ofNat))
    (hb : ∀ n, inBox n b.shape = true → b.get n = scene (List.zipWith (· + ·) (n.map Int.ofNat) pk.lag))
    (h : peak a b = some pk) (hmar : ∀ r, pk.runnerUp = some r → r < pk.value) :
    overlap false m fill a.shape.length [placed a (List.replicate a.shape.length 0), placed b (register a b)]
      = mergeSpec scene fill a.shape.length
          [window scene (List.replicate a.shape.length 0) a.shape, window scene pk.lag b.shape] := by
  have hbox := (peak_margin_unique a b pk h hmar).1
  exact merge_at_estimate m hm fill a b pk.lag scene
    (inLagBox_lag_length hbox) ha hb (peak_margin_register a b pk hpa hpb h hmar).1

/-- non-vacuity: `a = [0, 1, 2, 0]`, `b = [1, 2]` cut at `1` from the scene `p ↦ a[p]`: merged at the estimate in
replace mode with a NaN fill the result is `a` -/
example : overlap false .replace none 1
    [placed ⟨[4], fun i => if i = [1] then 1 else if i = [2] then 2 else 0⟩ [0],
     placed ⟨[2], fun i => if i = [0] then 1 else 2⟩
       (register ⟨[4], fun i => if i = [1] then 1 else if i = [2] then 2 else 0⟩ ⟨[2], fun i => if i = [0] then 1 else 2⟩)]
    = ([4], [some 0, some 1, some 2, some 0]) := by decide +kernel

end mergeAtEstimate

end Pew.Register
