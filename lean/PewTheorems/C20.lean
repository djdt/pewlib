import PewProofs.Cli

/-! The theorems of property C20: what `pewlib/__main__.py` leaves behind is what the specification says.  The
equations behind them (`run a = specRun a` and its parts) stand in `PewProofs/Cli*.lean`; here they are said in the
terms of the property: sameness of images inside their shape (`GridEq` … `RunEq`), where every file goes, and what a
user finds input by input.  Four registered theorems stand in the proof modules: `configOf_spec`, `load_eq_spec`
(PewProofs/CliLoad.lean), `restrict_spec`, `save_spec` (PewProofs/Cli.lean). -/
namespace Pew.Cli

/-- Stacking any non-empty list of images — of any, differing, sizes — succeeds and gives the sum of
the sizes along the stacking axis and the largest size along the other axis. -/
theorem stack_shape {α} (o : Orient) (pad : α) (ds : List (Grid α)) (hne : ds ≠ []) :
    ∃ g, stack o pad ds = some g ∧
      g.h = (match o with
        | .vertical => (ds.map (·.h)).sum
        | .horizontal => maxOf (ds.map (·.h))) ∧
      g.w = (match o with
        | .vertical => maxOf (ds.map (·.w))
        | .horizontal => (ds.map (·.w)).sum) :=
  ⟨_, stack_eq_stackSpec o pad ds hne, by cases o <;> rfl, by cases o <;> rfl⟩

/-- Vertical stacking: input `k` appears unchanged from row `h₀ + … + h_{k-1}` on, columns beyond
its own width hold the pad value. -/
theorem stack_pixel_vertical {α} (pad : α) (ds : List (Grid α)) (g : Grid α)
    (hs : stack .vertical pad ds = some g) (k : Nat) (hk : k < ds.length) (i j : Nat)
    (hi : i < ds[k].h) :
    g.get (prefixSum (ds.map (·.h)) k + i) j = if j < ds[k].w then ds[k].get i j else pad :=
  stack_pixel .vertical pad ds g hs k hk i j hi

/-- Horizontal stacking: input `k` appears unchanged from column `w₀ + … + w_{k-1}` on, rows beyond
its own height hold the pad value. -/
theorem stack_pixel_horizontal {α} (pad : α) (ds : List (Grid α)) (g : Grid α)
    (hs : stack .horizontal pad ds = some g) (k : Nat) (hk : k < ds.length) (i j : Nat)
    (hj : j < ds[k].w) :
    g.get i (prefixSum (ds.map (·.w)) k + j) = if i < ds[k].h then ds[k].get i j else pad :=
  stack_pixel .horizontal pad ds g hs k hk j i hj

/-- The stacked positions tile the stacking axis: every position below the total size lies in
exactly one input (`r = prefixSum sizes k + i` with `i < sizes[k]` has one solution), so the two
pixel theorems describe every pixel of the result. -/
theorem stack_position_unique (sizes : List Nat) (r : Nat) (hr : r < sizes.sum) :
    ∃ k i, (∃ hk : k < sizes.length, i < sizes[k] ∧ r = prefixSum sizes k + i) ∧
      ∀ k' i', (∃ hk' : k' < sizes.length, i' < sizes[k'] ∧ r = prefixSum sizes k' + i') →
        k' = k ∧ i' = i := by
  obtain ⟨k, i, hl, hk, hi, hr'⟩ := locate_some sizes r hr
  refine ⟨k, i, ⟨hk, hi, hr'⟩, ?_⟩
  rintro k' i' ⟨hk', hi', hr''⟩
  have := locate_prefixSum_add sizes k' i' hk' hi'
  rw [← hr'', hl] at this
  simp only [Option.some.injEq, Prod.mk.injEq] at this
  exact ⟨this.1.symm, this.2.symm⟩

/-- The mechanism equals the specification `stackSpec` (every input unchanged at its stacked
position, the pad value everywhere else) in shape and at every pixel, both orientations, any number
of inputs of any sizes. -/
theorem stack_eq_spec {α} (o : Orient) (pad : α) (ds : List (Grid α)) (g : Grid α)
    (hs : stack o pad ds = some g) :
    g.h = (stackSpec o pad ds).h ∧ g.w = (stackSpec o pad ds).w ∧
      ∀ r c, r < g.h → c < g.w → g.get r c = (stackSpec o pad ds).get r c :=
  eq_stackSpec_of_stack hs ▸ GridEq.refl _

/-- Regression witness for 802513a: the earlier padding (common size and pad amount taken from the
stacking axis) cannot stack a 3x4 image over a 5x2 image — the padded widths are 6 and 2 — while
the current code does. -/
theorem stack_pad_axis_regression {α} (pad : α) (a b : Grid α)
    (ha : a.h = 3 ∧ a.w = 4) (hb : b.h = 5 ∧ b.w = 2) :
    stackOld .vertical pad [a, b] = none ∧ (stack .vertical pad [a, b]).isSome = true := by
  obtain ⟨ah, aw, ag⟩ := a
  obtain ⟨bh, bw, bg⟩ := b
  obtain ⟨rfl, rfl⟩ := ha
  obtain ⟨rfl, rfl⟩ := hb
  exact ⟨rfl, rfl⟩

/-- non-vacuity: a 3x4 image over a 5x2 image; the pixel (1,1) of the second input sits at row
3 + 1, and column 3 of that row is padding -/
example :
    let a : Grid Int := { h := 3, w := 4, get := fun i j => 10 * i + j }
    let b : Grid Int := { h := 5, w := 2, get := fun i j => 100 + 10 * i + j }
    ∃ g, stack .vertical (-1) [a, b] = some g ∧ g.h = 8 ∧ g.w = 4 ∧
      g.get (prefixSum [3, 5] 1 + 1) 1 = 111 ∧ g.get 4 3 = -1 := by
  refine ⟨_, rfl, rfl, rfl, ?_, ?_⟩ <;> decide +kernel

/-- The output-path derivation of the code (two `parser.error` checks, then omitted / directory /
file) equals the specification: beside every input, inside the requested directory under the input's
stem, or exactly the requested file; every other combination is a usage error (no path at all). -/
theorem outputs_spec (isStack : Bool) (inputs : List Path) (format : String) (output : Option Path)
    (isDir : Path → Bool) :
    deriveOutputs isStack inputs format output isDir =
      match specOutputs isStack inputs format output isDir with
      | some outs => .ok outs
      | none => .error .usage :=
  deriveOutputs_eq_spec isStack inputs format output isDir

/-- convert / filter: one output per input, in input order; beside the input when `--output` is
omitted, inside the requested existing directory, or equal to the requested file (then there is one
input and the suffix matches the format up to case). -/
theorem outputs_placed (inputs : List Path) (format : String) (output : Option Path)
    (isDir : Path → Bool) (outs : List Path) (hne : inputs ≠ [])
    (h : deriveOutputs false inputs format output isDir = .ok outs) :
    outs.length = inputs.length ∧
    ∀ k (h1 : k < outs.length) (h2 : k < inputs.length),
      match output with
      | none => outs[k].dir = inputs[k].dir ∧ outs[k].name = inputs[k].stem ++ format
      | some o =>
        if isDir o then outs[k].dir = o.full ∧ outs[k].name = inputs[k].stem ++ format
        else outs[k] = o ∧ lower o.suffix = format := by
  refine ⟨(deriveOutputs_ok h).length_eq hne, fun k h1 h2 => ?_⟩
  cases deriveOutputs_ok h with
  | beside => simp only [List.getElem_map, Path.name, and_self]
  | inside o _ hd => simp only [List.getElem_map, Path.name, hd, if_true, and_self]
  | file o hd _ hsfx =>
    simp [hd, hsfx]

/-- stack: the single output is the requested file, which is not a directory and whose suffix
matches the format up to case. -/
theorem outputs_stack (inputs : List Path) (format : String) (output : Option Path)
    (isDir : Path → Bool) (outs : List Path)
    (h : deriveOutputs true inputs format output isDir = .ok outs) :
    ∃ o, output = some o ∧ isDir o = false ∧ lower o.suffix = format ∧ outs = [o] :=
  (deriveOutputs_ok h).of_stack

/-- The rejected combinations, exactly: stack without an output file; a file for several inputs;
a file whose suffix does not match the format.  Each is an error, never a misplaced file. -/
theorem outputs_rejected_iff (isStack : Bool) (inputs : List Path) (format : String)
    (output : Option Path) (isDir : Path → Bool) :
    deriveOutputs isStack inputs format output isDir = .error .usage ↔
      match output with
      | none => isStack = true
      | some o =>
        if isDir o then isStack = true
        else (isStack = false ∧ inputs.length > 1) ∨ lower o.suffix ≠ format := by
  rw [outputs_spec]
  cases output with
  | none => cases isStack <;> simp [specOutputs]
  | some o =>
    by_cases hd : isDir o = true
    · cases isStack <;> simp [specOutputs, hd]
    · by_cases hs : lower o.suffix = format <;> by_cases hl : inputs.length ≤ 1 <;>
        cases isStack <;> simp [specOutputs, hd, hs, hl] <;> omega

/-- non-vacuity: two inputs into an existing directory; a file for two inputs is rejected -/
example :
    let a : Path := ⟨"R/in", "a", ".txt"⟩
    let b : Path := ⟨"R", "x.v2", ".NPZ"⟩
    let d : Path := ⟨"R", "out", ".d"⟩
    deriveOutputs false [a, b] ".npz" (some d) (fun p => p == d)
        = .ok [⟨"R/out.d", "a", ".npz"⟩, ⟨"R/out.d", "x.v2", ".npz"⟩] ∧
      deriveOutputs false [a, b] ".npz" (some ⟨"R", "res", ".npz"⟩) (fun p => p == d) = .error .usage ∧
      deriveOutputs true [a, b] ".npz" (some ⟨"R", "res", ".NPZ"⟩) (fun p => p == d) = .ok [⟨"R", "res", ".NPZ"⟩] := by
  refine ⟨?_, ?_, ?_⟩ <;> decide +kernel

/-- **When do two derived outputs coincide?**  convert / filter with `--output` omitted: exactly
when the two inputs have the same directory and stem (`a.txt` and `a.npz` in one directory; one path
named twice); into an existing directory: exactly when they have the same stem (`s1/a.npz` and
`s2/a.npz`).  In every other case each input has its own output. -/
theorem outputs_coincide_iff (inputs : List Path) (format : String) (output : Option Path)
    (isDir : Path → Bool) (outs : List Path) (hd : ∀ o, output = some o → isDir o = true)
    (h : deriveOutputs false inputs format output isDir = .ok outs)
    (j k : Nat) (hj : j < inputs.length) (hk : k < inputs.length) :
    ∃ (hj' : j < outs.length) (hk' : k < outs.length),
      (outs[j] = outs[k] ↔
        match output with
        | none => inputs[j].dir = inputs[k].dir ∧ inputs[j].stem = inputs[k].stem
        | some _ => inputs[j].stem = inputs[k].stem) := by
  cases deriveOutputs_ok h with
  | beside =>
    refine ⟨by simpa using hj, by simpa using hk, ?_⟩
    simp only [List.getElem_map, Path.mk.injEq, and_true]
  | inside o =>
    refine ⟨by simpa using hj, by simpa using hk, ?_⟩
    simp only [List.getElem_map, Path.mk.injEq, and_true, true_and]
  | file o hf => cases (hd o rfl).symm.trans hf

/-- the property's reading of `restrict_spec` for an image that is kept: its elements, its data, its
configuration (when it is skipped: `restrict_skips_iff`) -/
theorem restrict_keeps (config : Option Cfg) (req : List String) (l l' : Laser)
    (h : convertStep config (some req) l = some l') :
    l'.elements = l.elements.filter (fun e => req.contains e) ∧ (∀ e, l'.field e = l.field e) ∧
      l'.config = config.getD l.config := by
  rw [restrict_spec] at h
  simp only [restrictSpec] at h
  split at h
  · cases h
  · cases h
    exact ⟨rfl, fun _ => rfl, rfl⟩

theorem restrict_skips_iff (config : Option Cfg) (req : List String) (l : Laser) :
    convertStep config (some req) l = none ↔ ∀ e ∈ l.elements, e ∉ req := by
  rw [restrict_spec, restrictSpec]
  simp only [ite_eq_left_iff, reduceCtorEq, imp_false, not_not, List.filter_eq_nil_iff, List.contains_iff_mem]

/-- non-vacuity: elements A, B, C restricted to (C, A) keeps A, C in the image's order -/
example :
    let l : Laser := { elements := ["A", "B", "C"], data := ⟨1, 1, fun _ _ _ => 0⟩, config := .raster 1 2 3 }
    (convertStep none (some ["C", "A"]) l).map (·.elements) = some ["A", "C"] ∧
      (convertStep none (some ["D"]) l).isNone = true := by
  constructor <;> decide +kernel

/-- non-vacuity for the configuration classes: `--config` on a spot-wise image (a `SpotConfig`, two
spacings) stores the explicit raster parameters and nothing of the loaded configuration; without
`--config` the spot configuration is the one stored -/
example :
    let l : Laser := { elements := ["A", "B"], data := ⟨1, 1, fun _ _ _ => 0⟩, config := .spot 25 40 }
    (convertStep (some (.raster 10 20 5)) none l).map (·.config) = some (.raster 10 20 5) ∧
      (convertStep (some (.raster 10 20 5)) (some ["B"]) l).map (·.config) = some (.raster 10 20 5) ∧
      (convertStep none (some ["A"]) l).map (·.config) = some (.spot 25 40) := by
  refine ⟨?_, ?_, ?_⟩ <;> decide +kernel

/-- what `filterSpec` (the image `filter_output` and `run_refines_spec` speak of) is, read off its
definition: names, configuration and shape of the input; a selected element holds the filter of the
original element, every other element the original values -/
theorem filterSpec_reads (f : String → Grid Tok → Grid Tok) (sel : Option (List String)) (l : Laser) :
    (filterSpec f sel l).elements = l.elements ∧ (filterSpec f sel l).config = l.config ∧
    (filterSpec f sel l).data.h = l.data.h ∧ (filterSpec f sel l).data.w = l.data.w ∧
    ∀ i j n, (filterSpec f sel l).data.get i j n =
      if selected sel l n = true then (f n (l.field n)).get i j else l.data.get i j n :=
  ⟨rfl, rfl, rfl, rfl, filterSpec_get f sel l⟩

example : (filterSpec (fun _ g => { g with get := fun i j => g.get i j + 10 }) (some ["B", "Z"])
    { elements := ["A", "B"], data := ⟨1, 1, fun _ _ n => if n = "A" then 1 else 2⟩, config := .raster 1 2 3 }).data.get 0 0 "B" = 12 := by
  decide

/-- Filtering changes only the selected elements that the image has — each becomes the filter of
the original field, whatever the order of the names — and leaves names, configuration, shape and the
other fields as they are (the calibrations too: `filter_eq_spec`).  Hypotheses: field names are
distinct (NumPy guarantees it) and `--elements` has no repeated name (a repeated name would be
filtered twice by the loop). -/
theorem filter_only_selected (f : String → Grid Tok → Grid Tok) (sel : Option (List String)) (l : Laser)
    (hnd : l.elements.Nodup) (hsel : ∀ s, sel = some s → s.Nodup) :
    (filterStep f sel l).elements = l.elements ∧ (filterStep f sel l).config = l.config ∧
    (filterStep f sel l).data.h = l.data.h ∧ (filterStep f sel l).data.w = l.data.w ∧
    ∀ i j n, (filterStep f sel l).data.get i j n =
      if selected sel l n = true then (f n (l.field n)).get i j else l.data.get i j n :=
  filterStep_eq_filterSpec f sel l hnd hsel ▸ filterSpec_reads f sel l

/-- non-vacuity: the hypotheses hold for a two-element image with `--elements B Z` (Z is requested
for another input); B is filtered, A is not -/
example :
    let l : Laser := { elements := ["A", "B"], data := ⟨1, 1, fun _ _ n => if n = "A" then 1 else 2⟩, config := .raster 1 2 3 }
    let f : String → Grid Tok → Grid Tok := fun _ g => { g with get := fun i j => g.get i j + 10 }
    l.elements.Nodup ∧ (["B", "Z"] : List String).Nodup ∧
      (filterStep f (some ["B", "Z"]) l).data.get 0 0 "B" = 12 ∧
      (filterStep f (some ["B", "Z"]) l).data.get 0 0 "A" = 1 := by
  refine ⟨by decide, by decide, by decide, by decide⟩

/-- `filter_only_selected` said with `LaserEq`: the filter loop of the code leaves the image the
specification describes. -/
theorem filter_eq_spec (f : String → Grid Tok → Grid Tok) (sel : Option (List String)) (l : Laser)
    (hnd : l.elements.Nodup) (hsel : ∀ s, sel = some s → s.Nodup) :
    LaserEq (filterStep f sel l) (filterSpec f sel l) :=
  filterStep_eq_filterSpec f sel l hnd hsel ▸ LaserEq.refl _

example : lower (⟨"R", "res", ".NPZ"⟩ : Path).suffix ∈ validFormats := by decide +kernel

/-- Never a misplaced file: when the arguments are rejected nothing is written and the run fails;
otherwise every file the run writes — whatever the command, also when it stops part way — is one of
the derived outputs (see `outputs_placed` / `outputs_stack` for where those are) or one of its
per-element text images `<stem>_<element><suffix>` beside it. -/
theorem run_placed (a : Args) :
    match parse a with
    | .error _ => (run a).status = .error ∧ (run a).files = []
    | .ok outs => ∀ f ∈ (run a).files, ∃ o ∈ outs, placedAt f o := by
  cases hp : parse a with
  | error e => simp [run, hp]
  | ok outs =>
    dsimp only
    have nothing : ∀ f ∈ ([] : List File), ∃ o ∈ outs, placedAt f o := fun _ h => (List.not_mem_nil h).elim
    cases hns : a.cmd.isStack
    · rw [run_eq_loop hp hns]
      exact loop_placed a.cmd hns outs _ [] (fun x hx => (mem_of_mem_enum_zip hx).2) nothing
    · cases hc : a.cmd with
      | stack o pad =>
        rw [run_stack_eq hc hp]
        cases stackLasersSpec o pad (a.inputs.map (·.laser)) with
        | none => exact nothing
        | some l =>
          cases outs with
          | nil => exact nothing
          | cons out rest => exact fun f hf => ⟨out, List.mem_cons_self, specFiles_placed _ l out f hf⟩
      | _ => rw [hc] at hns; cases hns

/-- `stack_eq_spec` lifted to images: stacking fails exactly when the specification has no result
(no inputs, or inputs with different element lists); otherwise the result has the elements and the
configuration of the first input and the data `stackSpec` describes. -/
theorem stack_lasers_eq_spec (o : Orient) (pad : Tok) (ls : List Laser) :
    match stackLasers o pad ls, stackLasersSpec o pad ls with
    | some l, some l' => LaserEq l l'
    | none, none => True
    | _, _ => False := by
  rw [stackLasers_eq_spec]
  cases stackLasersSpec o pad ls with
  | none => trivial
  | some l => exact LaserEq.refl l

/-- **The loop, run to the end.**  When every output that is written to has a supported suffix, the
loop of `convert` / `filter` ends with status ok having written, for every input in order, the files
the specification names: the image the library calls give (restricted / reconfigured / filtered;
skipped inputs give nothing) in the format of the output's suffix. -/
theorem loop_refines_spec (cmd : Cmd) (hcmd : cmd.isStack = false)
    (work : List (Nat × Laser × Path))
    (hnd : ∀ f sel, cmd = .filter f sel → ∀ x ∈ work, x.2.1.elements.Nodup)
    (hsel : ∀ f s, cmd = .filter f (some s) → s.Nodup)
    (hsuf : ∀ x ∈ work, specStep cmd x.1 x.2.1 ≠ none → lower x.2.2.suffix ∈ validFormats) :
    RunEq (loop cmd work []) ⟨.ok, work.flatMap (specItem cmd)⟩ :=
  loop_all cmd hcmd hsel work hnd hsuf ▸ RunEq.refl _

/-- **Partial failure.**  When the first output with an unsupported suffix (of an input that is not
skipped) is that of `x`, the run fails there, and what it leaves behind are exactly the files of the
inputs before `x`; nothing of `x` or of later inputs is written. -/
theorem loop_partial_failure (cmd : Cmd) (hcmd : cmd.isStack = false)
    (pre : List (Nat × Laser × Path)) (x : Nat × Laser × Path) (post : List (Nat × Laser × Path))
    (hnd : ∀ f sel, cmd = .filter f sel → ∀ y ∈ pre, y.2.1.elements.Nodup)
    (hsel : ∀ f s, cmd = .filter f (some s) → s.Nodup)
    (hsuf : ∀ y ∈ pre, specStep cmd y.1 y.2.1 ≠ none → lower y.2.2.suffix ∈ validFormats)
    (hx : specStep cmd x.1 x.2.1 ≠ none) (hbad : lower x.2.2.suffix ∉ validFormats) :
    RunEq (loop cmd (pre ++ x :: post) []) ⟨.error, pre.flatMap (specItem cmd)⟩ := by
  rw [loop_prefix cmd hcmd hsel pre (x :: post) [] hnd hsuf]
  obtain ⟨k, l, out⟩ := x
  rw [loop_cons cmd hcmd]
  cases h1 : (stepObj cmd k l).2 with
  | none => exact absurd ((step_none_iff cmd k l).mp h1) hx
  | some l' =>
    dsimp only
    rw [save_bad l' out hbad]
    exact RunEq.refl _

/-- a convert / filter run whose arguments are accepted ends with status ok and leaves, for every
input in order, the files of `specItem` -/
theorem run_nonstack (a : Args)
    (hnd : ∀ f sel, a.cmd = .filter f sel → ∀ i ∈ a.inputs, i.laser.elements.Nodup)
    (hsel : ∀ f s, a.cmd = .filter f (some s) → s.Nodup)
    (outs : List Path) (hp : parse a = .ok outs) (hns : a.cmd.isStack = false) :
    outs.length = a.inputs.length ∧ (∀ o ∈ outs, lower o.suffix = a.format) ∧
    RunEq (run a) ⟨.ok, (enum ((a.inputs.map (·.laser)).zip outs)).flatMap (specItem a.cmd)⟩ := by
  obtain ⟨-, hne, -, hso, hsuf⟩ := parse_ok hp
  have hd := specOutputs_some hso
  rw [hns] at hd
  refine ⟨by simpa using hd.length_eq (by simpa using hne), hsuf, ?_⟩
  rw [run_nonstack_eq a hnd hsel outs hp hns]
  exact RunEq.refl _

/-- **The whole run refines the specification.**  For every command line of `convert`, `filter` and
`stack` — any number of inputs of any shapes, any `--format`, `--output` omitted / directory / file,
`--config`, `--elements`, any (opaque) filter function per input, both orientations, any pad value —
what `main` (the mechanism `run`: argument checks, output derivation, the loop with its skipping and
sequential field assignment, pad-and-concatenate, `save` dispatch on the suffix) leaves behind is what
the specification `specRun` says: the same exit status (usage errors and failed stacks are errors
with no file; everything else is ok), and the same files in the same order — same paths, same kind
(.npz image / per-element .csv text image / .vtk), same element names, configuration, calibrations and shape, and
the same value of every field at every pixel inside the shape (`FilesEq`).

Hypotheses, needed only for `filter` (they are those of `filter_only_selected`; without them the
loop applies the filter twice to a repeated name): the field names of each input are distinct and
`--elements` repeats no name.  None for `convert` and `stack`. -/
theorem run_refines_spec (a : Args)
    (hnd : ∀ f sel, a.cmd = .filter f sel → ∀ i ∈ a.inputs, i.laser.elements.Nodup)
    (hsel : ∀ f s, a.cmd = .filter f (some s) → s.Nodup) :
    RunEq (run a) (specRun a) :=
  run_eq_specRun a hnd hsel ▸ RunEq.refl _

/-- **All or nothing.**  Because the format is validated before anything is written and every
derived output carries it as suffix, a run of the three sub-commands never fails part way: when it
fails it has written nothing (the part-way failure of `loop_partial_failure` needs an output suffix
that `parse` never lets through). -/
theorem run_all_or_nothing (a : Args)
    (hnd : ∀ f sel, a.cmd = .filter f sel → ∀ i ∈ a.inputs, i.laser.elements.Nodup)
    (hsel : ∀ f s, a.cmd = .filter f (some s) → s.Nodup)
    (h : (run a).status = .error) : (run a).files = [] := by
  rw [run_eq_specRun a hnd hsel] at h ⊢
  rcases specRun_error_or_ok a with he | hok
  · rw [he]
  · rw [hok] at h
    cases h

/-! ## what a user finds after a run: input by input -/

theorem run_item_mem (a : Args)
    (hnd : ∀ f sel, a.cmd = .filter f sel → ∀ i ∈ a.inputs, i.laser.elements.Nodup)
    (hsel : ∀ f s, a.cmd = .filter f (some s) → s.Nodup)
    (outs : List Path) (hp : parse a = .ok outs) (hns : a.cmd.isStack = false)
    (k : Nat) (hk : k < a.inputs.length) :
    ∃ hko : k < outs.length, lower outs[k].suffix = a.format ∧ (run a).status = .ok ∧
      ∀ g ∈ specItem a.cmd (k, a.inputs[k].laser, outs[k]), g ∈ (run a).files := by
  obtain ⟨hlen, hsuf, -⟩ := run_nonstack a hnd hsel outs hp hns
  have hko : k < outs.length := by omega
  rw [run_nonstack_eq a hnd hsel outs hp hns]
  refine ⟨hko, hsuf _ (List.getElem_mem hko), rfl, fun g hg => ?_⟩
  have hk' : k < (a.inputs.map (·.laser)).length := by simpa using hk
  have := mem_enum_zip (a.inputs.map (·.laser)) outs k hk' hko
  simp only [List.getElem_map] at this
  exact List.mem_flatMap.mpr ⟨_, this, hg⟩

theorem run_item_written (a : Args)
    (hnd : ∀ f sel, a.cmd = .filter f sel → ∀ i ∈ a.inputs, i.laser.elements.Nodup)
    (hsel : ∀ f s, a.cmd = .filter f (some s) → s.Nodup)
    (outs : List Path) (hp : parse a = .ok outs) (hns : a.cmd.isStack = false)
    (k : Nat) (hk : k < a.inputs.length) :
    ∃ hko : k < outs.length, (run a).status = .ok ∧
      ∀ l', specStep a.cmd k a.inputs[k].laser = some l' → Written (run a).files a.format l' outs[k] := by
  obtain ⟨hko, hsuf, hst, hfiles⟩ := run_item_mem a hnd hsel outs hp hns k hk
  refine ⟨hko, hst, fun l' hl' => written_of_specFiles _ _ _ _ ?_⟩
  simpa only [specItem, hl', hsuf] using hfiles

/-- what input number `k` of an accepted convert / filter run leaves behind: every file the
specification names for it is among the files of the run -/
theorem run_item (a : Args)
    (hnd : ∀ f sel, a.cmd = .filter f sel → ∀ i ∈ a.inputs, i.laser.elements.Nodup)
    (hsel : ∀ f s, a.cmd = .filter f (some s) → s.Nodup)
    (outs : List Path) (hp : parse a = .ok outs) (hns : a.cmd.isStack = false)
    (k : Nat) (hk : k < a.inputs.length) :
    ∃ hko : k < outs.length, lower outs[k].suffix = a.format ∧ (run a).status = .ok ∧
      ∀ g ∈ specItem a.cmd (k, a.inputs[k].laser, outs[k]), ∃ f ∈ (run a).files, FileEq f g := by
  obtain ⟨hko, hsuf, hst, h⟩ := run_item_mem a hnd hsel outs hp hns k hk
  exact ⟨hko, hsuf, hst, fun g hg => ⟨g, h g hg, FileEq.refl g⟩⟩

/-- **convert, input by input.**  When the arguments of a `convert` run are accepted (`parse`), the
run ends with status ok and, for EVERY input `k`, the derived output `outs[k]` (see `outputs_placed`
for where that is) holds the image of input `k` with exactly the requested elements that this input
has, in the image's own order, the data untouched, and the explicit `--config` when one was given —
in the requested format (`Written`: the .npz / .vtk file at `outs[k]`, or one text image per kept
element beside it).  An input that has none of the requested elements is the only one that leaves
nothing (`restrict_skips_iff`). -/
theorem convert_output (a : Args) (cfg : Option Cfg) (els : Option (List String))
    (hc : a.cmd = .convert cfg els) (outs : List Path) (hp : parse a = .ok outs)
    (k : Nat) (hk : k < a.inputs.length) :
    ∃ hko : k < outs.length, (run a).status = .ok ∧
      match els with
      | none =>
        Written (run a).files a.format
          { a.inputs[k].laser with config := cfg.getD a.inputs[k].laser.config } outs[k]
      | some req =>
        a.inputs[k].laser.elements.filter (fun e => req.contains e) ≠ [] →
        Written (run a).files a.format
          { a.inputs[k].laser with
            elements := a.inputs[k].laser.elements.filter (fun e => req.contains e),
            config := cfg.getD a.inputs[k].laser.config } outs[k] := by
  obtain ⟨hko, hst, h⟩ := run_item_written a (by intro f sel h; rw [hc] at h; cases h)
    (by intro f s h; rw [hc] at h; cases h) outs hp (by rw [hc]; rfl) k hk
  refine ⟨hko, hst, ?_⟩
  rw [hc] at h
  cases els with
  | none => exact h _ rfl
  | some req => exact fun hne => h _ (if_neg hne)

/-- **filter, input by input.**  When the arguments of a `filter` run are accepted, the run ends
with status ok and, for EVERY input `k`, the derived output `outs[k]` holds the image `filterSpec`
describes: the element names, configuration, calibrations and shape of input `k`; every selected element that
the input has (all of them without `--elements`; a requested name another input has is skipped)
holds the library filter applied to the ORIGINAL element; every other element is unchanged. -/
theorem filter_output (a : Args) (flt : Nat → String → Grid Tok → Grid Tok) (sel : Option (List String))
    (hc : a.cmd = .filter flt sel)
    (hnd : ∀ i ∈ a.inputs, i.laser.elements.Nodup) (hsel : ∀ s, sel = some s → s.Nodup)
    (outs : List Path) (hp : parse a = .ok outs) (k : Nat) (hk : k < a.inputs.length) :
    ∃ hko : k < outs.length, (run a).status = .ok ∧
      Written (run a).files a.format (filterSpec (flt k) sel a.inputs[k].laser) outs[k] := by
  obtain ⟨hko, hst, h⟩ := run_item_written a (fun _ _ _ => hnd)
    (by intro f s h; rw [hc] at h; cases h; exact hsel s rfl) outs hp (by rw [hc]; rfl) k hk
  exact ⟨hko, hst, h _ (by rw [hc]; rfl)⟩

/-- **stack.**  When the arguments of a `stack` run are accepted and the inputs share their element
names, the run ends with status ok and the single requested output file holds the stacked image
`m`: the element names and the configuration of the FIRST input, and data `stack o pad datas = some
m.data` — so `stack_shape` gives its shape and `stack_pixel_vertical` / `stack_pixel_horizontal` say
where every pixel comes from: input `k`'s pixel `(i, j)` sits at row `h₀ + … + h_{k-1} + i`, column
`j` (vertically; columns and rows swapped horizontally), the pad value everywhere else. -/
theorem stack_output (a : Args) (o : Orient) (pad : Tok) (hc : a.cmd = .stack o pad)
    (outs : List Path) (hp : parse a = .ok outs)
    (l0 : Laser) (rest : List Laser) (hin : a.inputs.map (·.laser) = l0 :: rest)
    (hall : ∀ l ∈ rest, l.elements = l0.elements) :
    ∃ out, a.output = some out ∧ a.isDir out = false ∧ outs = [out] ∧ (run a).status = .ok ∧
      ∃ m : Laser, m.elements = l0.elements ∧ m.config = l0.config ∧ m.calib = l0.calib ∧
        stack o (fun _ => pad) ((l0 :: rest).map (·.data)) = some m.data ∧
        Written (run a).files a.format m out := by
  obtain ⟨-, -, -, hso, -⟩ := parse_ok hp
  have hd := specOutputs_some hso
  rw [hc] at hd
  obtain ⟨out, hout, hdir, -, rfl⟩ := hd.of_stack
  have hallb : ((l0 :: rest).all fun l => l.elements == l0.elements) = true := by
    simp only [List.all_cons, beq_self_eq_true, Bool.true_and, List.all_eq_true, beq_iff_eq]
    exact hall
  have hrun : run a = ⟨.ok, specFiles a.format
      ⟨l0.elements, stackSpec o (fun _ => pad) ((l0 :: rest).map (·.data)), l0.config, l0.calib⟩ out⟩ := by
    rw [run_stack_eq hc hp, hin]
    simp only [stackLasersSpec, hallb, if_true]
  rw [hrun]
  exact ⟨out, hout, hdir, rfl, rfl, ⟨l0.elements, stackSpec o _ _, l0.config, l0.calib⟩, rfl, rfl, rfl,
    stack_eq_stackSpec o _ _ (List.cons_ne_nil _ _), written_of_specFiles _ _ _ _ fun _ h => h⟩

/-- **Nothing else is written**: the paths of the files a run leaves behind are exactly the paths
the specification names, in the same order (so the three theorems above describe every file). -/
theorem run_paths (a : Args)
    (hnd : ∀ f sel, a.cmd = .filter f sel → ∀ i ∈ a.inputs, i.laser.elements.Nodup)
    (hsel : ∀ f s, a.cmd = .filter f (some s) → s.Nodup) :
    (run a).files.map (·.path) = (specRun a).files.map (·.path) :=
  congrArg (fun r => r.files.map (·.path)) (run_eq_specRun a hnd hsel)

/-! ## loading: which library call delivers an input, and with which configuration -/

/-- non-vacuity: a Nu directory (x, y spacing and a scan time that is then dropped), a Thermo CSV or an
Agilent batch (nothing but the scan time), a PerkinElmer directory (all three), a text image (no parameter) -/
example :
    configOf 35 140 25 ⟨some (.two 5 10), none, some 7⟩ = .spot 5 10 ∧
    configOf 35 140 25 ⟨none, none, some 7⟩ = .raster 35 140 7 ∧
    configOf 35 140 25 ⟨some (.one 30), some 100, some 7⟩ = .raster 30 100 7 ∧
    configOf 35 140 25 ⟨none, none, none⟩ = .raster 35 140 25 := by
  refine ⟨?_, ?_, ?_, ?_⟩ <;> decide +kernel

/-- **The rows of the table exclude one another**: for every path at most one row applies, whatever
the library predicates answer — so `table` is a table, not a cascade. -/
theorem table_exclusive (s : Source) : (table.filter (·.guard s)).length ≤ 1 := by
  rw [table_filter]
  cases rowOf s
  · exact Nat.zero_le 1
  · exact Nat.le_refl 1

/-- reading `load_eq_spec` for a successful load: exactly one row of the table applies to the path,
the delivering call is one of its candidates, and the image is what that call gives under the
configuration rule (for an .npz: the stored image itself) -/
theorem load_ok_table (d : Tok × Tok × Tok) (s : Source) (ld : Loader) (l : Laser)
    (h : loadMech d s = .ok (ld, l)) :
    ∃ row ∈ table, row.guard s = true ∧ ld ∈ row.candidates ∧ s.image d ld = .ok l ∧
      ∀ row' ∈ table, row'.guard s = true → row' = row := by
  rw [load_eq_spec] at h
  unfold loadSpec at h
  split at h
  · rename_i row hrow
    have m : ∀ r, r ∈ table ∧ r.guard s = true ↔ r = row := fun r =>
      (List.mem_filter (p := fun x : Row => x.guard s)).symm.trans (hrow ▸ List.mem_singleton)
    obtain ⟨ld', hld', heq⟩ := List.mem_map.mp (choose_ok_mem _ _ ld l h)
    obtain ⟨rfl, himg⟩ := Prod.mk.inj heq
    exact ⟨row, ((m row).mpr rfl).1, ((m row).mpr rfl).2, hld', himg, fun r hr hg => (m r).mp ⟨hr, hg⟩⟩
  · split at h <;> cases h

/-- an input no row of the table applies to is rejected before anything is read: a usage error
(`raise ValueError("unknown extention …")` reaches `parser.error`) — except that a `.csv` file whose
first lines cannot even be sniffed ends as the sniffer's exception dictates -/
theorem load_unsupported (d : Tok × Tok × Tok) (s : Source) (h : ∀ row ∈ table, row.guard s = false) :
    loadMech d s = .error (if !s.isDir && s.sfx == ".csv" && s.sniff.isOther then .crash else .usage) := by
  rw [load_eq_spec]
  unfold loadSpec
  have : table.filter (·.guard s) = [] := by
    rw [List.filter_eq_nil_iff]
    intro row hrow
    simp [h row hrow]
  rw [this]
  simp only
  split <;> rfl

/-- non-vacuity, evaluated: `x.B` is an Agilent batch whose batch log cannot be read (the second
method list delivers); a directory `x.d` with csv files; `x.CSV` with a Thermo header; `x.csv`
without; `x.dat` and an empty directory are not supported -/
example :
    let ld : Loaded := { elements := ["A"], data := ⟨1, 1, fun _ _ _ => 0⟩, params := ⟨none, none, some 7⟩ }
    let src (dir : Bool) (sfx : String) (csv : Bool) (sn : String) (call : Loader → Outcome Loaded) : Source :=
      { path := ⟨"R", "x", sfx⟩, present := true, isDir := dir, perkinValid := false, csvValid := csv,
        sniff := .ok sn, info := .ok (), call := call, npz := .valueError }
    let second : Loader → Outcome Loaded := fun l => if l = .agilent ["acq_method_xml"] then .ok ld else .valueError
    let all : Loader → Outcome Loaded := fun _ => .ok ld
    let who (s : Source) : Option Loader := (loadMech (35, 140, 25) s).toOption.map (·.1)
    who (src true ".B" false "" second) = some (.agilent ["acq_method_xml"]) ∧
    who (src true ".d" true "" all) = some .csvdir ∧
    who (src false ".CSV" false "rows" all) = some .thermo ∧
    who (src false ".csv" false "unknown" all) = some .textimage ∧
    who (src false ".dat" false "" all) = none ∧
    who (src true "" false "" all) = none := by
  refine ⟨?_, ?_, ?_, ?_, ?_, ?_⟩ <;> decide +kernel

/-- **`main` from the paths on refines the specification.**  For every command line — every kind of
input path and every behaviour of the library predicates and loaders (`Source`), `--calibrate`, and
everything `run_refines_spec` covers — `main` as the code runs (`check_exists`; `load` of every input
in order with its dispatch, fallbacks and configuration overlay; `ValueError` caught into
`parser.error`, other exceptions fatal; `--calibrate` not implemented; then the run proper) leaves
what the specification says: the images the TABLE's loaders deliver under the configuration RULE,
processed and written as `specRun` says; a missing or unsupported or unreadable input, or
`--calibrate`, is an error that writes nothing.  Hypotheses as in `run_refines_spec`, on the
loaded images (only for `filter`). -/
theorem main_refines_spec (c : CmdLine)
    (hnd : ∀ f sel, c.cmd = .filter f sel → ∀ ls, c.sources.mapM (loadSpec c.defaults) = .ok ls →
      ∀ x ∈ ls, x.2.elements.Nodup)
    (hsel : ∀ f s, c.cmd = .filter f (some s) → s.Nodup) :
    RunEq (mainRun c) (specMain c) :=
  mainWith_eq c run hnd (fun _ _ hnd' => run_eq_specRun _ hnd' hsel) ▸ RunEq.refl _

/-! ### non-vacuity of the whole-run theorems: concrete runs, evaluated -/
namespace Ex

/-! `filter R/a.npz R/in/b.csv --format .npz --elements B C` over a 1x2 image with elements A, B and
a 2x1 image with elements B, C; the filter of input `k` adds `10 (k + 1)`; no `--output`.  B is
filtered in both, C only where it exists, A is untouched. -/
def exA : Laser := { elements := ["A", "B"], data := ⟨1, 2, fun _ j n => if n = "A" then 1 + j else 3 + j⟩, config := .raster 1 2 3 }
def exB : Laser := { elements := ["B", "C"], data := ⟨2, 1, fun i _ n => if n = "B" then 5 + i else 7 + i⟩, config := .spot 4 5 }
def exF : Nat → String → Grid Tok → Grid Tok := fun k _ g => { g with get := fun i j => g.get i j + 10 * (k + 1) }
def exFilter : Args :=
  { cmd := .filter exF (some ["B", "C"]),
    inputs := [⟨⟨"R", "a", ".npz"⟩, true, exA⟩, ⟨⟨"R/in", "b", ".csv"⟩, true, exB⟩],
    format := ".npz", output := none, isDir := fun _ => false }

example : (run exFilter).status = .ok := by decide +kernel
example : (run exFilter).files.map (·.path) = [⟨"R", "a", ".npz"⟩, ⟨"R/in", "b", ".npz"⟩] := by decide +kernel
example : (run exFilter).files.map (fun f => match f.content with
      | .npz l => [l.data.get 0 0 "A", l.data.get 0 0 "B", l.data.get 0 0 "C"]
      | _ => []) = [[1, 13, 3], [7, 25, 27]] := by decide +kernel

theorem exFilter_nodup : ∀ i ∈ exFilter.inputs, i.laser.elements.Nodup := by decide +kernel

example : RunEq (run exFilter) (specRun exFilter) :=
  run_refines_spec exFilter (fun _ _ _ => exFilter_nodup) (by intro f s h; cases h; decide)

/-! `stack R/a.npz R/b.npz R/c.npz --output R/out.NPZ --pad -1` over images of shapes 1x2, 2x1, 1x3,
vertically (4x3) and horizontally (2x6): elements and configuration of the first input -/
def exS1 : Laser := { elements := ["A"], data := ⟨1, 2, fun _ j _ => 10 + j⟩, config := .raster 1 2 3 }
def exS2 : Laser := { elements := ["A"], data := ⟨2, 1, fun i _ _ => 20 + i⟩, config := .spot 4 5 }
def exS3 : Laser := { elements := ["A"], data := ⟨1, 3, fun _ j _ => 30 + j⟩, config := .raster 7 8 9 }
def exStack (o : Orient) : Args :=
  { cmd := .stack o (-1),
    inputs := [⟨⟨"R", "a", ".npz"⟩, true, exS1⟩, ⟨⟨"R", "b", ".npz"⟩, true, exS2⟩, ⟨⟨"R", "c", ".npz"⟩, true, exS3⟩],
    format := ".npz", output := some ⟨"R", "out", ".NPZ"⟩, isDir := fun _ => false }

example : (run (exStack .vertical)).status = .ok := by decide +kernel
example : (run (exStack .vertical)).files.map (·.path) = [⟨"R", "out", ".NPZ"⟩] := by decide +kernel
example : (run (exStack .vertical)).files.map (fun f => match f.content with
      | .npz l => (l.data.h, l.data.w,
          (List.range l.data.h).map fun i => (List.range l.data.w).map fun j => l.data.get i j "A")
      | _ => (0, 0, [])) =
    [(4, 3, [[10, 11, -1], [20, -1, -1], [21, -1, -1], [30, 31, 32]])] := by decide +kernel
example : (run (exStack .vertical)).files.map (fun f => match f.content with
      | .npz l => some (l.elements, l.config)
      | _ => none) = [some (["A"], .raster 1 2 3)] := by decide +kernel
example : (run (exStack .horizontal)).files.map (fun f => match f.content with
      | .npz l => (l.data.h, l.data.w,
          (List.range l.data.h).map fun i => (List.range l.data.w).map fun j => l.data.get i j "A")
      | _ => (0, 0, [])) =
    [(2, 6, [[10, 11, 20, 30, 31, 32], [-1, -1, 21, -1, -1, -1]])] := by decide +kernel
example (o : Orient) : RunEq (run (exStack o)) (specRun (exStack o)) :=
  run_refines_spec (exStack o) (by intro f sel h; cases o <;> cases h) (by intro f s h; cases o <;> cases h)

/-! `convert R/a.npz R/d.npz S/c.b --format .csv --elements C A --config 7 8 9 --output R/out` (an
existing directory); `d.npz` has none of the requested elements and is skipped; one text image per
kept element, in the image's order -/
def exC : Laser := { elements := ["A", "B", "C"], data := ⟨1, 2, fun _ j n => if n = "A" then 1 + j else if n = "B" then 3 + j else 5 + j⟩, config := .raster 1 2 3 }
def exD : Laser := { elements := ["D"], data := ⟨1, 1, fun _ _ _ => 9⟩, config := .raster 1 2 3 }
def exOut : Path := ⟨"R", "out", ""⟩
def exConvert : Args :=
  { cmd := .convert (some (.raster 7 8 9)) (some ["C", "A"]),
    inputs := [⟨⟨"R", "a", ".npz"⟩, true, exC⟩, ⟨⟨"R", "d", ".npz"⟩, true, exD⟩, ⟨⟨"S", "c", ".b"⟩, true, exC⟩],
    format := ".csv", output := some exOut, isDir := fun p => p == exOut }

example : (run exConvert).status = .ok := by decide +kernel
example : (run exConvert).files.map (·.path) =
    [⟨"R/out", "a_A", ".csv"⟩, ⟨"R/out", "a_C", ".csv"⟩, ⟨"R/out", "c_A", ".csv"⟩, ⟨"R/out", "c_C", ".csv"⟩] := by decide +kernel
example : (run exConvert).files.map (fun f => match f.content with
      | .csv g => (g.h, g.w, (List.range g.h).map fun i => (List.range g.w).map fun j => g.get i j)
      | _ => (0, 0, [])) =
    [(1, 2, [[1, 2]]), (1, 2, [[5, 6]]), (1, 2, [[1, 2]]), (1, 2, [[5, 6]])] := by decide +kernel
example : RunEq (run exConvert) (specRun exConvert) :=
  run_refines_spec exConvert (by intro f sel h; cases h) (by intro f s h; cases h)
/-- an element no input has is a usage error, nothing is written -/
example : (run { exConvert with cmd := .convert none (some ["A", "Z"]) }).status = .error ∧
    (run { exConvert with cmd := .convert none (some ["A", "Z"]) }).files.length = 0 := by decide +kernel

/-- partial failure: the second of three outputs has a suffix `save` does not know -/
example :
    let work : List (Nat × Laser × Path) :=
      [(0, exC, ⟨"R", "a", ".NPZ"⟩), (1, exC, ⟨"R", "b", ".txt"⟩), (2, exC, ⟨"R", "c", ".npz"⟩)]
    (loop (.convert none none) work []).status = .error ∧
      (loop (.convert none none) work []).files.map (·.path) = [⟨"R", "a", ".NPZ"⟩] := by decide +kernel

theorem exConvert_parse :
    parse exConvert = .ok [⟨"R/out", "a", ".csv"⟩, ⟨"R/out", "d", ".csv"⟩, ⟨"R/out", "c", ".csv"⟩] := by decide +kernel

example : (parse exConvert).toOption = some [⟨"R/out", "a", ".csv"⟩, ⟨"R/out", "d", ".csv"⟩, ⟨"R/out", "c", ".csv"⟩] :=
  congrArg Except.toOption exConvert_parse
example : ∃ outs, parse exConvert = .ok outs ∧ 2 < exConvert.inputs.length := ⟨_, exConvert_parse, by decide⟩
/-- input 2 (`S/c.b`) of the convert run: the text images of A and C in `R/out` -/
example : ∀ n ∈ ["A", "C"], ∃ f ∈ (run exConvert).files, f.path = ⟨"R/out", "c_" ++ n, ".csv"⟩ ∧
    ∃ g, f.content = .csv g ∧ GridEq g (exC.field n) := by
  obtain ⟨_, _, h⟩ := convert_output exConvert _ _ rfl _ exConvert_parse 2 (by decide)
  exact (h (by decide)).2.2 rfl
/-- input 1 (`R/in/b.csv`) of the filter run -/
example : ∃ f ∈ (run exFilter).files, f.path = ⟨"R/in", "b", ".npz"⟩ ∧
    ∃ m, f.content = .npz m ∧ LaserEq m (filterSpec (exF 1) (some ["B", "C"]) exB) := by
  obtain ⟨_, _, h⟩ := filter_output exFilter _ _ rfl exFilter_nodup
    (by intro s h; cases h; decide) _ (rfl : parse exFilter = .ok _) 1 (by decide)
  exact h.1 rfl
/-- the stack run -/
example (o : Orient) : ∃ m : Laser, m.config = .raster 1 2 3 ∧
    stack o (fun _ => -1) [exS1.data, exS2.data, exS3.data] = some m.data ∧
    ∃ f ∈ (run (exStack o)).files, f.path = ⟨"R", "out", ".NPZ"⟩ ∧ ∃ m', f.content = .npz m' ∧ LaserEq m' m := by
  obtain ⟨out, ho, _, _, _, m, _, hcfg, _, hst, hw⟩ := stack_output (exStack o) o (-1) rfl _
    (by cases o <;> rfl : parse (exStack o) = .ok [⟨"R", "out", ".NPZ"⟩]) exS1 [exS2, exS3] rfl (by decide)
  cases ho
  exact ⟨m, hcfg, hst, hw.1 rfl⟩

/-! `main` from the paths on: `stack x.B a.npz --output R/out.npz` where the batch log of `x.B` cannot be
read (the second method list delivers, scan time 7 from the loader) -/
def exLoaded : Loaded := { elements := ["A"], data := ⟨1, 2, fun _ j _ => 10 + j⟩, params := ⟨none, none, some 7⟩ }
def exSrcB : Source :=
  { path := ⟨"R", "x", ".B"⟩, present := true, isDir := true, perkinValid := false, csvValid := false,
    sniff := .valueError, info := .ok (), npz := .valueError,
    call := fun l => if l = .agilent ["acq_method_xml"] then .ok exLoaded else .valueError }
def exSrcNpz : Source :=
  { path := ⟨"R", "a", ".npz"⟩, present := true, isDir := false, perkinValid := false, csvValid := false,
    sniff := .valueError, info := .ok (), npz := .ok exS2, call := fun _ => .otherError }
def exMain (calibrate : Bool) : CmdLine :=
  { cmd := .stack .vertical (-1), calibrate := calibrate, sources := [exSrcB, exSrcNpz], format := ".npz",
    output := some ⟨"R", "out", ".npz"⟩, isDir := fun _ => false, defaults := (35, 140, 25) }
example : (mainRun (exMain false)).status = .ok := by decide +kernel
example : (mainRun (exMain false)).files.map (fun f => match f.content with
      | .npz l => some (l.elements, l.config, l.data.h, l.data.w)
      | _ => none) = [some (["A"], .raster 35 140 7, 3, 2)] := by decide +kernel
example : (mainRun (exMain true)).status = .error ∧ (mainRun (exMain true)).files.length = 0 := by decide +kernel
example (b : Bool) : RunEq (mainRun (exMain b)) (specMain (exMain b)) :=
  main_refines_spec (exMain b) (by intro f sel h; cases b <;> cases h) (by intro f s h; cases b <;> cases h)

end Ex

/-! ## storage types: stacking inputs whose fields are stored in different types -/

/-- **Stacking with storage types.**  `np.pad` holds the pad value in each input's own field types,
`np.concatenate` converts every padded input to the promoted types.  When every input's types and
the promoted types hold the pad value (`hpad`, `hout`) and the conversion to the promoted types
changes no value of any input (`hval`: promotion loses nothing — float32 or int32 beside float64,
whichever comes first), the stacked image is the specification's: every input unchanged at its
stacked position, the pad value everywhere else. -/
theorem stackT_eq_spec (C : Casting) (o : Orient) (pad : Tok) (ds : List (Grid Px × (String → DType)))
    (g : Grid Px)
    (hpad : ∀ d ∈ ds, ∀ n, C.cast (d.2 n) pad = pad)
    (hout : ∀ n, C.cast (C.promote (ds.map (·.2 n))) pad = pad)
    (hval : ∀ d ∈ ds, ∀ i j, i < d.1.h → j < d.1.w → ∀ n,
      C.cast (C.promote (ds.map (·.2 n))) (d.1.get i j n) = d.1.get i j n)
    (hs : stackT C o pad ds = some g) :
    GridEq g (stackSpec o (fun _ => pad) (ds.map (·.1))) := by
  rw [stackT_eq_stack C o pad ds hpad hout hval] at hs
  exact eq_stackSpec_of_stack hs ▸ GridEq.refl _

/-- the typed stack of a non-empty list succeeds; `hpad` is not needed (success is a matter of shapes) -/
theorem stackT_some (C : Casting) (o : Orient) (pad : Tok) (ds : List (Grid Px × (String → DType)))
    (hne : ds ≠ []) (hpad : ∀ d ∈ ds, ∀ n, C.cast (d.2 n) pad = pad) :
    ∃ g, stackT C o pad ds = some g := by
  rw [stackT_eq]
  refine (concat_locate o _ (maxOf (ds.map (o.oth ·.1))) ?_ ?_).imp fun _ h => h.1
  · simpa using hne
  · intro g hg
    obtain ⟨d, hd, rfl⟩ := List.mem_map.mp hg
    have := (o.padTo_spec (castPx C d.2 fun _ => pad) (le_maxOf _ _ (List.mem_map_of_mem (f := (o.oth ·.1)) hd))).2.1
    cases o <;> exact this

namespace Ex
/-- two storage types: "i" holds multiples of ten only (a stand-in for an integer or float32 field), "f" everything;
joined fields are "f" as soon as one of them is -/
def exCast : Casting :=
  { cast := fun t v => if t = "i" then v / 10 * 10 else v,
    promote := fun ts => if ts.contains "f" then "f" else "i" }
def exNarrow : Grid Px × (String → DType) := (⟨1, 2, fun _ j _ => 20 + 10 * j⟩, fun _ => "i")
def exWide : Grid Px × (String → DType) := (⟨1, 1, fun _ _ _ => 25⟩, fun _ => "f")

theorem exCast_zero (t : DType) : exCast.cast t 0 = 0 := by
  show (if t = "i" then (0 : Int) / 10 * 10 else 0) = 0
  split <;> rfl

theorem exCast_wide (v : Tok) : exCast.cast "f" v = v := rfl

/-- non-vacuity of `stackT_eq_spec`: a narrow input first, a wide one after it, pad value 0: all hypotheses
hold and the wide input's 25 is in the result -/
example :
    (∀ d ∈ [exNarrow, exWide], ∀ n, exCast.cast (d.2 n) 0 = 0) ∧
    (∀ n, exCast.cast (exCast.promote ([exNarrow, exWide].map (·.2 n))) 0 = 0) ∧
    (∀ d ∈ [exNarrow, exWide], ∀ i j, i < d.1.h → j < d.1.w → ∀ n,
      exCast.cast (exCast.promote ([exNarrow, exWide].map (·.2 n))) (d.1.get i j n) = d.1.get i j n) ∧
    ((stackT exCast .vertical 0 [exNarrow, exWide]).map fun g =>
      (g.h, g.w, g.get 0 0 "A", g.get 0 1 "A", g.get 1 0 "A", g.get 1 1 "A")) = some (2, 2, 20, 30, 25, 0) := by
  exact ⟨fun _ _ _ => exCast_zero _, fun _ => exCast_zero _, fun _ _ _ _ _ _ _ => exCast_wide _, by decide +kernel⟩
end Ex

/-- **Regression witness for the seeded change C20-c2** (output preallocated in the FIRST input's
types): with a narrow first input the later, wider input is not unchanged — the 25 of `exWide` comes
out as 20 — while the code as it is (`stackT`: promoted types) keeps it. -/
theorem stack_first_type_regression :
    ((stackFirstT Ex.exCast .vertical 0 [Ex.exNarrow, Ex.exWide]).map fun g => g.get 1 0 "A") = some 20 ∧
    ((stackT Ex.exCast .vertical 0 [Ex.exNarrow, Ex.exWide]).map fun g => g.get 1 0 "A") = some 25 ∧
    (stackSpec .vertical (fun _ => 0) [Ex.exNarrow.1, Ex.exWide.1]).get 1 0 "A" = 25 := by
  refine ⟨?_, ?_, ?_⟩ <;> decide +kernel

/-- `stackT_eq_spec` lifted to images (compare `stack_lasers_eq_spec`): under the three conditions on
the storage types — every input's own types hold the pad value, the promoted types hold it, and the
promotion changes no value of any input — stacking the loaded images with their types gives the
specification's image (elements, configuration and calibrations of the first input), and fails
exactly when the specification has no result. -/
theorem stack_lasers_typed_eq_spec (C : Casting) (o : Orient) (pad : Tok) (ls : List Laser)
    (ty : Nat → String → DType)
    (hpad : ∀ k, k < ls.length → ∀ n, C.cast (ty k n) pad = pad)
    (hout : ∀ n, C.cast (promotedType C ty ls.length n) pad = pad)
    (hval : ∀ k (hk : k < ls.length) i j, i < ls[k].data.h → j < ls[k].data.w → ∀ n,
      C.cast (promotedType C ty ls.length n) (ls[k].data.get i j n) = ls[k].data.get i j n) :
    match stackLasersT C o pad ((enum ls).map fun x => (x.2, ty x.1)), stackLasersSpec o pad ls with
    | some l, some l' => LaserEq l l'
    | none, none => True
    | _, _ => False := by
  rw [stackLasersT_enum_eq_spec C o pad ls ty hpad hout hval]
  cases stackLasersSpec o pad ls with
  | none => trivial
  | some l => exact LaserEq.refl l

/-- **The whole run with storage types refines the specification.**  `runT` is `main` with the
storage types of the loaded images: `filter` stores every result in its field (converted to the
field's type), `stack` holds the pad value in each input's types and converts everything to the
promoted types, `convert` moves no value.  It leaves what the specification `specRun` says — which
knows no storage types: the library filter of the loaded element, every input unchanged at its
stacked position, the pad value elsewhere — under exactly these conditions on the types
(beside `hnd` / `hsel` of `run_refines_spec`):
* `filter` (`hflt`): the element's type holds every value of the library filter's result (true of
  float fields, where the filters compute in the field's own type; false of the mean filter of an
  integer image);
* `stack` (`hstk`): every input's types and the promoted types hold the pad value (false of NaN or 2.5
  and an integer input), and the promotion changes no value of any input. -/
theorem runT_refines_spec (C : Casting) (ty : Nat → String → DType) (a : Args)
    (hnd : ∀ f sel, a.cmd = .filter f sel → ∀ i ∈ a.inputs, i.laser.elements.Nodup)
    (hsel : ∀ f s, a.cmd = .filter f (some s) → s.Nodup)
    (hflt : ∀ f sel, a.cmd = .filter f sel → ∀ k (hk : k < a.inputs.length),
      ∀ n ∈ a.inputs[k].laser.elements, ∀ i j,
        C.cast (ty k n) ((f k n (a.inputs[k].laser.field n)).get i j) = (f k n (a.inputs[k].laser.field n)).get i j)
    (hstk : ∀ o pad, a.cmd = .stack o pad →
      (∀ k, k < a.inputs.length → ∀ n, C.cast (ty k n) pad = pad) ∧
      (∀ n, C.cast (promotedType C ty a.inputs.length n) pad = pad) ∧
      (∀ k (hk : k < a.inputs.length) i j, i < a.inputs[k].laser.data.h → j < a.inputs[k].laser.data.w → ∀ n,
        C.cast (promotedType C ty a.inputs.length n) (a.inputs[k].laser.data.get i j n)
          = a.inputs[k].laser.data.get i j n)) :
    RunEq (runT C ty a) (specRun a) :=
  runT_eq_specRun C ty a hnd hsel ⟨hflt, hstk⟩ ▸ RunEq.refl _

/-- **`main` from the paths on, with storage types, refines the specification**: `main_refines_spec`
for `mainRunT` — the images are the ones the table's loaders deliver, `ty k` the field types of the
image loaded for argument `k`; the conditions on the types are those of `runT_refines_spec`, said of
the loaded images. -/
theorem mainT_refines_spec (C : Casting) (ty : Nat → String → DType) (c : CmdLine)
    (hnd : ∀ f sel, c.cmd = .filter f sel → ∀ ls, c.sources.mapM (loadSpec c.defaults) = .ok ls →
      ∀ x ∈ ls, x.2.elements.Nodup)
    (hsel : ∀ f s, c.cmd = .filter f (some s) → s.Nodup)
    (hty : ∀ ls, c.sources.mapM (loadSpec c.defaults) = .ok ls → TypesHold C ty (c.args ls)) :
    RunEq (mainRunT C ty c) (specMain c) :=
  mainWith_eq c (runT C ty) hnd (fun ls hl hnd' => runT_eq_specRun C ty _ hnd' hsel (hty ls hl)) ▸ RunEq.refl _

namespace Ex
/-- non-vacuity of `runT_refines_spec` / `TypesHold`: `stack` of a narrow ("i": multiples of ten) 1x2 image
over a wide 1x1 image holding 25, pad value 0 -/
def exTyped : Args :=
  { cmd := .stack .vertical 0,
    inputs := [⟨⟨"R", "a", ".npz"⟩, true, { elements := ["A"], data := exNarrow.1, config := .raster 1 2 3 }⟩,
               ⟨⟨"R", "b", ".npz"⟩, true, { elements := ["A"], data := exWide.1, config := .raster 1 2 3 }⟩],
    format := ".npz", output := some ⟨"R", "st", ".npz"⟩, isDir := fun _ => false }
def exTy : Nat → String → DType := fun k _ => if k = 0 then "i" else "f"

example : TypesHold exCast exTy exTyped := by
  refine ⟨nofun, fun o pad h => ?_⟩
  cases h
  exact ⟨fun _ _ _ => exCast_zero _, fun _ => exCast_zero _, fun _ _ _ _ _ _ _ => exCast_wide _⟩

example : (runT exCast exTy exTyped).files.map (fun f => match f.content with
      | .npz l => [l.data.get 0 0 "A", l.data.get 0 1 "A", l.data.get 1 0 "A", l.data.get 1 1 "A"]
      | _ => []) = [[20, 30, 25, 0]] := by decide +kernel
end Ex

/-! ## objects: every command-line argument is processed on its own -/

/-- **One object per argument.**  `main` changes the loaded images in place (`laser.config = …`,
`laser.remove(…)`, `laser.data[element] = …`).  Because `args.lasers = [load(input) for input in
args.input]` holds one fresh object per command-line argument — also when one path is named twice —
the run on objects (`runRef` with `freshRefs`) is the run on values (`run`), of which
`run_refines_spec` speaks: no argument sees what the run did to another. -/
theorem runRef_fresh (a : Args) : runRef (freshRefs a.inputs.length) a = run a := by
  unfold runRef run
  cases parse a with
  | error e => rfl
  | ok outs =>
    have h := fun cmd hns => loopRef_freshRefs (a.inputs.map (·.laser)) outs cmd hns []
    cases hc : a.cmd with
    | stack o pad => rfl
    | convert cfg els => simpa using h (.convert cfg els) rfl
    | filter f sel => simpa using h (.filter f sel) rfl

namespace Ex
/-- `filter R/a.npz R/a.npz --output R/out/` (one path named twice), the filter adds 10 -/
def exTwice : Args :=
  { cmd := .filter (fun _ _ g => { g with get := fun i j => g.get i j + 10 }) none,
    inputs := [⟨⟨"R", "a", ".npz"⟩, true, exS1⟩, ⟨⟨"R", "a", ".npz"⟩, true, exS1⟩],
    format := ".npz", output := some exOut, isDir := fun p => p == exOut }
end Ex

/-- **Regression witness for the seeded change C20-c1** (a path is loaded the first time it is seen,
repeated arguments share the object): `filter a.npz a.npz` then filters the one object twice — the
file written last holds 10 + 20 where the specification (and the code as it is: a fresh object per
argument) has 10 + 10. -/
theorem shared_object_regression :
    sharedRefs (Ex.exTwice.inputs.map (·.path)) = [0, 0] ∧
    ((runRef [0, 0] Ex.exTwice).files.map fun f => match f.content with
      | .npz l => l.data.get 0 0 "A"
      | _ => 0) = [20, 30] ∧
    ((runRef (freshRefs 2) Ex.exTwice).files.map fun f => match f.content with
      | .npz l => l.data.get 0 0 "A"
      | _ => 0) = [20, 20] ∧
    ((specRun Ex.exTwice).files.map fun f => match f.content with
      | .npz l => l.data.get 0 0 "A"
      | _ => 0) = [20, 20] := by
  refine ⟨?_, ?_, ?_, ?_⟩ <;> decide +kernel

/-- **The same files leave the same disk.**  Files are written in order and a later file replaces an
earlier one at the same path (two inputs with one derived output name; one path named twice).  Two
results with the same files (`RunEq`, as `run_refines_spec` gives for the run and the specification)
leave the same files on disk, path by path: `finalFiles` keeps, in order, exactly the files that no
later file replaces. -/
theorem final_files_eq (r r' : Result) (h : RunEq r r') :
    FilesEq (finalFiles r.files) (finalFiles r'.files) :=
  finalFiles_congr h.2

/-- `finalFiles` names every path once. -/
theorem final_files_nodup (fs : List File) : ((finalFiles fs).map (·.path)).Nodup := by
  induction fs with
  | nil => simp [finalFiles]
  | cons f t ih =>
    simp only [finalFiles]
    split
    · exact ih
    · rename_i hno
      simp only [List.map_cons, List.nodup_cons]
      refine ⟨?_, ih⟩
      intro hm
      obtain ⟨g, hg, hp⟩ := List.mem_map.mp hm
      apply hno
      simp only [List.any_eq_true, beq_iff_eq]
      exact ⟨g, finalFiles_sub t g hg, hp⟩

/-- `finalFiles` holds exactly the paths that were written. -/
theorem final_files_paths (fs : List File) (p : Path) :
    p ∈ (finalFiles fs).map (·.path) ↔ p ∈ fs.map (·.path) := by
  induction fs with
  | nil => simp [finalFiles]
  | cons f t ih =>
    simp only [finalFiles]
    split
    · rename_i hany
      simp only [List.map_cons, List.mem_cons]
      rw [ih]
      constructor
      · exact Or.inr
      · rintro (rfl | h)
        · simp only [List.any_eq_true, beq_iff_eq] at hany
          obtain ⟨g, hg, hp⟩ := hany
          exact List.mem_map.mpr ⟨g, hg, hp⟩
        · exact h
    · simp only [List.map_cons, List.mem_cons, ih]

/-- At each of its paths `finalFiles` holds the content that was written LAST. -/
theorem final_files_last (fs : List File) (f : File) (hf : f ∈ finalFiles fs) :
    lastAt fs f.path = some f.content := by
  induction fs with
  | nil => simp [finalFiles] at hf
  | cons g t ih =>
    rw [lastAt_cons]
    simp only [finalFiles] at hf
    split at hf
    · rw [ih hf]
    · rename_i hno
      rcases List.mem_cons.mp hf with rfl | hf'
      · have : lastAt t f.path = none := (lastAt_none_iff t f.path).mpr (by simpa using hno)
        rw [this]
        simp
      · rw [ih hf']

example :
    (finalFiles (runRef (freshRefs 2) Ex.exTwice).files).map (·.path) = [⟨"R/out", "a", ".npz"⟩] := by decide +kernel

example :
    deriveOutputs false [⟨"R/s1", "a", ".npz"⟩, ⟨"R/s2", "a", ".txt"⟩] ".npz" (some Ex.exOut) (fun p => p == Ex.exOut)
      = .ok [⟨"R/out", "a", ".npz"⟩, ⟨"R/out", "a", ".npz"⟩] := by decide +kernel

end Pew.Cli
