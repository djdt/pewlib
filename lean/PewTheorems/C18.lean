import PewProofs.ConvolveReal

/-! # C18 — property theorems: the exact-arithmetic part of the property (pad mode, deconvolution of a full
convolution, the nine generators, oddness and range of the special-function approximations).  The accuracy of
`erf`, `erfinv` and `gamma` against the true functions is not modelled (header of `PewModel/Convolve.lean`).
Two more theorems of the property stand where their proofs need them: `gammaApprox_pos`
(`PewProofs/ConvolveDens.lean`) and `realSpecial_sound` (`PewProofs/ConvolveReal.lean`).  Every theorem here is
one of the property's but two: `generatorWith_isKernel`, the statement behind seven `*_isKernel` (it rests on
`generator_spec`), and `sum_tailSample`, which two examples share. -/
namespace Pew.Convolve

/-- the output has the input's length for every kernel length ≥ 1, odd or even -/
theorem pad_conv_length (x psf : List Rat) (hx : x ≠ []) (hp : psf ≠ []) :
    (convolvePad x psf).length = x.length := by
  have hm : 0 < psf.length := List.length_pos_iff.mpr hp
  rw [convolvePad_eq x psf hx hp, convValidGe_length, padEdge_length_pad x _ hm, Nat.add_assoc,
    Nat.sub_add_cancel hm, Nat.add_sub_cancel]

/-- the whole pad-mode result, edges included, for every kernel length (also kernels longer than the signal):
entry `k` is `Σ_j psf[j] · x[clamp(k + (m − 1 − m/2) − j)]`, the ordinary convolution with the signal continued
by its first and last sample -/
theorem pad_conv_entry (x psf : List Rat) (hx : x ≠ []) (hp : psf ≠ []) (k : Nat) (hk : k < x.length) :
    at0 (convolvePad x psf) k = padConvAt x psf k := by
  have hm : 0 < psf.length := List.length_pos_iff.mpr hp
  rw [convolvePad_eq x psf hx hp, at0_convValidGe _ _ _
    (by rw [padEdge_length_pad x _ hm]; omega)]
  unfold padConvAt
  -- only `l + r = m − 1` matters of the two pad widths
  have hlr := padLens psf.length hm
  generalize psf.length / 2 + psf.length % 2 - 1 = r at hlr ⊢
  generalize psf.length / 2 = l at hlr ⊢
  refine sum_range_congr fun j hj => ?_
  rw [padEdge_at x hx _ _ _ (by omega)]
  congr 3
  omega

theorem pad_conv_eq_spec (x psf : List Rat) (hx : x ≠ []) (hp : psf ≠ []) :
    convolvePad x psf = padConvSpec x psf :=
  eq_map_range _ _ (pad_conv_length x psf hx hp) (pad_conv_entry x psf hx hp)

/-- a kernel longer than the signal: nothing special happens -/
example : convolvePad [1, 2] [1, 1, 1, 1, 1] = [7, 8] := by decide +kernel
example : padConvSpec [1, 2] [1, 1, 1, 1, 1] = [7, 8] := by decide +kernel

/-- away from the edges the result is the ordinary convolution, aligned like numpy's `same`:
entry `k` is entry `k + (m − 1 − m/2)` of the full convolution -/
theorem pad_conv_interior (x psf : List Rat) (hp : psf ≠ []) (k : Nat)
    (h1 : psf.length / 2 ≤ k) (h2 : k + (psf.length - 1 - psf.length / 2) < x.length) :
    at0 (convolvePad x psf) k = fullConvAt x psf (k + (psf.length - 1 - psf.length / 2)) := by
  have hk : k < x.length := Nat.lt_of_le_of_lt (Nat.le_add_right _ _) h2
  rw [pad_conv_entry x psf (List.ne_nil_of_length_pos (Nat.zero_lt_of_lt hk)) hp k hk]
  unfold padConvAt fullConvAt
  generalize psf.length / 2 = l at h1 h2 ⊢
  refine sum_range_congr fun j hj => ?_
  have hle : j ≤ k + (psf.length - 1 - l) := by omega
  rw [if_pos hle, clampIdx_eq _ _ (k + (psf.length - 1 - l) - j) (by rw [Nat.cast_sub hle, Nat.cast_add])
    ((Nat.sub_le _ _).trans_lt h2)]

/-- a constant signal comes back multiplied by the sum of the kernel, edges included, whatever that sum is
(`pad_conv_constant` is the case `Σ psf = 1`; a kernel whose float weights sum to one only up to rounding
reproduces constants up to the same rounding) -/
theorem pad_conv_constant_scaled (c : Rat) (n : Nat) (hn : 0 < n) (psf : List Rat) (hp : psf ≠ []) :
    convolvePad (List.replicate n c) psf = List.replicate n (c * psf.sum) := by
  rw [pad_conv_eq_spec _ _ (List.ne_nil_of_length_pos (by rw [List.length_replicate]; exact hn)) hp]
  unfold padConvSpec
  rw [List.length_replicate, List.map_congr_left fun k _ => padConvAt_replicate c n hn psf k, List.map_const',
    List.length_range]

example : convolvePad [4, 4, 4] [1 / 2, 1 / 4] = [3, 3, 3] :=
  (pad_conv_constant_scaled 4 3 (by decide) [1 / 2, 1 / 4] (List.cons_ne_nil _ _)).trans (by decide +kernel)

/-- a kernel that sums to one reproduces constant signals, edges included -/
theorem pad_conv_constant (c : Rat) (n : Nat) (hn : 0 < n) (psf : List Rat) (hp : psf ≠ [])
    (hs : psf.sum = 1) : convolvePad (List.replicate n c) psf = List.replicate n c := by
  rw [pad_conv_constant_scaled c n hn psf hp, hs, mul_one]

example : convolvePad [3, 3, 3, 3] [1 / 4, 1 / 2, 1 / 4] = [3, 3, 3, 3] :=
  pad_conv_constant 3 4 (by decide) _ (List.cons_ne_nil _ _) (by decide +kernel)

/-- numpy's `valid` mode (what pad mode runs on the padded signal) is a window of the ordinary convolution:
entry `k` is entry `k + m − 1` of the full convolution, for every `k ≤ n − m` -/
theorem convValidGe_entry (a v : List Rat) (hv : v ≠ []) (k : Nat) (hk : k + v.length ≤ a.length) :
    at0 (convValidGe a v) k = fullConvAt a v (k + v.length - 1) := by
  rw [at0_convValidGe a v k (Nat.lt_sub_of_add_lt (Nat.lt_succ_of_le hk))]
  exact sum_range_congr fun j hj => (if_pos (Nat.le_sub_one_of_lt (hj.trans_le (Nat.le_add_left _ _)))).symm

theorem convValidGe_eq_full (a v : List Rat) (hv : v ≠ []) (h : v.length ≤ a.length) :
    convValidGe a v = ((fullConv a v).drop (v.length - 1)).take (a.length + 1 - v.length) := by
  have hm : 0 < v.length := List.length_pos_iff.mpr hv
  apply List.ext_getElem
  · rw [convValidGe_length, List.length_take, List.length_drop, fullConv_length]; omega
  · intro k h1 h2
    have hk : k < a.length + 1 - v.length := by rwa [convValidGe_length] at h1
    rw [← at0_of_lt _ _ h1, convValidGe_entry a v hv k (Nat.le_of_lt_succ (Nat.add_lt_of_lt_sub hk)),
      List.getElem_take, List.getElem_drop, ← at0_of_lt, at0_fullConv a v, Nat.add_comm (v.length - 1),
      Nat.add_sub_assoc hm]

example : convValidGe [1, 2, 3, 4] [1, 1] = [3, 5, 7] := by decide +kernel
example : fullConv [1, 2, 3, 4] [1, 1] = [1, 3, 5, 7, 4] := by decide +kernel

/-- convolution is commutative: signal and kernel may be exchanged (what numpy does when the second argument is
the longer one) -/
theorem fullConvAt_comm (x psf : List Rat) (t : Nat) : fullConvAt x psf t = fullConvAt psf x t := by
  rw [fullConvAt_eq_range, fullConvAt_eq_range, sum_range_eq_finset_sum, sum_range_eq_finset_sum,
    ← Finset.sum_flip fun j => at0 x j * at0 psf (t - j)]
  exact Finset.sum_congr rfl fun j hj => by
    rw [Nat.sub_sub_self (Nat.le_of_lt_succ (Finset.mem_range.mp hj)), mul_comm]

theorem fullConv_comm (x psf : List Rat) : fullConv x psf = fullConv psf x := by
  unfold fullConv
  rw [Nat.add_comm psf.length x.length]
  exact List.map_congr_left fun t _ => fullConvAt_comm x psf t

example : fullConv [1, 2, 3] [1, 1] = fullConv [1, 1] [1, 2, 3] := fullConv_comm _ _

/-- numpy's `valid` mode for any two non-empty arrays (the longer one is taken as the signal): the window of the
ordinary convolution in which the shorter array lies completely inside the longer one -/
theorem convValid_eq_full (a v : List Rat) (ha : a ≠ []) (hv : v ≠ []) :
    convValid a v = ((fullConv a v).drop (min a.length v.length - 1)).take
      (max a.length v.length + 1 - min a.length v.length) := by
  unfold convValid
  split
  · rename_i h
    rw [convValidGe_eq_full v a ha h.le, fullConv_comm v a, Nat.min_eq_left h.le, Nat.max_eq_right h.le]
  · rename_i h
    rw [Nat.not_lt] at h
    rw [convValidGe_eq_full a v hv h, Nat.min_eq_right h, Nat.max_eq_left h]

example : convValid [1, 1] [1, 2, 3, 4] = [3, 5, 7] := by decide +kernel

/-- series division by a kernel whose first tap is non-zero recovers the signal from its full
convolution: the first `r` coefficients of the quotient are the signal, then zeros -/
theorem deconv_conv (x psf : List Rat) (h0 : at0 psf 0 ≠ 0) (r : Nat) :
    seriesDiv (fullConv x psf) psf r = (List.range r).map (at0 x) :=
  seriesDiv_eq_of_conv _ x psf h0 r fun t _ => (at0_fullConv x psf t).symm

/-- the number of samples `deconvolve` returns, for every input: `len c − len psf − 1` when the input is longer
than the kernel; for `len c ≤ len psf` the stop of Python's slice is negative and `r − (len psf + 1 − len c)`
of the `r` (the next power of two) coefficients come back -/
theorem deconvolve_length (c psf : List Rat) :
    (deconvolve c psf).length =
      if psf.length < c.length then c.length - psf.length - 1
      else nextPow2 (max c.length psf.length) - (psf.length + 1 - c.length) := by
  simp only [deconvolve]
  split
  · rename_i h
    rw [pySliceTo_nat _ (c.length - psf.length - 1) _
      (by rw [Nat.cast_sub (Nat.sub_pos_of_lt h), Nat.cast_sub h.le, Nat.cast_one]), List.length_take, seriesDiv_length]
    exact min_eq_left ((Nat.sub_le _ _).trans ((Nat.sub_le _ _).trans ((le_max_left _ _).trans (le_nextPow2 _))))
  · rename_i h
    rw [pySliceTo_neg _ (psf.length + 1 - c.length) _
      (Nat.sub_pos_of_lt (Nat.lt_succ_of_le (Nat.le_of_not_lt h))) (by omega), List.length_take, seriesDiv_length]
    exact min_eq_left (Nat.sub_le _ _)

example : (deconvolve [1, 2, 3, 4, 5, 6] [2, 1]).length = 3 := by rw [deconvolve_length]; decide
example : (deconvolve [4, 2] [2, 1, 5]).length = 2 := by rw [deconvolve_length]; decide

/-- the whole `deconvolve` (series division, the slice `[: len c − len psf − 1]`) applied to the full
convolution of any signal of at least two samples — zero samples anywhere included — returns the leading
`n − 2` samples of the signal -/
theorem deconvolve_fullConv_of_two_le (x psf : List Rat) (h0 : at0 psf 0 ≠ 0) (h2 : 2 ≤ x.length) :
    deconvolve (fullConv x psf) psf = x.take (x.length - 2) := by
  simp only [deconvolve]
  rw [fftQuotient_fullConv x psf h0, pySliceTo_nat _ (x.length - 2) _ (stop_fullConv x psf h2),
    List.take_append_of_le_length (Nat.sub_le _ _)]

/-- outside the quantifier (a one-sample signal, a longer kernel) the negative stop of the slice returns the
sample followed by padding zeros: `r − 1` values for a signal of one -/
theorem deconvolve_fullConv_single (v : Rat) (psf : List Rat) (h0 : at0 psf 0 ≠ 0) :
    deconvolve (fullConv [v] psf) psf
      = (v :: List.replicate (nextPow2 psf.length - 1) 0).take (nextPow2 psf.length - 1) := by
  have hlen : (fullConv [v] psf).length = psf.length := by
    rw [fullConv_length, List.length_singleton, Nat.add_sub_cancel_left]
  simp only [deconvolve]
  rw [fftQuotient_fullConv [v] psf h0, hlen, Nat.max_self,
    pySliceTo_neg _ 1 _ one_pos (by rw [sub_self, zero_sub, Nat.cast_one]),
    List.length_append, List.length_singleton, List.length_replicate, Nat.add_sub_cancel_left]
  rfl

example : deconvolve (fullConv [7] [4, 2, 1]) [4, 2, 1] = [7, 0, 0] := by
  rw [deconvolve_fullConv_single 7 [4, 2, 1] (by decide +kernel)]; decide

/-- the deconvolution clause for the property's quantifier (signals at least as long as the kernel):
no hypothesis on the samples -/
theorem deconvolve_fullConv (x psf : List Rat) (h0 : at0 psf 0 ≠ 0) (hne : x ≠ [])
    (hnm : psf.length ≤ x.length) :
    deconvolve (fullConv x psf) psf = x.take (x.length - 2) := by
  have hn : 0 < x.length := List.length_pos_iff.mpr hne
  have hm : 0 < psf.length := length_pos_of_at0_ne h0
  rcases Nat.lt_or_ge x.length 2 with h2 | h2
  · -- one sample, one tap: the stop of the slice is −1, of r = 1 coefficients none is left
    obtain ⟨v, rfl⟩ := List.length_eq_one_iff.mp (Nat.le_antisymm (Nat.le_of_lt_succ h2) hn)
    rw [deconvolve_fullConv_single v psf h0, Nat.le_antisymm hnm hm]
    rfl
  · exact deconvolve_fullConv_of_two_le x psf h0 h2

example : deconvolve (fullConv [5, 3, 8, 1, 9] [2, 1]) [2, 1] = [5, 3, 8] :=
  deconvolve_fullConv [5, 3, 8, 1, 9] [2, 1] (by decide +kernel) (List.cons_ne_nil _ _) (by decide)

/-- a leading zero, an interior run of zeros: kept -/
example : deconvolve (fullConv [0, 9, 0, 0, 2, 0, 4] [8, 1]) [8, 1] = [0, 9, 0, 0, 2] :=
  deconvolve_fullConv [0, 9, 0, 0, 2, 0, 4] [8, 1] (by decide +kernel) (List.cons_ne_nil _ _) (by decide)

/-- `mode="same"`: the recovered samples followed by the input from there on -/
theorem deconvolveSame_fullConv (x psf : List Rat) (h0 : at0 psf 0 ≠ 0) (hne : x ≠ [])
    (hnm : psf.length ≤ x.length) :
    deconvolveSame (fullConv x psf) psf = x.take (x.length - 2) ++ (fullConv x psf).drop (x.length - 2) := by
  unfold deconvolveSame
  simp only []
  rw [deconvolve_fullConv x psf h0 hne hnm, List.length_take, Nat.min_eq_left (Nat.sub_le _ _)]

example : deconvolveSame (fullConv [0, 3, 0, 1] [2, 1]) [2, 1] = [0, 3, 3, 2, 1] := by
  rw [deconvolveSame_fullConv [0, 3, 0, 1] [2, 1] (by decide +kernel) (List.cons_ne_nil _ _) (by decide)]
  decide +kernel

/-- REGRESSION (the mechanism before /repo 5e4648b, `np.trim_zeros` before the slice): a signal with an exactly
zero leading sample comes back shifted by one — the first sample is lost, a later one appears in its place -/
theorem deconvolve_old_shifts :
    deconvolveOld (fullConv [0, 9, 5, 43, 2, 27, 4, 15, 24] [8, 1]) [8, 1] = [9, 5, 43, 2, 27, 4, 15] ∧
    deconvolve (fullConv [0, 9, 5, 43, 2, 27, 4, 15, 24] [8, 1]) [8, 1] = [0, 9, 5, 43, 2, 27, 4] := by
  refine ⟨?_, deconvolve_fullConv_of_two_le _ _ (by decide +kernel) (by decide)⟩
  -- the quotient is the signal followed by zeros; `trim_zeros` takes the leading zero with the trailing ones
  simp only [deconvolveOld]
  rw [fftQuotient_fullConv _ _ (by decide +kernel)]
  decide +kernel

/-- the old mechanism is right exactly as far as the first and the last sample are non-zero (zeros in between
do no harm) -/
theorem deconvolveOld_fullConv (x psf : List Rat) (h0 : at0 psf 0 ≠ 0) (h2 : 2 ≤ x.length)
    (hh : ∀ a, x.head? = some a → a ≠ 0) (hl : ∀ a, x.getLast? = some a → a ≠ 0) :
    deconvolveOld (fullConv x psf) psf = x.take (x.length - 2) := by
  simp only [deconvolveOld]
  rw [fftQuotient_fullConv x psf h0, trimZeros_append_zeros x hh hl,
    pySliceTo_nat _ (x.length - 2) _ (stop_fullConv x psf h2)]

example : deconvolveOld (fullConv [5, 0, 0, 1, 9] [2, 1]) [2, 1] = [5, 0, 0] :=
  deconvolveOld_fullConv [5, 0, 0, 1, 9] [2, 1] (by decide +kernel) (by decide) (by decide +kernel) (by decide +kernel)

/-- `np.linspace(a, b, 1) = [a]` (the stop is not used; in the model the step `(b − a)/0` is multiplied by 0) -/
theorem linspace_one (a b : Rat) : linspace a b 1 = [a] := by
  simp [linspace]

theorem linspace_zero (a b : Rat) : linspace a b 0 = [] := rfl

/-- the formula for entry `i` covers the overwritten last entry -/
theorem linspace_spec (a b : Rat) (n : Nat) (hn : 2 ≤ n) :
    (linspace a b n).length = n ∧
    (∀ i, i < n → at0 (linspace a b n) i = a + (i : Rat) * ((b - a) / ((n : Rat) - 1))) ∧
    at0 (linspace a b n) 0 = a ∧ at0 (linspace a b n) (n - 1) = b ∧
    (∀ i, i + 1 < n → at0 (linspace a b n) (i + 1) - at0 (linspace a b n) i = (b - a) / ((n : Rat) - 1)) := by
  have hat := at0_linspace a b n
  have hn0 : 0 < n := Nat.zero_lt_two.trans_le hn
  refine ⟨linspace_length a b n, hat, ?_, ?_, ?_⟩
  · rw [hat 0 hn0, Nat.cast_zero, zero_mul, add_zero]
  · unfold linspace
    rw [at0_map_range _ (Nat.sub_lt hn0 one_pos)]
    exact if_pos ⟨hn, Nat.sub_add_cancel hn0⟩
  · intro i hi
    rw [hat (i + 1) hi, hat i (Nat.lt_of_succ_lt hi), Nat.cast_succ]
    ring

example : linspace 0 1 5 = [0, 1 / 4, 1 / 2, 3 / 4, 1] := by decide +kernel

/-- an ascending `linspace` whose spacing is below `b − a` has a point strictly inside `(a, b)` as soon as the
interval and the axis overlap -/
theorem linspace_hits (lo hi a b : Rat) (n : Nat) (hn : 2 ≤ n) (hlh : lo < hi)
    (hstep : (hi - lo) / ((n : Rat) - 1) < b - a) (h1 : lo < b) (h2 : a < hi) :
    ∃ x ∈ linspace lo hi n, a < x ∧ x < b := by
  obtain ⟨hlen, _, h0, hlast, hdiff⟩ := linspace_spec lo hi n hn
  obtain ⟨i, hi, hh⟩ := exists_between_of_steps (at0 (linspace lo hi n)) a b (n - 1) (h0.trans_lt h1)
    (h2.trans_eq hlast.symm) fun i hi => (hdiff i (by omega)).trans_lt hstep
  exact ⟨_, at0_mem _ i (by omega), hh⟩

theorem normalise_sums_to_one (y : List Rat) (h0 : ∀ v ∈ y, 0 ≤ v) (hs : 0 < y.sum) :
    (normalise y).length = y.length ∧ (normalise y).sum = 1 ∧ ∀ w ∈ normalise y, 0 ≤ w ∧ w ≤ 1 :=
  -- `normalise` is `normaliseK` at ℚ, by unfolding
  normaliseK_spec y h0 hs

example : normalise [1, 3, 0, 4] = [1 / 8, 3 / 8, 0, 1 / 2] := by decide +kernel

/-- the weights do not depend on the magnitude of the densities: multiplying every density by the same non-zero
constant (`1e-310` as well as `1e+300`) changes nothing.  Any field. -/
theorem normaliseK_scale {K : Type} [Field K] (c : K) (hc : c ≠ 0) (y : List K) :
    normaliseK (y.map (c * ·)) = normaliseK y := by
  have hs : (y.map (c * ·)).sum = c * y.sum := by simpa using List.sum_map_mul_left y (fun v => v) c
  simp only [normaliseK, List.map_map, Function.comp_def, hs, mul_div_mul_left _ _ hc]

/-- … so a generator's rows do not depend on a constant factor of its density (the `1/B` of `beta_pdf`, the
`1/(σ√(2π))` of the Gaussians, `βᵅ/Γ(α)`) -/
theorem kernelWith_scale {K : Type} [Field K] (c : K) (hc : c ≠ 0) (axis : List Rat) (pdf : Rat → K) :
    kernelWith axis (fun x => c * pdf x) = kernelWith axis pdf := by
  unfold kernelWith
  rw [← normaliseK_scale c hc (axis.map pdf), List.map_map]
  rfl

example : normaliseK (([1, 3] : List Rat).map ((1 / 10 ^ 320) * ·)) = normaliseK [1, 3] :=
  normaliseK_scale _ (by positivity) _

/-- REGRESSION (seeded change C18-c2): with the divisor floored at `t`, densities whose sum is positive but below
`t` give weights that sum to `Σy / t < 1`, not to one -/
theorem normaliseFloor_sum (t : Rat) (y : List Rat) (h : y.sum < t) :
    (normaliseFloor t y).sum = y.sum / t := by
  unfold normaliseFloor
  rw [if_pos h, sum_map_div]

theorem normaliseFloor_lt_one (t : Rat) (y : List Rat) (h0 : 0 < y.sum) (h : y.sum < t) :
    (normaliseFloor t y).sum < 1 := by
  rw [normaliseFloor_sum t y h, div_lt_one (lt_trans h0 h)]
  exact h

/-- … and above the floor it is the code's normalisation -/
theorem normaliseFloor_eq (t : Rat) (y : List Rat) (h : t ≤ y.sum) : normaliseFloor t y = normalise y := by
  unfold normaliseFloor normalise
  rw [if_neg (not_lt.mpr h)]

theorem sum_tailSample (q : Rat) : ([0, 0, 0, 0, 11 * q] : List Rat).sum = 11 * q := by simp

/-- `normal(5, 1.0, 41.0)`: one sample carries 11 steps of the subnormal grid, the floor is `2⁻¹⁰²²` = `2⁵²` steps -/
example (q : Rat) (hq : 0 < q) : (normaliseFloor (2 ^ 52 * q) [0, 0, 0, 0, 11 * q]).sum = 11 / 2 ^ 52 := by
  rw [normaliseFloor_sum _ _ (by rw [sum_tailSample]; exact mul_lt_mul_of_pos_right (by norm_num) hq), sum_tailSample]
  exact mul_div_mul_right _ _ hq.ne'
example (q : Rat) (hq : 0 < q) : (normalise [0, 0, 0, 0, 11 * q]).sum = 1 :=
  normaliseK_sum _ (by rw [sum_tailSample]; positivity)

/-- normalisation under rounding, in any ordered field and for densities of any magnitude: if the divisor `s` is
the sum of the densities up to a relative error `ε < 1` and every weight is the quotient `yᵢ / s` up to a relative
error `u`, the weights sum to one within `(u + ε) / (1 − ε)`.  Nothing in the bound depends on how small the
densities are.  (binary64: `u = 2⁻⁵³` for a division, `ε ≤ (n − 1)·2⁻⁵³` for any order of summation, `ε = 0` when
the sum itself is subnormal, below `2⁻¹⁰²²` — then every partial sum is a multiple of `2⁻¹⁰⁷⁴` below `2⁻¹⁰²¹` and exact.) -/
theorem normalise_approx {K : Type} [Field K] [LinearOrder K] [IsStrictOrderedRing K]
    (y w : List K) (s u ε : K) (hS : 0 < y.sum) (hu : 0 ≤ u) (hε : ε < 1)
    (hs : |s - y.sum| ≤ ε * y.sum)
    (hw : List.Forall₂ (fun wi yi => |wi - yi / s| ≤ u * (yi / s)) w y) :
    |w.sum - 1| ≤ (u + ε) / (1 - ε) := by
  -- with r = Σy / s:  |Σw − r| ≤ u r,  |r − 1| ≤ ε r,  r ≤ 1 / (1 − ε)
  have h1ε : 0 < 1 - ε := sub_pos.mpr hε
  have hε0 : 0 ≤ ε := nonneg_of_mul_nonneg_left ((abs_nonneg _).trans hs) hS
  have hsge : (1 - ε) * y.sum ≤ s := by
    rw [sub_mul, one_mul, sub_le_iff_le_add]
    exact neg_le_sub_iff_le_add.mp (abs_le.mp hs).1
  have hspos : 0 < s := (mul_pos h1ε hS).trans_le hsge
  have hrs : y.sum / s * s = y.sum := div_mul_cancel₀ _ hspos.ne'
  have h1 : |w.sum - y.sum / s| ≤ u * (y.sum / s) := by
    rw [← sum_map_div y s]
    exact abs_sum_sub_sum_le u w _ (List.forall₂_map_right_iff.mpr hw)
  have h2 : |y.sum / s - 1| ≤ ε * (y.sum / s) := by
    rw [div_sub_one hspos.ne', abs_div, abs_of_pos hspos, div_le_iff₀ hspos, mul_assoc, hrs, abs_sub_comm]
    exact hs
  have hr : y.sum / s ≤ 1 / (1 - ε) := by
    rw [div_le_div_iff₀ hspos h1ε, one_mul, mul_comm]; exact hsge
  calc |w.sum - 1| = |(w.sum - y.sum / s) + (y.sum / s - 1)| := by rw [sub_add_sub_cancel]
    _ ≤ u * (y.sum / s) + ε * (y.sum / s) := (abs_add_le _ _).trans (add_le_add h1 h2)
    _ = (u + ε) * (y.sum / s) := (add_mul _ _ _).symm
    _ ≤ (u + ε) * (1 / (1 - ε)) := mul_le_mul_of_nonneg_left hr (add_nonneg hu hε0)
    _ = (u + ε) / (1 - ε) := mul_one_div _ _

/-- three weights `yᵢ · 1.01 / 1.01` whose densities sum to one -/
example : |([(1 : Rat) / 2, 3 / 10, 2 / 10].map (· * (101 / 100) / (101 / 100))).sum - 1| ≤ 1 := by decide +kernel

/-- the approximation as coded (sign · (1 − 1/(1 + Σ aᵢ|x|ⁱ)⁴)) is odd -/
theorem erf_odd (x : Rat) : erfApprox (-x) = -erfApprox x := by
  unfold erfApprox
  rw [sgn_neg, absR_neg]; ring

/-- before /repo 03305d6 the polynomial was evaluated at `x` instead of `|x|`; that function is not
odd (x = 1) -/
def erfApproxOld (x : Rat) : Rat := sgn x * (1 - 1 / (1 + erfSum x) ^ 4)

theorem erf_old_not_odd : erfApproxOld (-1) ≠ -erfApproxOld 1 := by decide +kernel

/-- for x ≥ 0 the approximation lies in [0, 1) (with `erf_odd`: in (−1, 1) for all x; not stated) -/
theorem erf_range (x : Rat) (hx : 0 ≤ x) : 0 ≤ erfApprox x ∧ erfApprox x < 1 := by
  have hs : 0 ≤ erfSum x := by unfold erfSum; positivity
  have h1 : (1 : Rat) ≤ (1 + erfSum x) ^ 4 := one_le_pow₀ (le_add_of_nonneg_right hs)
  have hpos : (0 : Rat) < (1 + erfSum x) ^ 4 := one_pos.trans_le h1
  unfold erfApprox
  rw [absR_eq_abs, abs_of_nonneg hx]
  rcases hx.lt_or_eq with h | rfl
  · rw [sgn_of_pos h, one_mul]
    exact ⟨sub_nonneg.mpr ((div_le_one hpos).mpr h1), sub_lt_self _ (one_div_pos.mpr hpos)⟩
  · rw [sgn_zero, zero_mul]
    exact ⟨le_rfl, one_pos⟩

example : erfApprox 1 = 1 - 1 / (1 + 587862 / 1000000) ^ 4 := by decide +kernel

/-- accuracy on x ≥ 0 against any odd function carries over to all x -/
theorem erf_reduce {K : Type*} [Field K] [LinearOrder K] [IsStrictOrderedRing K]
    (f : Rat → K) (hodd : ∀ x, f (-x) = -f x) (ε : K)
    (h : ∀ x : Rat, 0 ≤ x → |((erfApprox x : Rat) : K) - f x| ≤ ε) :
    ∀ x : Rat, |((erfApprox x : Rat) : K) - f x| ≤ ε := by
  intro x
  rcases le_total 0 x with hx | hx
  · exact h x hx
  · have := h (-x) (neg_nonneg.mpr hx)
    rwa [erf_odd, hodd, Rat.cast_neg, neg_sub_neg, abs_sub_comm] at this

/-- `erfinv` as coded is odd, whatever π, `log1p` and `sqrt` are (any field, any functions): the sign is the only
place the sign of the argument enters, the rest sees `-x * x` -/
theorem erfinv_odd {K : Type} [Field K] (pi : K) (log1p : Rat → K) (sqrt : K → K) (x : Rat) :
    erfinvWith ⟨((↑) : Rat → K), pi, log1p, sqrt⟩ (-x) = -erfinvWith ⟨((↑) : Rat → K), pi, log1p, sqrt⟩ x := by
  unfold erfinvWith
  simp only []
  rw [show - -x * -x = -x * x by ring, sgn_neg, Rat.cast_neg, neg_mul]

/-- … and vanishes at 0 (the sign is 0) -/
theorem erfinv_zero {K : Type} [Field K] (pi : K) (log1p : Rat → K) (sqrt : K → K) :
    erfinvWith ⟨((↑) : Rat → K), pi, log1p, sqrt⟩ 0 = 0 := by
  unfold erfinvWith
  simp only []
  rw [sgn_zero, Rat.cast_zero, zero_mul]

/-- the form written "without cancellation" is Winitzki's `−tt1 + sqrt(tt1² − tt2)`: for any `s` with
`s² = tt1² − tt2` (the inner square root) and `tt1 + s ≠ 0` -/
theorem erfinv_conjugate {K : Type} [Field K] (tt1 tt2 s : K) (hs : s * s = tt1 * tt1 - tt2) (hd : tt1 + s ≠ 0) :
    -tt2 / (tt1 + s) = -tt1 + s := by
  rw [div_eq_iff hd]
  have : tt2 = tt1 * tt1 - s * s := by rw [hs]; ring
  rw [this]; ring

/-- the argument of the outer square root is non-negative and the denominator positive for every `l < 0`
(`l = log1p(−x²)` for `0 < |x| < 1`), given a square root that is non-negative and squares back on non-negatives:
neither square root leaves its domain and there is no division by zero -/
theorem erfinv_domain {K : Type} [Field K] [LinearOrder K] [IsStrictOrderedRing K] (tt1 tt2 : K) (sqrt : K → K)
    (hsq : ∀ t, 0 ≤ t → 0 ≤ sqrt t ∧ sqrt t * sqrt t = t) (h2 : tt2 < 0) :
    0 ≤ tt1 * tt1 - tt2 ∧ 0 < tt1 + sqrt (tt1 * tt1 - tt2) ∧ 0 < -tt2 / (tt1 + sqrt (tt1 * tt1 - tt2)) := by
  have hd : 0 ≤ tt1 * tt1 - tt2 := sub_nonneg.mpr (h2.le.trans (mul_self_nonneg tt1))
  obtain ⟨hs0, hss⟩ := hsq _ hd
  have hpos : 0 < tt1 + sqrt (tt1 * tt1 - tt2) := by
    by_contra hcon
    -- otherwise `0 ≤ sqrt … ≤ −tt1`, and squaring gives `tt1² − tt2 ≤ tt1²`
    have := mul_self_le_mul_self hs0 (le_neg_iff_add_nonpos_left.mpr (not_lt.mp hcon))
    rw [hss, neg_mul_neg, sub_le_self_iff] at this
    exact not_le.mpr h2 this
  exact ⟨hd, hpos, div_pos (neg_pos.mpr h2) hpos⟩

example : -(-16 : Rat) / (3 + 5) = -3 + 5 := erfinv_conjugate 3 (-16) 5 (by norm_num) (by norm_num)

/-- the real square root meets the hypothesis of `erfinv_domain` -/
example (tt1 tt2 : ℝ) (h2 : tt2 < 0) : 0 < -tt2 / (tt1 + Real.sqrt (tt1 * tt1 - tt2)) :=
  (erfinv_domain tt1 tt2 Real.sqrt (fun t ht => ⟨Real.sqrt_nonneg t, Real.mul_self_sqrt ht⟩) h2).2.2

example : erfinvWith (K := Rat) ⟨((↑) : Rat → Rat), 3, fun _ => 0, fun t => t⟩ (1 / 2) = 0 := by decide +kernel

/-- For every function `G` on the positive rationals with `G (t + 1) = t · G t` and `G > 0` (asked, not used by
the proof; the true gamma function is one): if the degree-8 polynomial approximates `G (z + 1)` on
`0 ≤ z < 1` with relative error ε, the coded recursion (`z = x mod 1`, the product over
`z + 1 … z + ⌊x⌋ − 1`, the `1/x` branch below one) approximates `G x` with the same relative error
at every `x > 0`. -/
theorem gamma_reduce {K : Type*} [Field K] [LinearOrder K] [IsStrictOrderedRing K]
    (G : Rat → K) (hrec : ∀ t : Rat, 0 < t → G (t + 1) = (t : K) * G t) (hpos : ∀ t : Rat, 0 < t → 0 < G t)
    (ε : K)
    (hbase : ∀ z : Rat, 0 ≤ z → z < 1 → |((gammaPoly z : Rat) : K) - G (z + 1)| ≤ ε * G (z + 1)) :
    ∀ x : Rat, 0 < x → |((gammaApprox x : Rat) : K) - G x| ≤ ε * G x := by
  intro x hx
  rcases lt_or_ge x 1 with h1 | h1
  · -- below one: Γ(x) = Γ(x + 1) / x
    have hxK : (0 : K) < ((1 / x : Rat) : K) := Rat.cast_pos.mpr (one_div_pos.mpr hx)
    have hG : G x = ((1 / x : Rat) : K) * G (x + 1) := by
      rw [hrec x hx, ← mul_assoc, ← Rat.cast_mul, one_div_mul_cancel hx.ne', Rat.cast_one, one_mul]
    rw [gammaApprox_of_lt_one x hx.le h1, Rat.cast_mul, hG]
    exact rel_err_mul _ hxK (hbase x hx.le h1)
  · -- x = z + k: Γ(z + k) = (z + 1)…(z + k − 1) · Γ(z + 1), the functional equation iterated
    obtain ⟨z, k, hz0, hz1, rfl⟩ := exists_fract_add_nat x h1
    have hiter : ∀ n : Nat, G (z + ((n + 1 : Nat) : Rat)) = ((risingProd z (n + 1) : Rat) : K) * G (z + 1) := by
      intro n
      induction n with
      | zero => rw [risingProd_one, Rat.cast_one, one_mul, Nat.cast_one]
      | succ n ih =>
        have hpos' : (0 : Rat) < z + ((n + 1 : Nat) : Rat) :=
          add_pos_of_nonneg_of_pos hz0 (Nat.cast_pos.mpr n.succ_pos)
        rw [Nat.cast_succ (n + 1), ← add_assoc, hrec _ hpos', ih, risingProd_succ, Rat.cast_mul]
        ring
    rw [gammaApprox_add_nat z hz0 hz1 k, hiter k, Rat.cast_mul]
    exact rel_err_mul _ (Rat.cast_pos.mpr (risingProd_pos z hz0 k)) (hbase z hz0 hz1)

/-! ## gamma approximation at the positive integers: exact

At an integer argument the fractional part is 0, the polynomial is its constant term 1 and the recursion is the
plain product 1·2·…·(n − 1): the approximation as coded returns the factorial itself, with no approximation
error at all.  This is what the correspondence check demands of every integer argument (1 … 30) whatever type
carries it — Python `int`, numpy signed / unsigned integer scalars of every width, float scalars, 0-d arrays:
the value is a property of the number, not of its container.  (21! no longer fits a 64-bit integer, 13! no
longer a 32-bit one, 12! is the last one a single-precision float holds exactly: the product has to be formed
in double precision for the statement to carry over to the code.) -/

theorem fact_eq_factorial (n : Nat) : fact n = n.factorial := by
  induction n with
  | zero => rfl
  | succ n ih => simp [fact, ih, Nat.factorial_succ]

theorem risingProd_zero (n : Nat) : risingProd 0 (n + 1) = ((fact n : Nat) : Rat) := by
  induction n with
  | zero => simp [risingProd_one, fact]
  | succ n ih =>
    rw [risingProd_succ, ih]
    simp only [fact]
    push_cast
    ring

/-- `gamma(n + 1) = n!` exactly, for every natural `n` (the model of the code as it is, not of the true function) -/
theorem gammaApprox_nat (n : Nat) : gammaApprox ((n + 1 : Nat) : Rat) = ((fact n : Nat) : Rat) := by
  have := gammaApprox_add_nat 0 le_rfl one_pos n
  rwa [zero_add, risingProd_zero, gammaPoly_zero, mul_one] at this

/-- … and so it is the true gamma function there: `gamma(n + 1) = n!` with Mathlib's factorial -/
theorem gammaApprox_factorial (n : Nat) : gammaApprox ((n + 1 : Nat) : Rat) = (n.factorial : Rat) := by
  rw [gammaApprox_nat, fact_eq_factorial]

example : gammaApprox ((21 + 1 : Nat) : Rat) = 51090942171709440000 := by
  rw [gammaApprox_factorial]; norm_num [Nat.factorial]

/-- the recursion at an integer: Γ(5) ≈ 4·3·2·1·poly(0) = 24 -/
example : gammaApprox 5 = 24 := gammaApprox_nat 4

/-- what the property asks of a generator's return value: `size` rows, the first column is the axis, the
weights lie in [0, 1] and sum to one -/
def IsKernel {K : Type} [Field K] [LinearOrder K] (rows : List (Rat × K)) (size : Nat) (axis : List Rat) : Prop :=
  rows.length = size ∧ rows.map Prod.fst = axis ∧ (rows.map Prod.snd).sum = 1 ∧
    ∀ w ∈ rows.map Prod.snd, 0 ≤ w ∧ w ≤ 1

/-- the generator body.  The two hypotheses are proved for the triangular density outright and for the eight
transcendental densities under `Special.Sound` (the `*_isKernel` theorems below). -/
theorem kernelWith_spec {K : Type} [Field K] [LinearOrder K] [IsStrictOrderedRing K]
    (axis : List Rat) (pdf : Rat → K) (h0 : ∀ x ∈ axis, 0 ≤ pdf x) (h1 : ∃ x ∈ axis, 0 < pdf x) :
    (kernelWith axis pdf).length = axis.length ∧
    (kernelWith axis pdf).map Prod.fst = axis ∧
    (kernelWith axis pdf).map Prod.snd = axis.map (fun x => pdf x / (axis.map pdf).sum) ∧
    ((kernelWith axis pdf).map Prod.snd).sum = 1 ∧
    ∀ w ∈ (kernelWith axis pdf).map Prod.snd, 0 ≤ w ∧ w ≤ 1 := by
  have hy0 : ∀ v ∈ axis.map pdf, 0 ≤ v := List.forall_mem_map.mpr h0
  have hs : 0 < (axis.map pdf).sum := by
    obtain ⟨x, hx, hpos⟩ := h1
    exact lt_of_lt_of_le hpos (List.single_le_sum hy0 _ (List.mem_map_of_mem hx))
  obtain ⟨_, hsum, hw⟩ := normaliseK_spec _ hy0 hs
  rw [kernelWith_snd]
  refine ⟨?_, kernelWith_fst axis pdf, List.map_map, hsum, hw⟩
  rw [← List.length_map (f := Prod.fst), kernelWith_fst]

/-- every generator (`beta`, `exponential`, `inversegamma`, `laplace`, `loglaplace`, `lognormal`, `normal`,
`superGaussian` and `triangular` are `generatorWith` at their axis kind):
`size` rows, the first column is the `linspace` axis of its kind, the weights lie in [0, 1] and sum to one —
given a density that is non-negative on the axis and positive somewhere on it -/
theorem generator_spec {K : Type} [Field K] [LinearOrder K] [IsStrictOrderedRing K]
    (kind : AxisKind) (pdf : Rat → K) (size : Nat) (scale shift : Rat)
    (h0 : ∀ x ∈ axisOf kind size scale shift, 0 ≤ pdf x) (h1 : ∃ x ∈ axisOf kind size scale shift, 0 < pdf x) :
    (generatorWith kind pdf size scale shift).length = size ∧
    (generatorWith kind pdf size scale shift).map Prod.fst = axisOf kind size scale shift ∧
    ((generatorWith kind pdf size scale shift).map Prod.snd).sum = 1 ∧
    ∀ w ∈ (generatorWith kind pdf size scale shift).map Prod.snd, 0 ≤ w ∧ w ≤ 1 := by
  obtain ⟨hl, hf, _, hs, hw⟩ := kernelWith_spec (axisOf kind size scale shift) pdf h0 h1
  exact ⟨hl.trans (axisOf_length kind size scale shift), hf, hs, hw⟩

theorem generatorWith_isKernel {K : Type} [Field K] [LinearOrder K] [IsStrictOrderedRing K]
    (kind : AxisKind) (pdf : Rat → K) (size : Nat) (scale shift : Rat) (hsize : 0 < size)
    (hpos : ∀ x ∈ axisOf kind size scale shift, 0 < pdf x) :
    IsKernel (generatorWith kind pdf size scale shift) size (axisOf kind size scale shift) := by
  obtain ⟨x, hx⟩ := List.exists_mem_of_length_pos (l := axisOf kind size scale shift)
    (by rw [axisOf_length]; exact hsize)
  exact generator_spec kind pdf size scale shift (fun x hx => (hpos x hx).le) ⟨x, hx, hpos x hx⟩

/-- an everywhere positive density (what `exp` gives the exponential, Laplace, normal and super-Gaussian
generators for a positive width) needs only a non-empty axis -/
theorem generator_spec_of_pos {K : Type} [Field K] [LinearOrder K] [IsStrictOrderedRing K]
    (kind : AxisKind) (pdf : Rat → K) (size : Nat) (scale shift : Rat) (hsize : 0 < size)
    (hpos : ∀ x, 0 < pdf x) :
    (generatorWith kind pdf size scale shift).length = size ∧
    (generatorWith kind pdf size scale shift).map Prod.fst = axisOf kind size scale shift ∧
    ((generatorWith kind pdf size scale shift).map Prod.snd).sum = 1 ∧
    ∀ w ∈ (generatorWith kind pdf size scale shift).map Prod.snd, 0 ≤ w ∧ w ≤ 1 :=
  generatorWith_isKernel kind pdf size scale shift hsize fun x _ => hpos x

example : ((generatorWith (K := Rat) .pos (fun x => 1 / (1 + x ^ 2)) 3 1 0).map Prod.snd).sum = 1 :=
  (generator_spec_of_pos .pos (fun x : Rat => 1 / (1 + x ^ 2)) 3 1 0 (by decide)
    (fun x => by show (0 : Rat) < 1 / (1 + x ^ 2); positivity)).2.2.1

/-- the coded triangular density is non-negative for every `a < b` (wherever 0 lies) -/
theorem triangularPdf_nonneg (a b x : Rat) (hab : a < b) : 0 ≤ triangularPdf a b x :=
  (triangularPdf_sign a b x hab).1

/-- … and positive exactly on the support minus the two foot points (`x = a < 0`, `x = b > 0`) -/
theorem triangularPdf_pos_iff (a b x : Rat) (hab : a < b) :
    0 < triangularPdf a b x ↔ a ≤ x ∧ x ≤ b ∧ ¬(x = a ∧ a < 0) ∧ ¬(x = b ∧ 0 < b) :=
  (triangularPdf_sign a b x hab).2

/-- `triangular(size, a, b, scale, shift)` for `a < b` and an axis point strictly inside `(a, b)`: `size` rows,
first column the axis `linspace(−size/2·scale + shift, size/2·scale + shift, size)`, second column weights in
[0, 1] that sum to one.  Nothing is assumed about the density: this generator is proved completely. -/
theorem triangular_spec (size : Nat) (a b scale shift : Rat) (hab : a < b)
    (hpt : ∃ x ∈ axisSym size scale shift, a < x ∧ x < b) :
    (triangular size a b scale shift).length = size ∧
    (triangular size a b scale shift).map Prod.fst = axisSym size scale shift ∧
    ((triangular size a b scale shift).map Prod.snd).sum = 1 ∧
    ∀ w ∈ (triangular size a b scale shift).map Prod.snd, 0 ≤ w ∧ w ≤ 1 := by
  apply generator_spec .sym (triangularPdf a b) size scale shift
  · intro x _; exact triangularPdf_nonneg a b x hab
  · obtain ⟨x, hx, h1, h2⟩ := hpt
    refine ⟨x, hx, ?_⟩
    rw [triangularPdf_pos_iff a b x hab]
    exact ⟨h1.le, h2.le, fun ⟨e, _⟩ => h1.ne' e, fun ⟨e, _⟩ => h2.ne e⟩

example : (triangular 5 (-2) 2 1 0).map Prod.snd = [0, 3 / 14, 4 / 7, 3 / 14, 0] := by decide +kernel

example : 0 < triangularPdf (-2) 2 (-5 / 4) := by
  rw [triangularPdf_pos_iff (-2) 2 (-5 / 4) (by norm_num)]; norm_num

example : ((triangular 4 (-1) 1 1 0).map Prod.snd).sum = 1 :=
  (triangular_spec 4 (-1) 1 1 0 (by norm_num) ⟨-2 / 3, by decide +kernel, by norm_num, by norm_num⟩).2.2.1

/-- the triangular generator from its parameters alone: the axis point that `triangular_spec` asks for comes from
`linspace_hits` (`hstep`: the axis spacing `size·scale/(size − 1)`; `h1`, `h2`: the support overlaps the axis) -/
theorem triangular_spec_of_params (size : Nat) (a b scale shift : Rat) (hab : a < b) (hn : 2 ≤ size)
    (hsc : 0 < scale) (hstep : (size : Rat) * scale / ((size : Rat) - 1) < b - a)
    (h1 : -(size : Rat) * (1 / 2) * scale + shift < b) (h2 : a < (size : Rat) * (1 / 2) * scale + shift) :
    (triangular size a b scale shift).length = size ∧
    (triangular size a b scale shift).map Prod.fst = axisSym size scale shift ∧
    ((triangular size a b scale shift).map Prod.snd).sum = 1 ∧
    ∀ w ∈ (triangular size a b scale shift).map Prod.snd, 0 ≤ w ∧ w ≤ 1 := by
  have hs : (0 : Rat) < (size : Rat) * scale := mul_pos (Nat.cast_pos.mpr (Nat.zero_lt_two.trans_le hn)) hsc
  have e : (size : Rat) * (1 / 2) * scale + shift - (-(size : Rat) * (1 / 2) * scale + shift)
      = (size : Rat) * scale := by ring
  exact triangular_spec size a b scale shift hab
    (linspace_hits _ _ a b size hn (sub_pos.mp (by rw [e]; exact hs)) (by rw [e]; exact hstep) h1 h2)

/-- `convolve.triangular(10, -5.0, 5.0)` of /repo/tests/test_convolve.py -/
example : ((triangular 10 (-5) 5 1 0).map Prod.snd).sum = 1 :=
  (triangular_spec_of_params 10 (-5) 5 1 0 (by norm_num) (by norm_num) (by norm_num) (by norm_num)
    (by norm_num) (by norm_num)).2.2.1

/-- an odd size of at least three puts `shift` itself on the axis (the centre point): `a < shift < b` is
enough, whatever the scale (zero and negative included) -/
theorem triangular_spec_odd (k : Nat) (hk : 1 ≤ k) (a b scale shift : Rat) (h1 : a < shift) (h2 : shift < b) :
    (triangular (2 * k + 1) a b scale shift).length = 2 * k + 1 ∧
    (triangular (2 * k + 1) a b scale shift).map Prod.fst = axisSym (2 * k + 1) scale shift ∧
    ((triangular (2 * k + 1) a b scale shift).map Prod.snd).sum = 1 ∧
    ∀ w ∈ (triangular (2 * k + 1) a b scale shift).map Prod.snd, 0 ≤ w ∧ w ≤ 1 := by
  apply triangular_spec _ a b scale shift (h1.trans h2)
  have hmid : at0 (axisSym (2 * k + 1) scale shift) k = shift := by
    unfold axisSym
    rw [at0_linspace_mid _ _ k hk]
    ring
  have hmem := at0_mem (axisSym (2 * k + 1) scale shift) k
    (lt_of_lt_of_eq (Nat.lt_succ_of_le (Nat.le_mul_of_pos_left k two_pos))
      (axisOf_length .sym (2 * k + 1) scale shift).symm)
  rw [hmid] at hmem
  exact ⟨shift, hmem, h1, h2⟩

example : ((triangular 3 (-1 / 3) (1 / 7) (-2) 0).map Prod.snd).sum = 1 :=
  (triangular_spec_odd 1 (by norm_num) (-1 / 3) (1 / 7) (-2) 0 (by norm_num) (by norm_num)).2.2.1

/-! ### the eight generators built from `exp`, `log`, real powers and `sqrt(2π)`

`S : Special K` holds those functions; `S.Sound` says `exp` is positive, a power of a positive base is positive,
`0 ** y ≥ 0`, `sqrt(2π) > 0` and `ofRat` is the embedding of ℚ.  Under `S.Sound` every density is positive on
its support for every parameter of the documented domain (the gamma approximation inside `beta_pdf` and
`inversegamma_pdf` is proved positive, `gammaApprox_pos`), so each generator returns `size` rows over its
`linspace` axis with weights in [0, 1] that sum to one.  `realSpecial_sound` discharges `S.Sound` for the real
functions.  (Exact real arithmetic: underflow of a float `exp` to 0 is outside these statements.) -/

section densities
variable {K : Type} [Field K] [LinearOrder K] [IsStrictOrderedRing K] {S : Special K}

theorem exponentialPdf_pos (hS : S.Sound) (lam x : Rat) (hl : 0 < lam) : 0 < exponentialPdf S lam x :=
  hS.mul_exp_pos (hS.ofRat_pos hl) _

theorem laplacePdf_pos (hS : S.Sound) (b mu x : Rat) (hb : 0 < b) : 0 < laplacePdf S b mu x :=
  hS.mul_exp_pos (hS.ofRat_pos (one_div_pos.mpr (mul_pos two_pos hb))) _

theorem normalPdf_pos (hS : S.Sound) (sigma mu x : Rat) (hs : 0 < sigma) : 0 < normalPdf S sigma mu x :=
  hS.mul_exp_pos (hS.norm_pos hs) _

theorem superGaussianPdf_pos (hS : S.Sound) (sigma mu : Rat) (power : Nat) (x : Rat) (hs : 0 < sigma) :
    0 < superGaussianPdf S sigma mu power x :=
  hS.mul_exp_pos (hS.norm_pos hs) _

theorem lognormalPdf_pos (hS : S.Sound) (sigma mu x : Rat) (hs : 0 < sigma) (hx : 0 < x) :
    0 < lognormalPdf S sigma mu x :=
  hS.mul_exp_pos (hS.norm_pos (mul_pos hx hs)) _

theorem loglaplacePdf_pos (hS : S.Sound) (b mu x : Rat) (hb : 0 < b) (hx : 0 < x) :
    0 < loglaplacePdf S b mu x :=
  hS.mul_exp_pos (hS.ofRat_pos (one_div_pos.mpr (mul_pos (mul_pos two_pos hb) hx))) _

theorem inversegammaPdf_pos (hS : S.Sound) (alpha beta x : Rat) (ha : 0 < alpha) (hb : 0 < beta) (hx : 0 < x) :
    0 < inversegammaPdf S alpha beta x :=
  hS.mul_exp_pos (mul_pos (div_pos (hS.rpow_ofRat_pos hb _) (hS.ofRat_pos (gammaApprox_pos alpha ha)))
    (hS.rpow_ofRat_pos hx _)) _

theorem betaPdf_nonneg (hS : S.Sound) (alpha beta x : Rat) (ha : 0 < alpha) (hb : 0 < beta)
    (h0 : 0 ≤ x) (h1 : x ≤ 1) : 0 ≤ betaPdf S alpha beta x :=
  div_nonneg (mul_nonneg (hS.rpow_ofRat_nonneg h0 _) (hS.rpow_ofRat_nonneg (sub_nonneg.mpr h1) _))
    (hS.ofRat_pos (betaNorm_pos alpha beta ha hb)).le

theorem betaPdf_pos (hS : S.Sound) (alpha beta x : Rat) (ha : 0 < alpha) (hb : 0 < beta)
    (h0 : 0 < x) (h1 : x < 1) : 0 < betaPdf S alpha beta x :=
  div_pos (mul_pos (hS.rpow_ofRat_pos h0 _) (hS.rpow_ofRat_pos (sub_pos.mpr h1) _))
    (hS.ofRat_pos (betaNorm_pos alpha beta ha hb))

end densities

section generators
variable {K : Type} [Field K] [LinearOrder K] [IsStrictOrderedRing K] {S : Special K}

/-- `exponential(size, λ, scale, shift)`: every `λ > 0`, every size ≥ 1, every scale and shift -/
theorem exponential_isKernel (hS : S.Sound) (size : Nat) (lam scale shift : Rat) (hn : 0 < size) (hl : 0 < lam) :
    IsKernel (exponential S size lam scale shift) size (axisPos size scale shift) :=
  generatorWith_isKernel .pos _ size scale shift hn fun x _ => exponentialPdf_pos hS lam x hl

/-- `laplace(size, b, mu, scale, shift)`: every `b > 0` -/
theorem laplace_isKernel (hS : S.Sound) (size : Nat) (b mu scale shift : Rat) (hn : 0 < size) (hb : 0 < b) :
    IsKernel (laplace S size b mu scale shift) size (axisSym size scale shift) :=
  generatorWith_isKernel .sym _ size scale shift hn fun x _ => laplacePdf_pos hS b mu x hb

/-- `normal(size, sigma, mu, scale, shift)`: every `sigma > 0` -/
theorem normal_isKernel (hS : S.Sound) (size : Nat) (sigma mu scale shift : Rat) (hn : 0 < size) (hs : 0 < sigma) :
    IsKernel (normal S size sigma mu scale shift) size (axisSym size scale shift) :=
  generatorWith_isKernel .sym _ size scale shift hn fun x _ => normalPdf_pos hS sigma mu x hs

/-- `super_gaussian(size, sigma, mu, power, scale, shift)`: every `sigma > 0`, every integer power -/
theorem superGaussian_isKernel (hS : S.Sound) (size : Nat) (sigma mu : Rat) (power : Nat) (scale shift : Rat)
    (hn : 0 < size) (hs : 0 < sigma) :
    IsKernel (superGaussian S size sigma mu power scale shift) size (axisSym size scale shift) :=
  generatorWith_isKernel .sym _ size scale shift hn fun x _ => superGaussianPdf_pos hS sigma mu power x hs

/-- `lognormal(size, sigma, mu, scale, shift)`: `sigma > 0`, the axis inside `x > 0` -/
theorem lognormal_isKernel (hS : S.Sound) (size : Nat) (sigma mu scale shift : Rat) (hn : 0 < size) (hs : 0 < sigma)
    (h0 : 0 < shift) (h1 : 0 < (size : Rat) * scale + shift) :
    IsKernel (lognormal S size sigma mu scale shift) size (axisPos size scale shift) :=
  generatorWith_isKernel .pos _ size scale shift hn fun x hx =>
    lognormalPdf_pos hS sigma mu x hs (axisPos_pos size scale shift h0 h1 x hx)

/-- `loglaplace(size, b, mu, scale, shift)`: `b > 0`, the axis inside `x > 0` -/
theorem loglaplace_isKernel (hS : S.Sound) (size : Nat) (b mu scale shift : Rat) (hn : 0 < size) (hb : 0 < b)
    (h0 : 0 < shift) (h1 : 0 < (size : Rat) * scale + shift) :
    IsKernel (loglaplace S size b mu scale shift) size (axisPos size scale shift) :=
  generatorWith_isKernel .pos _ size scale shift hn fun x hx =>
    loglaplacePdf_pos hS b mu x hb (axisPos_pos size scale shift h0 h1 x hx)

/-- `inversegamma(size, alpha, beta, scale, shift)`: `alpha, beta > 0`, the axis inside `x > 0` -/
theorem inversegamma_isKernel (hS : S.Sound) (size : Nat) (alpha beta scale shift : Rat) (hn : 0 < size)
    (ha : 0 < alpha) (hb : 0 < beta) (h0 : 0 < shift) (h1 : 0 < (size : Rat) * scale + shift) :
    IsKernel (inversegamma S size alpha beta scale shift) size (axisPos size scale shift) :=
  generatorWith_isKernel .pos _ size scale shift hn fun x hx =>
    inversegammaPdf_pos hS alpha beta x ha hb (axisPos_pos size scale shift h0 h1 x hx)

/-- `beta(size, alpha, beta, scale, shift)`: `alpha, beta > 0` (the property restricts to shapes ≥ 1 so that the
density is finite at 0 and 1; in exact arithmetic positivity needs only > 0), at least three points, the axis
`linspace(shift, scale + shift, size)` inside [0, 1] and not a single point -/
theorem beta_isKernel (hS : S.Sound) (size : Nat) (alpha beta_ scale shift : Rat) (hn : 3 ≤ size)
    (ha : 0 < alpha) (hb : 0 < beta_) (hsc : scale ≠ 0) (h0 : 0 ≤ shift) (h0' : shift ≤ 1)
    (h1 : 0 ≤ 1 * scale + shift) (h1' : 1 * scale + shift ≤ 1) :
    IsKernel (beta S size alpha beta_ scale shift) size (axisUnit size scale shift) := by
  have hlo : 0 ≤ min shift (1 * scale + shift) := le_min h0 h1
  have hhi : max shift (1 * scale + shift) ≤ 1 := max_le h0' h1'
  apply generator_spec .unit _ size scale shift
  · intro x hx
    obtain ⟨h, h'⟩ := linspace_mem_between _ _ _ x hx
    exact betaPdf_nonneg hS alpha beta_ x ha hb (hlo.trans h) (h'.trans hhi)
  · obtain ⟨x, hx, h, h'⟩ := linspace_exists_strictly_between shift (1 * scale + shift) size hn
      (fun h => hsc (by rwa [right_eq_add, one_mul] at h))
    exact ⟨x, hx, betaPdf_pos hS alpha beta_ x ha hb (hlo.trans_lt h) (h'.trans_le hhi)⟩

end generators

/-- with the real `exp`, `log`, powers and `√(2π)` nothing is left to assume: e.g. the normal and the beta
generator over ℝ, for every parameter of their domains -/
theorem normal_real (size : Nat) (sigma mu scale shift : Rat) (hn : 0 < size) (hs : 0 < sigma) :
    IsKernel (normal realSpecial size sigma mu scale shift) size (axisSym size scale shift) :=
  normal_isKernel realSpecial_sound size sigma mu scale shift hn hs

theorem beta_real (size : Nat) (alpha beta_ : Rat) (hn : 3 ≤ size) (ha : 0 < alpha) (hb : 0 < beta_) :
    IsKernel (beta realSpecial size alpha beta_ 1 0) size (axisUnit size 1 0) :=
  beta_isKernel realSpecial_sound size alpha beta_ 1 0 hn ha hb (by norm_num) (by norm_num) (by norm_num)
    (by norm_num) (by norm_num)

/-- a `Special` over ℚ that is `Sound` (so the hypotheses are satisfiable with computable functions too) -/
example : (⟨fun q => q, fun _ => 1, fun t => t, fun _ _ => 1, fun t => t, 1⟩ : Special Rat).Sound :=
  ⟨fun _ => rfl, fun _ => one_pos, fun _ _ _ => one_pos, fun _ => zero_le_one, one_pos⟩

section factors
variable {K : Type} [Field K] {S : Special K}

theorem exponential_factors_prod (lam x : Rat) : exponentialPdf S lam x = (exponentialFactors S lam x).prod :=
  List.prod_pair.symm

theorem laplace_factors_prod (b mu x : Rat) : laplacePdf S b mu x = (laplaceFactors S b mu x).prod :=
  List.prod_pair.symm

theorem normal_factors_prod (sigma mu x : Rat) : normalPdf S sigma mu x = (normalFactors S sigma mu x).prod :=
  List.prod_pair.symm

theorem superGaussian_factors_prod (sigma mu : Rat) (power : Nat) (x : Rat) :
    superGaussianPdf S sigma mu power x = (superGaussianFactors S sigma mu power x).prod :=
  List.prod_pair.symm

theorem lognormal_factors_prod (sigma mu x : Rat) : lognormalPdf S sigma mu x = (lognormalFactors S sigma mu x).prod :=
  List.prod_pair.symm

theorem loglaplace_factors_prod (b mu x : Rat) : loglaplacePdf S b mu x = (loglaplaceFactors S b mu x).prod :=
  List.prod_pair.symm

theorem inversegamma_factors_prod (alpha beta x : Rat) :
    inversegammaPdf S alpha beta x = (inversegammaFactors S alpha beta x).prod := by
  unfold inversegammaPdf inversegammaFactors
  rw [List.prod_cons, List.prod_pair, mul_assoc]

theorem beta_factors_prod [LinearOrder K] [IsStrictOrderedRing K] (hS : S.Sound) (alpha beta x : Rat) :
    betaPdf S alpha beta x = (betaFactors S alpha beta x).prod := by
  simp only [betaPdf, betaFactors, List.prod_cons, List.prod_nil, mul_one]
  -- the code divides by `B`, the factor list multiplies by `ofRat 1 / B`: of `hS` only `S.ofRat 1 = 1` is used
  rw [hS.cast 1, Rat.cast_one, div_eq_mul_inv, one_div, mul_assoc]

end factors

/-- whatever order the factors are multiplied in: when `robustFactors` holds, the product of every sub-collection
of the factors (any sub-multiset, in any order) lies in `[8·2⁻¹⁰⁷⁴, 2¹⁰⁰⁰]` — every intermediate value of the
evaluation is a positive finite double with room to spare, and so is the density itself -/
theorem robustFactors_spec (fs l : List Rat) (hr : robustFactors fs = true) (hl : l.Subperm fs) :
    tailLo ≤ l.prod ∧ l.prod ≤ tailHi := by
  obtain ⟨l', hperm, hsub⟩ := hl
  have hmem := prod_mem_subProducts l' fs hsub
  rw [hperm.prod_eq] at hmem
  unfold robustFactors at hr
  rw [List.all_eq_true] at hr
  have := hr _ hmem
  simpa using this

theorem robustFactors_pos (fs : List Rat) (hr : robustFactors fs = true) : 0 < fs.prod :=
  lt_of_lt_of_le (by unfold tailLo; positivity) (robustFactors_spec fs fs hr (List.Subperm.refl fs)).1

example : robustFactors [1 / 2, 4 * tailLo] = true := by decide +kernel
example : robustFactors [50, tailLo / 64] = false := by decide +kernel

end Pew.Convolve
