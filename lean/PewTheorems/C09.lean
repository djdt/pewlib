import PewProofs.Srr
import PewProofs.SrrObject
import PewProofs.SrrStack

/-! # C09 — property theorems (statements only depend on `PewModel.Srr`) -/
namespace Pew.Srr
open Pew

/-- **The reconstruction of a stack whose layers differ in length.**  `Crossed` fixes one length per layer kind; the
code does not need that: for every stack with `l0` lines in the even and `l1` lines in the odd layers in which EVERY
layer holds the warm-up and the samples read from it (`Ragged`; excess samples differ from layer to layer), every integer
magnification `M ≥ 1`, any non-empty offsets: the validity check accepts (it reads layers 0 and 1), `krisskross`
succeeds with the shape of the crossed case, every voxel is the closed formula `voxel` (which never mentions a line
length) and every source index exists.  (The converse direction is where `Crossed` matters: acceptance looks at the
first two layers only, so for a ragged stack it does not imply that a later layer is long enough.) -/
theorem krisskross_voxel_ragged {α : Type} (z : α) (c : SrrConfig) (M : Nat) (hM : 1 ≤ M)
    (hscan : 0 < c.scantime) (hoffs : c.offs ≠ []) (layers : List (Arr2 α)) (l0 l1 wn : Nat)
    (hw : c.warmup = (wn : Int)) (hr : Ragged layers l0 l1 M wn) :
    validForData c (M : Rat) layers = some true ∧
    ∃ out, krisskross z c (M : Rat) layers = some out ∧
      out.rows = reconRows l0 M (subpixelsPerPixel c.size (M : Rat)) c.offs ∧
      out.cols = reconCols l1 M (subpixelsPerPixel c.size (M : Rat)) c.offs ∧
      out.depth = layers.length ∧
      (∀ r cc i, out.get r cc i
        = voxel z l0 l1 M (subpixelsPerPixel c.size (M : Rat)) wn c.offs layers r cc i) ∧
      (∀ r cc i, i < layers.length →
        voxelInRange l0 l1 M (subpixelsPerPixel c.size (M : Rat)) wn c.offs layers r cc i = true) := by
  obtain ⟨d0, d1, h0, h1, r0, c0, r1, c1⟩ := ragged_heads hr
  refine ⟨?_, _, krisskross_ragged z c M hM hoffs layers l0 l1 wn hw hr, rfl, rfl, rfl, fun _ _ _ => rfl,
    fun r cc i hi => voxelInRange_ragged hr _ _ r cc i hi⟩
  rw [validForData_heads c M hM hscan layers d0 d1 h0 h1, hw, r0, r1]
  exact congrArg some ((validSpec_iff _ _ _ _ _ _).mpr ⟨Int.natCast_nonneg wn, by exact_mod_cast c0, by exact_mod_cast c1⟩)

/-- non-vacuity: three layers, the third (even) one two samples longer than the first -/
example :
    let mk : Nat → Nat → Arr2 Int := fun r c => { rows := r, cols := c, get := fun a b => a * 100 + b }
    Ragged [mk 2 4, mk 3 3, mk 2 6] 2 3 1 1 := by
  refine ⟨by decide, ?_⟩
  intro i l hl
  match i with
  | 0 => cases hl; exact ⟨rfl, by decide⟩
  | 1 => cases hl; exact ⟨rfl, by decide⟩
  | 2 => cases hl; exact ⟨rfl, by decide⟩
  | (k + 3) => cases hl

/-- **The reconstruction is the geometric model.**  For every crossed stack (≥ 2 layers, even
layers `l0 × s0`, odd layers `l1 × s1`), every integer magnification `M ≥ 1`, every configuration
(any warm-up, any non-empty offset list, any sub-pixel size) that `validForData` accepts:
`krisskross` succeeds, its shape is `(l0·M·p + max offset, l1·M·p + max offset, layers)`, every
voxel equals the one prescribed by the closed formula `voxel` (the trimmed, stretched, transposed,
enlarged and shifted layer; zero outside its footprint), and every source index the formula uses
exists in its layer. -/
theorem krisskross_voxel {α : Type} (z : α) (c : SrrConfig) (M : Nat) (hM : 1 ≤ M)
    (hscan : 0 < c.scantime) (hoffs : c.offs ≠ [])
    (layers : List (Arr2 α)) (l0 s0 l1 s1 : Nat) (hc : Crossed layers l0 s0 l1 s1)
    (hv : validForData c (M : Rat) layers = some true) :
    ∃ out, krisskross z c (M : Rat) layers = some out ∧
      out.rows = reconRows l0 M (subpixelsPerPixel c.size (M : Rat)) c.offs ∧
      out.cols = reconCols l1 M (subpixelsPerPixel c.size (M : Rat)) c.offs ∧
      out.depth = layers.length ∧
      (∀ r cc i, out.get r cc i
        = voxel z l0 l1 M (subpixelsPerPixel c.size (M : Rat)) c.warmup.toNat c.offs layers r cc i) ∧
      (∀ r cc i, i < layers.length →
        voxelInRange l0 l1 M (subpixelsPerPixel c.size (M : Rat)) c.warmup.toNat c.offs layers r cc i = true) := by
  obtain ⟨wn, hw, hr⟩ := crossed_valid c M hM hscan layers l0 s0 l1 s1 hc hv
  rw [hw, Int.toNat_natCast]
  exact (krisskross_voxel_ragged z c M hM hscan hoffs layers l0 l1 wn hw hr).2

/-- non-vacuity: a non-square stack at magnification exactly 1 (two 3 × 5 layers, default offsets) is accepted, so
`krisskross_voxel` applies to it -/
example :
    let c := SrrConfig.make 35 140 (1 / 4) 0 [(0, 2), (1, 2)]
    let l : Arr2 Int := { rows := 3, cols := 5, get := fun r k => r * 5 + k + 1 }
    c.magnification = ((1 : Nat) : Rat) ∧ Crossed [l, l] 3 5 3 5 ∧ c.offs ≠ [] ∧ 0 < c.scantime ∧
      validForData c ((1 : Nat) : Rat) [l, l] = some true := by
  refine ⟨by decide +kernel, ⟨by decide, ?_⟩, by decide +kernel, by decide +kernel, by decide +kernel⟩
  intro i l hl
  match i with
  | 0 => cases hl; exact ⟨rfl, rfl⟩
  | 1 => cases hl; exact ⟨rfl, rfl⟩
  | (k + 2) => cases hl

/-- The same for a configuration as the code holds it: when the float64 value of `spotsize / (speed * scantime)`
(`SrrConfig.magnification`, two rounded operations) is the integer `M ≥ 1` - "integer magnification" - the functions that
read `self.config.magnification` (`valid_for_data`, `krisskross`, `subpixels_per_pixel`) behave as `krisskross_voxel` says,
up to its last clause (the source indices, which do not involve the magnification as a float). -/
theorem krisskross_voxel_of_config {α : Type} (z : α) (c : SrrConfig) (M : Nat) (hM : 1 ≤ M)
    (hm : c.magnification = (M : Rat)) (hscan : 0 < c.scantime) (hoffs : c.offs ≠ [])
    (layers : List (Arr2 α)) (l0 s0 l1 s1 : Nat) (hc : Crossed layers l0 s0 l1 s1)
    (hv : validForData c c.magnification layers = some true) :
    ∃ out, krisskross z c c.magnification layers = some out ∧
      out.rows = reconRows l0 M (subpixelsPerPixel c.size c.magnification) c.offs ∧
      out.cols = reconCols l1 M (subpixelsPerPixel c.size c.magnification) c.offs ∧
      out.depth = layers.length ∧
      (∀ r cc i, out.get r cc i
        = voxel z l0 l1 M (subpixelsPerPixel c.size c.magnification) c.warmup.toNat c.offs layers r cc i) := by
  rw [hm] at hv ⊢
  exact ⟨_, krisskross_crossed z c M hM hscan hoffs layers l0 s0 l1 s1 hc hv, rfl, rfl, rfl, fun _ _ _ => rfl⟩

/-- non-vacuity: speed 1.7, scan time 0.1 and spot size 2·(1.7·0.1) as float64 values: the exact quotient of the three
floats is not 2, the float64 magnification is exactly 2 -/
example :
    let c := SrrConfig.make (6124895493223875 / 18014398509481984) (7656119366529843 / 4503599627370496)
      (3602879701896397 / 36028797018963968) 0 [(0, 1)]
    c.magnification = ((2 : Nat) : Rat) ∧ c.magnificationExact ≠ 2 := by decide +kernel

/-- **Acceptance implies that every intermediate shape matches**, so no NumPy assignment can fail:
each prepared layer has exactly the shape `(l0·M, l1·M)` of its slot in `aligned`, each target
region of `subpixel_offset` has exactly the shape of the enlarged block, and both steps succeed. -/
theorem valid_implies_shapes_agree {α : Type} (z : α) (c : SrrConfig) (M : Nat) (hM : 1 ≤ M)
    (hscan : 0 < c.scantime) (hoffs : c.offs ≠ [])
    (layers : List (Arr2 α)) (l0 s0 l1 s1 : Nat) (hc : Crossed layers l0 s0 l1 s1)
    (hv : validForData c (M : Rat) layers = some true) :
    (∀ (i : Nat) (l : Arr2 α), layers[i]? = some l →
      (prepLayer c.warmup (magInt (M : Rat)) (magAxis (M : Rat)) (l1 * M) (l0 * M) i l).rows = l0 * M ∧
      (prepLayer c.warmup (magInt (M : Rat)) (magAxis (M : Rat)) (l1 * M) (l0 * M) i l).cols = l1 * M) ∧
    (∃ a, aligned z c (M : Rat) layers = some a ∧ a.rows = l0 * M ∧ a.cols = l1 * M ∧ a.depth = layers.length ∧
      ∀ i p, let ov := maxList c.offs
        let rg := region (effOffsets (c.offs.map (fun o => (o, o)))) ov ov (a.rows * p + ov) (a.cols * p + ov) i
        rg.1.2 - rg.1.1 = a.rows * p ∧ rg.2.2 - rg.2.1 = a.cols * p) ∧
    (krisskross z c (M : Rat) layers).isSome = true := by
  obtain ⟨wn, hw, hr⟩ := crossed_valid c M hM hscan layers l0 s0 l1 s1 hc hv
  refine ⟨fun i l hl => ?_, ⟨_, aligned_ragged z c M hM layers l0 l1 wn hw hr, rfl, rfl, rfl, fun i p => ?_⟩, ?_⟩
  · rw [magInt_natCast M hM, magAxis_natCast M hM, hw, prepLayer_ragged hr hl]
    exact ⟨rfl, rfl⟩
  · have h := region_canvas (effOffsets (c.offs.map (fun o => (o, o)))) (effOffsets_ne_nil _ (by simpa using hoffs))
      (l0 * M) (l1 * M) p p i
    simp only [effOffsets_diag, map_fst_diag, map_snd_diag, maxList_effList] at h ⊢
    rw [h]
    exact ⟨Nat.add_sub_cancel_left _ _, Nat.add_sub_cancel_left _ _⟩
  · rw [krisskross_ragged z c M hM hoffs layers l0 l1 wn hw hr]
    rfl

/-- `subpixel_offset` in general (independent x / y offsets and enlargements, any non-empty offset
list): it never fails, the canvas is the enlarged image plus the largest offset per axis, layer `i`
is the enlarged layer placed at the `i mod len`-th effective offset (a zero pair is prepended when
the first offset is not zero) and the canvas is zero elsewhere. -/
theorem subpixel_offset_spec {α : Type} (z : α) (x : Arr3 α) (offs : List (Nat × Nat)) (hne : offs ≠ [])
    (ps : Nat × Nat) :
    ∃ out, subpixelOffset z x offs ps = some out ∧
      out.rows = x.rows * ps.1 + maxList ((effOffsets offs).map (·.1)) ∧
      out.cols = x.cols * ps.2 + maxList ((effOffsets offs).map (·.2)) ∧
      out.depth = x.depth ∧
      ∀ r cc i, out.get r cc i =
        (if ((effOffsets offs).getD (i % (effOffsets offs).length) (0, 0)).1 ≤ r ∧
            r < ((effOffsets offs).getD (i % (effOffsets offs).length) (0, 0)).1 + x.rows * ps.1 ∧
            ((effOffsets offs).getD (i % (effOffsets offs).length) (0, 0)).2 ≤ cc ∧
            cc < ((effOffsets offs).getD (i % (effOffsets offs).length) (0, 0)).2 + x.cols * ps.2 then
          x.get ((r - ((effOffsets offs).getD (i % (effOffsets offs).length) (0, 0)).1) / ps.1)
                ((cc - ((effOffsets offs).getD (i % (effOffsets offs).length) (0, 0)).2) / ps.2) i
        else z) :=
  ⟨_, subpixelOffset_eq z x offs hne ps, rfl, rfl, rfl, fun _ _ _ => rfl⟩

example : effOffsets [(1, 2), (0, 3)] = [(0, 0), (1, 2), (0, 3)] ∧ effOffsets [(0, 0), (1, 1)] = [(0, 0), (1, 1)] := by
  decide

/-- **The flattened image is the per-pixel mean over the layers** of the voxels of the geometric
model (same hypotheses as `krisskross_voxel`).
What this rests on: `np.mean(data, axis=2)` is modelled as `meanDepth`, the EXACT sum of the layer values divided by
the number of layers.  NumPy adds float64 values in some order and divides once, so the real result can differ from
the exact mean by rounding; the statement is about the exact mean and the harness compares at 1e-12 relative (the
generated float64 payloads are integer multiples of 1/4 below 2⁴⁸ in at most 16 layers, for which the float sum is exact
and only the division rounds).  The content
of the theorem is that `get(flat=True)` averages exactly the voxels of `krisskross_voxel` over all layers, zeros of
layers outside their footprint included, and divides by the number of layers (not by the number of covering layers). -/
theorem flat_is_mean (c : SrrConfig) (M : Nat) (hM : 1 ≤ M) (hscan : 0 < c.scantime) (hoffs : c.offs ≠ [])
    (layers : List (Arr2 Rat)) (l0 s0 l1 s1 : Nat) (hc : Crossed layers l0 s0 l1 s1)
    (hv : validForData c (M : Rat) layers = some true) :
    ∃ f, getFlat c (M : Rat) layers = some f ∧
      f.rows = reconRows l0 M (subpixelsPerPixel c.size (M : Rat)) c.offs ∧
      f.cols = reconCols l1 M (subpixelsPerPixel c.size (M : Rat)) c.offs ∧
      ∀ r cc, f.get r cc
        = flatSpec l0 l1 M (subpixelsPerPixel c.size (M : Rat)) c.warmup.toNat c.offs layers r cc :=
  ⟨_, congrArg (Option.map meanDepth) (krisskross_crossed 0 c M hM hscan hoffs layers l0 s0 l1 s1 hc hv), rfl, rfl, fun _ _ => rfl⟩

/-- **Reading a single layer returns that layer unmodified, transposed for odd layers**, on `getLayer` (a copy, `.T` when
odd).  `layer_read_pointwise` is the statement on `srrGet`, the model of `SRRLaser.get` with its `layer` / reconstruction
branches and the final `flat` step, against the pointwise formula `layerSpec`. -/
theorem layer_read {α : Type} (layers : List (Arr2 α)) (i : Nat) (l : Arr2 α) (h : layers[i]? = some l) :
    ∃ a, getLayer layers i = some a ∧
      (i % 2 = 0 → a = l) ∧
      (i % 2 = 1 → a.rows = l.cols ∧ a.cols = l.rows ∧ ∀ r cc, a.get r cc = l.get cc r) :=
  ⟨_, getLayer_eq h, fun h0 => by rw [layerSpec, if_pos h0], fun h1 => by
    rw [layerSpec, if_neg (by omega)]; exact ⟨rfl, rfl, fun _ _ => rfl⟩⟩

/-- the `subpixel_offsets` setter stores every offset exactly on the common sub-pixel grid:
each denominator divides the sub-pixel size and `stored / size = offset / denominator` -/
theorem offsets_setter_exact (spotsize speed scantime warmup : Rat) (pairs : List (Nat × Nat))
    (hd : ∀ p ∈ pairs, 1 ≤ p.2) :
    let c := SrrConfig.make spotsize speed scantime warmup pairs
    1 ≤ c.size ∧ c.offs.length = pairs.length ∧
    ∀ (k : Nat) (hk : k < pairs.length), pairs[k].2 ∣ c.size ∧
      c.offs.getD k 0 * pairs[k].2 = pairs[k].1 * c.size := by
  intro c
  refine ⟨lcmList_pos (List.forall_mem_map.mpr hd), List.length_map _, fun k hk => ?_⟩
  have hdvd : pairs[k].2 ∣ c.size := dvd_lcmList (List.mem_map_of_mem (List.getElem_mem hk))
  refine ⟨hdvd, ?_⟩
  rw [show c.offs.getD k 0 = pairs[k].1 * c.size / pairs[k].2 by
    simp only [c, SrrConfig.make, List.getD_eq_getElem?_getD, List.getElem?_map, List.getElem?_eq_getElem hk]; rfl]
  exact Nat.div_mul_cancel (Nat.dvd_trans hdvd (Nat.dvd_mul_left _ _))

/-- **An SRR configuration survives conversion to and from its array form unchanged**: every
configuration the constructor produces from a non-zero scan time and a non-empty list of offsets
with positive denominators (any spot size, speed, warm-up of at most 2⁵⁰ samples).  The float roundings of the
getter's product `_warmup * scantime` and of the setter's quotient are part of the statement (`fl`). -/
theorem srrconfig_roundtrip (spotsize speed scantime warmup : Rat) (pairs : List (Nat × Nat))
    (hs : scantime ≠ 0) (hp : pairs ≠ []) (hd : ∀ p ∈ pairs, 1 ≤ p.2)
    (hw : (SrrConfig.make spotsize speed scantime warmup pairs).warmup.natAbs ≤ 2 ^ 50) :
    SrrConfig.fromArray (SrrConfig.make spotsize speed scantime warmup pairs).toArray
      = SrrConfig.make spotsize speed scantime warmup pairs := by
  apply fromArray_toArray
  · exact hs
  · simpa [SrrConfig.make] using hp
  · exact (offsets_setter_exact spotsize speed scantime warmup pairs hd).1
  · exact hw

example : SrrConfig.fromArray (SrrConfig.make 35 140 (1 / 4) (25 / 2) [(0, 2), (1, 3)]).toArray
    = SrrConfig.make 35 140 (1 / 4) (25 / 2) [(0, 2), (1, 3)] :=
  srrconfig_roundtrip _ _ _ _ _ (by norm_num) (by simp) (by decide) (by decide +kernel)

/-- **Acceptance is exactly the specification `validSpec`**: for every crossed stack, integer magnification `M ≥ 1`
and positive scan time, `valid_for_data` answers `validSpec`: warm-up not negative (the check reads the float product
`_warmup * scantime`, whose sign is the sign of `_warmup`) and every line long enough.  Both directions: nothing that
meets the specification is rejected. -/
theorem valid_iff_spec {α : Type} (c : SrrConfig) (M : Nat) (hM : 1 ≤ M) (hscan : 0 < c.scantime)
    (layers : List (Arr2 α)) (l0 s0 l1 s1 : Nat) (hc : Crossed layers l0 s0 l1 s1) :
    validForData c (M : Rat) layers = some (validSpec c.warmup M l0 s0 l1 s1) := by
  obtain ⟨d0, d1, h0, h1, r0, c0, r1, c1⟩ := crossed_heads layers l0 s0 l1 s1 hc
  rw [validForData_heads c M hM hscan layers d0 d1 h0 h1, r0, c0, r1, c1]

/-- **The specification of acceptance is exactly "the geometric model can be evaluated"**: for a crossed stack with at
least one line per layer kind, `M ≥ 1`, `p ≥ 1` sub-pixels per pixel and any offset list, `validSpec` holds
iff the warm-up is not negative and every source index the formula `voxel` uses exists in its layer.  So a stack is
accepted (`valid_iff_spec`) exactly when each output voxel has a sample to take. -/
theorem valid_iff_evaluable {α : Type} (w : Int) (M p : Nat) (hM : 1 ≤ M) (hp : 1 ≤ p) (offs : List Nat)
    (layers : List (Arr2 α)) (l0 s0 l1 s1 : Nat) (hl0 : 1 ≤ l0) (hl1 : 1 ≤ l1) (hc : Crossed layers l0 s0 l1 s1) :
    validSpec w M l0 s0 l1 s1 = true ↔
      (0 ≤ w ∧ ∀ r cc i, i < layers.length → voxelInRange l0 l1 M p w.toNat offs layers r cc i = true) := by
  constructor
  · intro hv
    obtain ⟨hw0, ha, hb⟩ := (validSpec_iff _ _ _ _ _ _).mp hv
    obtain ⟨wn, rfl⟩ := Int.eq_ofNat_of_zero_le hw0
    refine ⟨hw0, fun r cc i hi => ?_⟩
    rw [Int.toNat_natCast]
    exact voxelInRange_ragged (hc.ragged (by exact_mod_cast ha) (by exact_mod_cast hb)) p offs r cc i hi
  · rintro ⟨hw0, hall⟩
    obtain ⟨wn, rfl⟩ := Int.eq_ofNat_of_zero_le hw0
    simp only [Int.toNat_natCast] at hall
    obtain ⟨d0, d1, h0, h1, r0, c0, r1, c1⟩ := crossed_heads layers l0 s0 l1 s1 hc
    have hlen := hc.1
    have ha : 1 ≤ l0 * M := Nat.mul_le_mul hl0 hM
    have hb : 1 ≤ l1 * M := Nat.mul_le_mul hl1 hM
    have hap : 1 ≤ l0 * M * p := Nat.mul_le_mul ha hp
    have hbp : 1 ≤ l1 * M * p := Nat.mul_le_mul hb hp
    -- the last voxel of the footprint of layer 0 and of layer 1
    have k0 := hall (layerOffset offs 0 + (l0 * M * p - 1)) (layerOffset offs 0 + (l1 * M * p - 1)) 0 (by omega)
    have k1 := hall (layerOffset offs 1 + (l0 * M * p - 1)) (layerOffset offs 1 + (l1 * M * p - 1)) 1 (by omega)
    simp only [voxelInRange, h0, h1, inFootprint, sourceIndex, Nat.add_sub_cancel_left, div_pred_mul _ p ha hp,
      div_pred_mul _ p hb hp, Bool.and_eq_true, decide_eq_true_eq, Nat.le_add_right,
      Nat.add_lt_add_iff_left, Nat.sub_lt hap Nat.one_pos, Nat.sub_lt hbp Nat.one_pos, and_self, if_true, Nat.zero_mod,
      Nat.one_mod, Nat.one_ne_zero, if_false] at k0 k1
    refine (validSpec_iff _ _ _ _ _ _).mpr ⟨Int.natCast_nonneg _, ?_, ?_⟩
    · have : wn + l1 * M ≤ s0 := by omega
      exact_mod_cast this
    · have : wn + l0 * M ≤ s1 := by omega
      exact_mod_cast this

example : validSpec 2 3 2 8 1 8 = true ∧ validSpec 2 3 2 4 1 8 = false ∧ validSpec (-1) 1 2 9 2 9 = false := by decide

/-- **Reading a single layer, stated on `SRRLaser.get` itself** (`srrGet`: layer selection, the reconstruction
branch, the final `flat` step): for every stack, every existing layer `i`, with or without `flat`, whatever the
configuration and the mean function, the result is a 2-d image and it is `layerSpec`: as many rows and columns as the
stored layer (exchanged for odd `i`) and pixel `(r, cc)` is the stored pixel `(r, cc)` (`(cc, r)` for odd `i`).
No warm-up is trimmed, nothing is stretched or shifted, `flat` does not average a single layer. -/
theorem layer_read_pointwise {α : Type} (z : α) (mean : Arr3 α → Arr2 α) (c : SrrConfig) (m : Rat)
    (layers : List (Arr2 α)) (i : Nat) (l : Arr2 α) (h : layers[i]? = some l) (flat : Bool) :
    ∃ a, srrGet z mean c m layers (some i) flat = some (.img a) ∧
      a.rows = (if i % 2 = 0 then l.rows else l.cols) ∧ a.cols = (if i % 2 = 0 then l.cols else l.rows) ∧
      (∀ r cc, a.get r cc = if i % 2 = 0 then l.get r cc else l.get cc r) ∧
      a = layerSpec l i ∧ getLayer layers i = some a := by
  exact ⟨layerSpec l i, by simp [srrGet, h, view_eq_layerSpec], layerSpec_rows l i, layerSpec_cols l i, layerSpec_get l i,
    rfl, getLayer_eq h⟩

example : ∃ a, srrGet (0 : Int) (fun x => { rows := x.rows, cols := x.cols, get := fun _ _ => 0 })
      (SrrConfig.make 35 140 (1 / 4) 0 [(0, 1)]) 1
      [{ rows := 1, cols := 2, get := fun _ k => k }, { rows := 2, cols := 3, get := fun r k => 10 * r + k }] (some 1) true
    = some (.img a) ∧ a.rows = 3 ∧ a.cols = 2 ∧ a.get 2 1 = 12 := by
  obtain ⟨a, h, hr, hcc, hg, _⟩ := layer_read_pointwise (0 : Int) (fun x => { rows := x.rows, cols := x.cols, get := fun _ _ => 0 })
    (SrrConfig.make 35 140 (1 / 4) 0 [(0, 1)]) 1
    [{ rows := 1, cols := 2, get := fun _ k => k }, { rows := 2, cols := 3, get := fun r k => 10 * r + k }] 1 _ rfl true
  exact ⟨a, h, by simpa using hr, by simpa using hcc, by rw [hg]; simp⟩

/-- `get()` and `get(flat=True)` through `srrGet`: the reconstruction, respectively its mean over the layers
(`getFlat`), so `krisskross_voxel` / `flat_is_mean` speak about what `get` returns -/
theorem srrGet_reconstruction {α : Type} (z : α) (mean : Arr3 α → Arr2 α) (c : SrrConfig) (m : Rat)
    (layers : List (Arr2 α)) :
    srrGet z mean c m layers none false = (krisskross z c m layers).map .stack ∧
    srrGet z mean c m layers none true = (krisskross z c m layers).map (fun a => .img (mean a)) := by
  constructor <;> (simp only [srrGet]; cases krisskross z c m layers <;> simp)

/-- the constructor is the two setters applied to the raster parameters, and `set_equal_subpixel_offsets(n)` stores what
the `subpixel_offsets` setter stores for the offsets `0/n, 1/n, …, (n-1)/n` (`n ≥ 1`) -/
theorem setters_compose (spotsize speed scantime warmup : Rat) (pairs : List (Nat × Nat)) (c : SrrConfig) (n : Nat) (hn : 1 ≤ n) :
    SrrConfig.make spotsize speed scantime warmup pairs
      = (({ spotsize := spotsize, speed := speed, scantime := scantime, warmup := 0, size := 0, offs := [] } : SrrConfig).setWarmup
          warmup).setOffsets pairs ∧
    c.setEqualOffsets n = c.setOffsets ((List.range n).map (fun k => (k, n))) := by
  refine ⟨rfl, ?_⟩
  rw [setOffsets_const c _ n (by simpa using Nat.ne_of_gt hn) hn]
  rfl

example : (SrrConfig.make 35 140 (1 / 4) 0 [(0, 1)]).setEqualOffsets 3
    = SrrConfig.make 35 140 (1 / 4) 0 [(0, 3), (1, 3), (2, 3)] := by decide +kernel

/-- **The warm-up in samples is the exact quotient rounded half-even** (`warmupSpec`) whenever float rounding cannot
matter: the quotient is a float64 itself (e.g. an exact tie `k + 1/2`), or it is farther from the nearest rounding tie
than the float rounding error `|x| / 2⁵³`. -/
theorem warmup_setter_determined (c : SrrConfig) (seconds : Rat) (n : Int)
    (h : fl (seconds / c.scantime) = seconds / c.scantime ∨
      ((n : Rat) - 1 / 2 < seconds / c.scantime - |seconds / c.scantime| / 2 ^ 53 ∧
        seconds / c.scantime + |seconds / c.scantime| / 2 ^ 53 < (n : Rat) + 1 / 2)) :
    (c.setWarmup seconds).warmup = warmupSpec seconds c.scantime := by
  show roundHalfEven (fl (seconds / c.scantime)) = roundHalfEven (seconds / c.scantime)
  rcases h with h | ⟨h1, h2⟩
  · rw [h]
  · have he := fl_relerr (seconds / c.scantime)
    generalize |seconds / c.scantime| / 2 ^ 53 = e at h1 h2 he
    have hx : |seconds / c.scantime - n| < 1 / 2 - e := abs_sub_lt_iff.mpr ⟨by linarith only [h2], by linarith only [h1]⟩
    exact roundHalfEven_pair _ _ n ((add_lt_add_of_le_of_lt he hx).trans_eq (add_sub_cancel e _))

example : ((SrrConfig.make 35 140 (1 / 4) 0 [(0, 1)]).setWarmup (3 / 8)).warmup = 2 ∧ warmupSpec (3 / 8) (1 / 4) = 2 := by
  decide +kernel

/-- **The array form as NumPy holds it** (`toRec`: the 0-d record `spotsize, speed, scantime, warmup,
subpixel_offsets` with the `(k, 2)` integer table) read back by name through the keyword constructor (`fromRec`) is the
constructor applied to the five values, so under the hypotheses of `srrconfig_roundtrip` it is the configuration
itself; and the 3-field record of a plain `Config` is accepted too, the missing fields taking the defaults of `__init__`. -/
theorem srrconfig_record_roundtrip (c : SrrConfig) (hs : c.scantime ≠ 0) (ho : c.offs ≠ []) :
    SrrConfig.fromRec c.toRec = .ok (SrrConfig.fromArray c.toArray) ∧
    (1 ≤ c.size → c.warmup.natAbs ≤ 2 ^ 50 → SrrConfig.fromRec c.toRec = .ok c) ∧
    (∀ spotsize speed scantime : Rat, scantime ≠ 0 →
      SrrConfig.fromRec { names := ["spotsize", "speed", "scantime"], dim := none,
                          recs := [[.num spotsize, .num speed, .num scantime]] }
        = .ok (SrrConfig.make spotsize speed scantime (25 / 2) [(0, 2), (1, 2)])) := by
  have key : SrrConfig.fromRec c.toRec = .ok (SrrConfig.fromArray c.toArray) :=
    fromRec_natTable _ _ _ _ c.toArray.offsets hs (by simpa [SrrConfig.toArray, SrrConfig.subpixelOffsets] using ho)
  refine ⟨key, fun hz hw => by rw [key, fromArray_toArray c hs ho hz hw], fun spotsize speed scantime hsc => ?_⟩
  refine (show SrrConfig.fromRec _ = ite (scantime = 0) _ _ from rfl).trans ?_
  rw [if_neg hsc]
  rfl

example : SrrConfig.fromRec (SrrConfig.make 35 140 (1 / 4) (1 / 2) [(0, 2), (1, 3)]).toRec
    = .ok (SrrConfig.make 35 140 (1 / 4) (1 / 2) [(0, 2), (1, 3)]) := by decide +kernel

/-! ## structured stacks: elements, and changes of the element set between two reconstructions -/

/-- **The reconstruction acts cell by cell**: for every change `f` of the cell type (another structured dtype: fields
dropped, reordered, renamed, one field picked, values converted), any configuration and any stack - accepted or not -
reconstructing the changed stack is the change applied to every voxel of the reconstruction, the zero outside the
footprints being `f` of the zero record.  Nothing of the result depends on the cell type, so an object that
reconstructs a stack after its dtype changed owes exactly the voxels of the NEW cells. -/
theorem krisskross_pixelwise {α β : Type} (f : α → β) (z : α) (c : SrrConfig) (m : Rat) (layers : List (Arr2 α)) :
    krisskross (f z) c m (layers.map (Arr2.map f)) = (krisskross z c m layers).map (Arr3.map f) := by
  unfold krisskross
  rw [aligned_map]
  cases aligned z c m layers with
  | none => rfl
  | some a => exact subpixelOffset_map f z a _ _

/-- **Every element is reconstructed by itself**: element `e` of the structured reconstruction (`get()[name]`,
`get(name)`) of a stack with `n` fields is the reconstruction of the layers' element `e`. -/
theorem reconstruction_per_element (n e : Nat) (c : SrrConfig) (m : Rat) (layers : List (Arr2 (List Int))) :
    (krisskross (zeroPx n) c m layers).map (Arr3.map (fieldOf e))
      = krisskross (0 : Int) c m (layers.map (Arr2.map (fieldOf e))) := by
  have hz : fieldOf e (zeroPx n) = 0 := by
    simp only [fieldOf, zeroPx, List.getD_eq_getElem?_getD, List.getElem?_replicate]
    split <;> rfl
  rw [← hz]
  exact (krisskross_pixelwise (fieldOf e) (zeroPx n) c m layers).symm

example : fieldOf 1 (zeroPx 3) = 0 ∧ Arr2.map (fieldOf 1) { rows := 1, cols := 1, get := fun _ _ => [4, 5, 6] }
    = ({ rows := 1, cols := 1, get := fun _ _ => fieldOf 1 [4, 5, 6] } : Arr2 Int) ∧ fieldOf 1 [4, 5, 6] = 5 :=
  ⟨by decide, rfl, by decide⟩

/-- **Changing the element set and reconstructing again.**  For a stack `s`, any configuration `c`, `m`:
* `rename`: the layers are the same, the fields carry the new names (same dtypes, same order);
* `remove`: the remaining fields in their old order, and the reconstruction of the new stack is the old reconstruction
  with the removed fields dropped from every voxel;
* `add`: one more field at the end; the old elements of the new reconstruction are the old reconstruction's, the new
  element is the reconstruction of the added data.
(`Stack.apply = some s'` is the hypothesis that pewlib performs the change: names exist / do not exist yet, no duplicate,
a field remains, the added data has the layers' shapes.) -/
theorem element_edits_then_reconstruct (s s' : Stack) (c : SrrConfig) (m : Rat) :
    (∀ mp, s.apply (.rename mp) = some s' →
      s'.layers = s.layers ∧ s'.fields = s.fields.map (fun f => (renameName mp f.1, f.2))) ∧
    (∀ names, s.apply (.remove names) = some s' →
      s'.fields = (keepIdx s.fields names).filterMap (fun i => s.fields[i]?) ∧
      s'.fields.length = (keepIdx s.fields names).length ∧
      krisskross (zeroPx s'.fields.length) c m s'.layers
        = (krisskross (zeroPx s.fields.length) c m s.layers).map (Arr3.map (pickIdx (keepIdx s.fields names)))) ∧
    (∀ name dt data, s.apply (.add name dt data) = some s' →
      s'.fields = s.fields ++ [(name, dt)] ∧
      (∀ e, e < s.fields.length →
        (krisskross (zeroPx (s.fields.length + 1)) c m s'.layers).map (Arr3.map (fieldOf e))
          = (krisskross (zeroPx s.fields.length) c m s.layers).map (Arr3.map (fieldOf e))) ∧
      (krisskross (zeroPx (s.fields.length + 1)) c m s'.layers).map (Arr3.map (fieldOf s.fields.length))
        = krisskross (0 : Int) c m data) := by
  refine ⟨fun mp => apply_rename, fun names h => ?_, fun name dt data h => ?_⟩
  · obtain ⟨hf, hl, hly⟩ := apply_remove h
    rw [hl, hly, ← pickIdx_zero _ s.fields.length]
    exact ⟨hf, rfl, krisskross_pixelwise _ _ c m s.layers⟩
  · obtain ⟨hf, hold, hnew⟩ := apply_add h
    exact ⟨hf, fun e he => by rw [reconstruction_per_element, reconstruction_per_element, hold e he],
      by rw [reconstruction_per_element, hnew]⟩

example :
    let l : Arr2 (List Int) := { rows := 1, cols := 1, get := fun _ _ => [1, 2] }
    let d : Arr2 Int := { rows := 1, cols := 1, get := fun _ _ => 3 }
    let s : Stack := { fields := [("A", "<f8"), ("B", "<f8")], layers := [l, l] }
    (s.apply (.remove ["A"])).map (·.fields) = some [("B", "<f8")] ∧
    (s.apply (.rename [("A", "B"), ("B", "A")])).map (·.fields) = some [("B", "<f8"), ("A", "<f8")] ∧
    (s.apply (.add "C" "<f4" [d, d])).map (·.fields) = some [("A", "<f8"), ("B", "<f8"), ("C", "<f4")] ∧
    ((s.apply (.add "C" "<f4" [d, d])).map (fun t => t.layers.map (fun a => a.get 0 0))) = some [[1, 2, 3], [1, 2, 3]] ∧
    (s.apply (.rename [("A", "B")])).isNone = true ∧ (s.apply (.remove ["A", "B"])).isNone = true ∧
    (s.apply (.add "A" "<f8" [d, d])).isNone = true := by
  decide +kernel

/-! ## the object between calls: `get` with calibration, histories of reads and changes -/

/-- **`SRRLaser.get` as the code runs is the specification, and leaves the object as it was.**  For an object whose
layers are distinct existing buffers (`WF`; a dtype with at least one field) and every argument combination
(`element` or all, `calibrate`, `flat`, `layer` or the reconstruction): the array returned by the mechanism - copy of the
layer into a NEW buffer, `.T` view, field view, the in-place loop `data[name] = calibration[name].calibrate(data[name])`
through the view, mean - is `getSpec` of the stored layers (pixel by pixel the stored layer / the reconstruction, each
field through its own calibration), it fails exactly when `getSpec` fails, and afterwards `self.data`, names,
calibrations and configuration are the same and EVERY buffer that existed before has the contents it had. -/
theorem get_eq_spec {ρ : Type} (z : ρ) (mean : List ρ → ρ) (o : Laser ρ) (hwf : o.WF) (a : GetArgs) :
    (o.get z mean a).map Prod.snd = getSpec z mean o.store.layers o.names o.cal o.cfg a ∧
    ∀ o' out, o.get z mean a = some (o', out) →
      o'.WF ∧ o'.store = o.store ∧ o'.data = o.data ∧ o.heap.length ≤ o'.heap.length ∧
        ∀ bid, bid < o.heap.length → o'.heap[bid]? = o.heap[bid]? := by
  obtain ⟨extra, h⟩ := get_eq_map_getSpec z mean o hwf a
  refine ⟨by rw [h, Option.map_map]; exact Option.map_id', fun o' out ho => ?_⟩
  rw [h] at ho
  obtain ⟨_, _, hq⟩ := Option.map_eq_some_iff.mp ho
  cases hq
  obtain ⟨hw, hs⟩ := grow_wf_store o hwf extra
  exact ⟨hw, hs, rfl, by simp, fun bid hb => List.getElem?_append_left hb⟩

/-- non-vacuity, and why the copy matters: two 1 × 2 layers of one element `A` with calibration `x ↦ 2·x`.
`get(calibrate=True, layer=1)` returns the calibrated transposed layer and the store still holds `[[3, 4]]`;
the same loop run on a view of the STORED buffer (what `get` would do without `.copy()`) leaves `[[6, 8]]` in the store. -/
example :
    let l0 : Arr2 (List Int) := { rows := 1, cols := 2, get := fun _ c => [1 + (c : Int)] }
    let l1 : Arr2 (List Int) := { rows := 1, cols := 2, get := fun _ c => [3 + (c : Int)] }
    let o : Laser Int := Laser.load [l0, l1] ["A"] [("A", fun x => 2 * x)] (SrrConfig.make 35 140 (1 / 4) 0 [(0, 1)])
    let a : GetArgs := { element := none, calibrate := true, flat := false, layer := some 1 }
    ((o.get 0 (fun _ => 0) a).map (fun p => match p.2 with
        | .img v => (v.rows, v.cols, v.get 0 0, v.get 1 0)
        | .stack _ => (0, 0, [], []))) = some (2, 1, [6], [8]) ∧
    ((o.get 0 (fun _ => 0) a).map (fun p => p.1.store.layers.map (fun b => (b.get 0 0, b.get 0 1))))
      = some [([1], [2]), ([3], [4])] ∧
    ((calLoopView (0 : Int) 1 o.cal 1 true o.names 0 o.heap).map (fun h => h.map (fun b => (b.get 0 0, b.get 0 1))))
      = some [([1], [2]), ([6], [8])] := by
  decide +kernel

/-- **Reads do not change the store.**  After any sequence of calls of `get` (calibrated or not, a layer or the
reconstruction, one element or all) on a well-formed object: the object is well-formed, the store (layers as values,
names, calibrations, configuration) is the one before the calls, `self.data` names the same buffers, every buffer that
existed before is unchanged, and the `k`-th call returned `getSpec` of the ORIGINAL store. -/
theorem reads_do_not_change_store {ρ : Type} (z : ρ) (mean : List ρ → ρ) (o o' : Laser ρ) (hwf : o.WF)
    (args : List GetArgs) (outs : List (GetOut (List ρ)))
    (h : Laser.run z mean o (args.map Step.get) = some (o', outs)) :
    o'.WF ∧ o'.store = o.store ∧ o'.data = o.data ∧
      (∀ bid, bid < o.heap.length → o'.heap[bid]? = o.heap[bid]?) ∧
      outs.map some = args.map (getSpec z mean o.store.layers o.names o.cal o.cfg) := by
  obtain ⟨extra, rfl, hout⟩ := run_gets_eq_grow z mean args o o' outs hwf h
  obtain ⟨hw, hs⟩ := grow_wf_store o hwf extra
  exact ⟨hw, hs, rfl, fun bid hb => List.getElem?_append_left hb, hout⟩

/-- **Every history of one object refines the history of its store.**  For any sequence of calls of `get`, assignments
of new layers (`laser.data = …`, `laser.data[i] = …`), writes into a stored layer, changes of the configuration and of
the calibrations: the object after the history stands for the store after the same history in the specification
(`Store.run`, where a call of `get` does not change anything), the calls returned what the specification returns, and
the object's history fails exactly when the specification's does. -/
theorem history_refines {ρ : Type} (z : ρ) (mean : List ρ → ρ) (o : Laser ρ) (hwf : o.WF) (steps : List (Step ρ)) :
    (∀ o' outs, Laser.run z mean o steps = some (o', outs) →
      o'.WF ∧ Store.run z mean o.store steps = some (o'.store, outs)) ∧
    (Laser.run z mean o steps = none → Store.run z mean o.store steps = none) := by
  induction steps generalizing o with
  | nil => exact refines_some hwf rfl
  | cons s rest ih =>
    obtain ⟨hs1, hs2⟩ := step_refines z mean o hwf s
    cases hstep : o.step z mean s with
    | none => simp [Laser.run, Store.run, hstep, hs2 hstep]
    | some p =>
      obtain ⟨o1, out1⟩ := p
      obtain ⟨hwf1, hst1⟩ := hs1 o1 out1 hstep
      obtain ⟨ih1, ih2⟩ := ih o1 hwf1
      simp only [Laser.run, Store.run, hstep, hst1]
      cases hrun : Laser.run z mean o1 rest with
      | none => simp [ih2 hrun]
      | some q =>
        obtain ⟨hwf2, hst2⟩ := ih1 q.1 q.2 hrun
        simp only [hst2]
        exact refines_some hwf2 rfl

example : (Laser.load [({ rows := 1, cols := 1, get := fun _ _ => [(1 : Int)] } : Arr2 (List Int)),
      { rows := 1, cols := 1, get := fun _ _ => [2] }] ["A"] [] (SrrConfig.make 35 140 (1 / 4) 0 [(0, 1)])).WF :=
  (load_wf _ _ _ _ (by decide)).1

/-- **The reconstruction after reads is the geometric model of the original layers.**  On a well-formed object whose
stored layers are a crossed stack accepted by the validity check (integer float magnification `M ≥ 1`): after ANY calls
of `get` (calibrated reads of single layers included), a plain `get()` returns the 3-d array whose every voxel is the
closed formula `voxel` evaluated on the layers the object held BEFORE those calls, and a plain `get(layer=i)` the
stored layer `i` (`layerSpec`). -/
theorem reconstruction_after_reads {ρ : Type} (z : ρ) (mean : List ρ → ρ) (o o' : Laser ρ) (hwf : o.WF)
    (M : Nat) (hM : 1 ≤ M) (hm : o.cfg.magnification = (M : Rat)) (hscan : 0 < o.cfg.scantime) (hoffs : o.cfg.offs ≠ [])
    (l0 s0 l1 s1 : Nat) (hc : Crossed o.store.layers l0 s0 l1 s1)
    (hv : validForData o.cfg o.cfg.magnification o.store.layers = some true)
    (reads : List GetArgs) (outs : List (GetOut (List ρ)))
    (h : Laser.run z mean o (reads.map Step.get) = some (o', outs)) :
    (∃ o'' out, o'.get z mean { element := none, calibrate := false, flat := false, layer := none } = some (o'', .stack out) ∧
      out.rows = reconRows l0 M (subpixelsPerPixel o.cfg.size o.cfg.magnification) o.cfg.offs ∧
      out.cols = reconCols l1 M (subpixelsPerPixel o.cfg.size o.cfg.magnification) o.cfg.offs ∧
      out.depth = o.store.layers.length ∧
      ∀ r cc i, out.get r cc i = voxel (List.replicate o.names.length z) l0 l1 M
        (subpixelsPerPixel o.cfg.size o.cfg.magnification) o.cfg.warmup.toNat o.cfg.offs o.store.layers r cc i) ∧
    (∀ i l, o.store.layers[i]? = some l →
      ∃ o'' img, o'.get z mean { element := none, calibrate := false, flat := false, layer := some i } = some (o'', .img img) ∧
        img = layerSpec l i) := by
  obtain ⟨extra, rfl, -⟩ := run_gets_eq_grow z mean reads o o' outs hwf h
  obtain ⟨hwf', hs⟩ := grow_wf_store o hwf extra
  constructor
  · rw [hm] at hv ⊢
    have ho := krisskross_crossed (List.replicate o.names.length z) o.cfg M hM hscan hoffs o.store.layers l0 s0 l1 s1 hc hv
    obtain ⟨extra', hg⟩ := get_eq_map_getSpec z mean _ hwf' { element := none, calibrate := false, flat := false, layer := none }
    rw [hs] at hg
    simp only [getSpec, readPx, Bool.false_eq_true, if_false, hm, ho, Option.map_some, Arr3.map_id] at hg
    exact ⟨_, _, hg, rfl, rfl, rfl, fun _ _ _ => rfl⟩
  · intro i l hl
    obtain ⟨extra', hg⟩ := get_eq_map_getSpec z mean _ hwf' { element := none, calibrate := false, flat := false, layer := some i }
    rw [hs] at hg
    simp only [getSpec, readPx, Bool.false_eq_true, if_false, hl, Option.map_some, Arr2.map_id] at hg
    exact ⟨_, layerSpec l i, hg, rfl⟩

/-- **`get` for every argument combination against the geometric model, pointwise.**  `f = readPx …` is what the
arguments do to one record: all fields or the selected one, each through its own calibration when `calibrate`.  For a
crossed stack accepted by the validity check (integer float magnification `M ≥ 1`):
* `layer = i`: the image has the stored layer's shape (exchanged for odd `i`) and pixel `(r, cc)` is `f` of the stored
  pixel `(r, cc)` (`(cc, r)` for odd `i`); `flat` changes nothing;
* no layer, not flat: the 3-d array of shape `reconRows × reconCols × layers` whose voxel is `f` of the closed formula
  `voxel` (the zero record outside the footprint goes through `f` as well);
* no layer, flat: pixel `(r, cc)` holds, per value of the read, `mean` of that value of `f (voxel …)` over ALL layers. -/
theorem get_follows_geometric_model {ρ : Type} (z : ρ) (mean : List ρ → ρ) (layers : List (Arr2 (List ρ)))
    (names : List String) (cal : List (String × (ρ → ρ))) (c : SrrConfig) (M : Nat) (hM : 1 ≤ M)
    (hm : c.magnification = (M : Rat)) (hscan : 0 < c.scantime) (hoffs : c.offs ≠ [])
    (l0 s0 l1 s1 : Nat) (hc : Crossed layers l0 s0 l1 s1) (hv : validForData c c.magnification layers = some true)
    (a : GetArgs) (f : List ρ → List ρ) (hf : readPx z names cal a = some f) :
    (∀ i l, a.layer = some i → layers[i]? = some l →
      ∃ img, getSpec z mean layers names cal c a = some (.img img) ∧
        img.rows = (if i % 2 = 0 then l.rows else l.cols) ∧ img.cols = (if i % 2 = 0 then l.cols else l.rows) ∧
        ∀ r cc, img.get r cc = f (if i % 2 = 0 then l.get r cc else l.get cc r)) ∧
    (a.layer = none → a.flat = false →
      ∃ out, getSpec z mean layers names cal c a = some (.stack out) ∧
        out.rows = reconRows l0 M (subpixelsPerPixel c.size c.magnification) c.offs ∧
        out.cols = reconCols l1 M (subpixelsPerPixel c.size c.magnification) c.offs ∧
        out.depth = layers.length ∧
        ∀ r cc i, out.get r cc i = f (voxel (List.replicate names.length z) l0 l1 M
          (subpixelsPerPixel c.size c.magnification) c.warmup.toNat c.offs layers r cc i)) ∧
    (a.layer = none → a.flat = true →
      ∃ img, getSpec z mean layers names cal c a = some (.img img) ∧
        img.rows = reconRows l0 M (subpixelsPerPixel c.size c.magnification) c.offs ∧
        img.cols = reconCols l1 M (subpixelsPerPixel c.size c.magnification) c.offs ∧
        ∀ r cc, img.get r cc = (List.range (readWidth names a)).map (fun j =>
          mean ((List.range layers.length).map (fun i =>
            (f (voxel (List.replicate names.length z) l0 l1 M
              (subpixelsPerPixel c.size c.magnification) c.warmup.toNat c.offs layers r cc i)).getD j z)))) := by
  rw [hm] at hv ⊢
  have ho := krisskross_crossed (List.replicate names.length z) c M hM hscan hoffs layers l0 s0 l1 s1 hc hv
  refine ⟨fun i l hi hl => ⟨(layerSpec l i).map f, by simp [getSpec, hf, hi, hl], layerSpec_rows l i, layerSpec_cols l i,
      fun r cc => congrArg f (layerSpec_get l i r cc)⟩, fun hl hflat => ?_, fun hl hflat => ?_⟩
  · simp only [getSpec, hf, hl, ho, hflat, hm, Option.map_some, Bool.false_eq_true, if_false]
    exact ⟨_, rfl, rfl, rfl, rfl, fun _ _ _ => rfl⟩
  · simp only [getSpec, hf, hl, ho, hflat, hm, Option.map_some, if_true]
    exact ⟨_, rfl, rfl, rfl, fun _ _ => rfl⟩

/-- non-vacuity: all fields calibrated (`A` through `x ↦ (x - 1) / 2`, `B` through the default) and one field selected -/
example :
    let cal : List (String × (Rat → Rat)) := [("A", Calib.apply { intercept := 1, gradient := 2 }),
      ("B", Calib.apply { intercept := 0, gradient := 1 })]
    (readPx (0 : Rat) ["A", "B"] cal { element := none, calibrate := true, flat := false, layer := none }).map (· [5, 7])
      = some [2, 7] ∧
    (readPx (0 : Rat) ["A", "B"] cal { element := some "A", calibrate := true, flat := true, layer := some 3 }).map (· [5, 7])
      = some [2] ∧
    (readPx (0 : Rat) ["A", "B"] cal { element := some "C", calibrate := false, flat := false, layer := none }).isNone = true := by
  decide +kernel

end Pew.Srr
