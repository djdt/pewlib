import PewProofs.OverlapD

/-! # C11 — property theorems

`pixel_specD` (one pixel on a canvas of any dtype) stands first: `pixel_spec`, on which the theorems about the plain model
rest, is its `float64` instance.  Where both sides are an `overlap`, a theorem about the whole result is its pixel theorem
under `overlap_ext` beside an equation between bounding boxes.  Helpers that need a property theorem of this file, or one of the
definitions its statements introduce (the translations `shift*`, `nanLike`, the witnesses `ex*`), stand before their first
user; `mergedImage` (a result handed on as an input) stands with its lemmas in `PewProofs.Overlap`. -/
namespace Pew.Overlap

/-- **one pixel, any dtypes, any values.**  On a canvas of dtype `cdt` the mechanism returns the demanded value
(last / IEEE mean / IEEE sum of the non-NaN values the inputs place at the pixel, the fill where there is none) as a
canvas of that dtype holds it, provided `hypD` holds at the pixel: nothing in replace mode; in mean / sum mode on a
floating-point canvas that the IEEE sum of the contributions is not NaN, i.e. +∞ and −∞ do not meet there
(`sumE_nan_iff`; `inf_cancel_order_dependent` shows the mechanism leaves the specification otherwise); in sum mode on an
integer canvas that every contribution is a finite integer (the canvas truncates after every image), on a boolean canvas
that none is negative; mean mode on such a canvas raises (`raisesD`). -/
theorem pixel_specD (cdt : DT) (m : Mode) (fill : EV) (arrs : List ArrE) (p : Idx)
    (hyp : hypD cdt m arrs p = true) :
    mechD cdt m fill arrs p = specD cdt m fill arrs p := by
  unfold mechD specD specE
  cases m with
  | replace =>
    rw [finishD, foldl_stepD_replace]
    cases hc : contribsE arrs p with
    | nil => rfl
    | cons c cs => rw [List.getLast?_eq_getLast_of_ne_nil (List.cons_ne_nil c cs)]; rfl
  | sum =>
    rw [foldl_stepD_accum_hypD cdt .sum (by decide) fill arrs p hyp]
    cases contribsE arrs p with
    | nil => rfl
    | cons c cs => rfl
  | mean =>
    have hfl : cdt = .f8 ∨ cdt = .f4 := by
      cases cdt with
      | f8 => exact Or.inl rfl
      | f4 => exact Or.inr rfl
      | i8 => exact absurd ((hypD_i8 (by decide)).mp hyp).1 (by decide)
      | b1 => exact absurd ((hypD_b1 (by decide)).mp hyp).1 (by decide)
    rw [foldl_stepD_accum_hypD cdt .mean (by decide) fill arrs p hyp]
    cases contribsE arrs p with
    | nil => rfl
    | cons c cs =>
      rw [castC_float cdt hfl, castC_float cdt hfl]
      cases cs with
      | nil => exact (EV.divNat_one _).symm
      | cons _ _ => rfl

/-- Every canvas pixel computed by the mechanism (fill/zero-initialised canvas, sequential
accumulation, visit counting, final fill and mean division) is the last / mean / sum of the
non-NaN values the inputs place there, and the fill where nothing contributes.  All modes, every
fill (NaN or finite), any number of inputs, any dimension. -/
theorem pixel_spec (m : Mode) (fill : V) (arrs : List Arr) (p : Idx) :
    mech m fill arrs p = spec m fill arrs p := by
  -- the plain model is the `float64` instance of the dtype-aware one (`mechD_toE`, `specE_embed`)
  apply embed_injective
  have e : (arrs.map fun a => (DT.f8, a)).map (·.2) = arrs := by simp
  have h := mechD_toE .f8 (Or.inl rfl) m fill (arrs.map fun a => (DT.f8, a)) p
  have s := specE_embed m fill (arrs.map fun a => (DT.f8, a)) p
  rw [e] at h s
  rw [← h, ← s, pixel_specD _ _ _ _ _ (hypD_toE _ (Or.inl rfl) m _ p)]
  rfl

theorem mech_reoff (m : Mode) (fill : V) (M : List Int) (l : List Arr) (p : Idx) (hp : p.length = M.length)
    (hl : ∀ a ∈ l, a.off.length = M.length) :
    mech m fill (l.map (reoff M)) p = mech m fill l (List.zipWith (· + ·) p M) := by
  rw [pixel_spec, pixel_spec]
  unfold spec
  rw [contribs_reoff M l p hp hl]

/-- "A value was contributed" and "nothing was contributed" are told apart by the contributions, never by the
value that has accumulated: wherever some input places a non-NaN value — also an image of zeros, values that cancel
one another, values that equal the fill — the pixel is a number and does not depend on the fill; wherever no input
places one it is the fill.  All modes. -/
theorem contributed_pixel_ignores_fill (m : Mode) (fill fill' : V) (arrs : List Arr) (p : Idx) :
    (contribs arrs p ≠ [] → (mech m fill arrs p).isSome ∧ mech m fill arrs p = mech m fill' arrs p) ∧
    (contribs arrs p = [] → mech m fill arrs p = fill) := by
  rw [pixel_spec, pixel_spec]
  unfold spec
  cases h : contribs arrs p with
  | nil => simp
  | cons c cs => cases m <;> simp

/-- mean and sum do not depend on the order of the inputs -/
theorem perm_invariant (m : Mode) (hm : m ≠ .replace) (fill : V) (a₁ a₂ : List Arr)
    (hp : a₁.Perm a₂) (p : Idx) : mech m fill a₁ p = mech m fill a₂ p := by
  rw [pixel_spec, pixel_spec]
  have hc : (contribs a₁ p).Perm (contribs a₂ p) := hp.filterMap _
  have hs : (contribs a₁ p).sum = (contribs a₂ p).sum := hc.sum_eq
  have hl : (contribs a₁ p).length = (contribs a₂ p).length := hc.length_eq
  unfold spec
  cases h1 : contribs a₁ p with
  | nil =>
    have : contribs a₂ p = [] := by rw [h1] at hc; exact hc.nil_eq.symm
    rw [this]
  | cons c cs =>
    cases h2 : contribs a₂ p with
    | nil => rw [h1, h2] at hl; simp at hl
    | cons d ds =>
      rw [h1, h2] at hs hl
      cases m with
      | replace => exact absurd rfl hm
      | mean => simp only; rw [hs, hl]
      | sum => simp only; rw [hs]

/-- The result covers exactly the bounding box: along every axis all normalised inputs lie inside
`[0, extent)`, one of them starts at 0, one of them ends at the extent, and the extent is
`max (offset + size) - min offset` of the offsets as given. -/
theorem bbox_exact (ndim : Nat) (arrs : List Arr) (hne : arrs ≠ [])
    (hoff : ∀ a ∈ arrs, a.off.length = ndim) (k : Nat) (hk : k < ndim) :
    (∀ a ∈ normalise ndim arrs,
        0 ≤ axis k a.off ∧ axis k a.off + ((a.shape.getD k 0 : Nat) : Int) ≤ axis k (newShape ndim (normalise ndim arrs))) ∧
    (∃ a ∈ normalise ndim arrs, axis k a.off = 0) ∧
    (∃ a ∈ normalise ndim arrs,
        axis k a.off + ((a.shape.getD k 0 : Nat) : Int) = axis k (newShape ndim (normalise ndim arrs))) ∧
    axis k (newShape ndim (normalise ndim arrs))
      = maxList (arrs.map fun a => axis k a.off + ((a.shape.getD k 0 : Nat) : Int))
        - minList (arrs.map fun a => axis k a.off) := by
  have hmapne : (normalise ndim arrs).map (fun a => axis k a.off + ((a.shape.getD k 0 : Nat) : Int)) ≠ [] := by
    simp [normalise, hne]
  refine ⟨?_, ?_, ?_, ?_⟩
  · intro a ha
    rw [axis_newShape _ _ _ hk]
    constructor
    · simp only [normalise, List.mem_map] at ha
      obtain ⟨b, hb, rfl⟩ := ha
      simp only
      rw [axis_normalised ndim arrs b k hk (hoff b hb)]
      have := (extent_bounds k arrs b hb).1
      omega
    · exact (extent_bounds k _ a ha).2
  · have hm := minList_mem (arrs.map fun a => axis k a.off) (by simp [hne])
    obtain ⟨b, hb, hbe⟩ := List.mem_map.mp hm
    refine ⟨reoff (minOffset ndim arrs) b, List.mem_map_of_mem hb, ?_⟩
    rw [reoff_off, axis_normalised ndim arrs b k hk (hoff b hb)]; omega
  · have hm := maxList_mem _ hmapne
    obtain ⟨b, hb, hbe⟩ := List.mem_map.mp hm
    exact ⟨b, hb, by rw [axis_newShape _ _ _ hk]; exact hbe⟩
  · exact axis_newShape_normalise ndim arrs hne hoff k hk

def shift (t : List Int) (a : Arr) : Arr := { a with off := List.zipWith (· + ·) a.off t }

theorem minOffset_shift (ndim : Nat) (arrs : List Arr) (t : List Int) (hne : arrs ≠ [])
    (hoff : ∀ a ∈ arrs, a.off.length = ndim) (ht : t.length = ndim) :
    minOffset ndim (arrs.map (shift t)) = List.zipWith (· + ·) (minOffset ndim arrs) t := by
  refine ext_axis _ _ ndim (minOffset_length _ _) (by simp [minOffset_length, ht]) fun k hk => ?_
  rw [axis_minOffset _ _ _ hk, axis_zipWith _ _ _ k (by rw [minOffset_length]; exact hk) (by rw [ht]; exact hk),
    axis_minOffset _ _ _ hk, ← minList_add _ _ (by simpa using hne), List.map_map, List.map_map]
  exact congrArg minList (List.map_congr_left fun b hb =>
    axis_zipWith _ _ _ k (by rw [hoff b hb]; exact hk) (by rw [ht]; exact hk))

/-- adding the same translation to every offset changes nothing: the normalised inputs, hence
the shape and every pixel of the result, are identical -/
theorem translation_invariant (ndim : Nat) (arrs : List Arr) (t : List Int) (hne : arrs ≠ [])
    (hoff : ∀ a ∈ arrs, a.off.length = ndim) (ht : t.length = ndim) :
    normalise ndim (arrs.map (shift t)) = normalise ndim arrs := by
  simp only [normalise, minOffset_shift ndim arrs t hne hoff ht, List.map_map]
  refine List.map_congr_left fun b hb => ?_
  simp only [Function.comp, shift, sub_add_add _ _ t ((hoff b hb).trans ht.symm) ((minOffset_length _ _).trans ht.symm)]

/-- **the whole result**: shape and every pixel in row-major order computed by the mechanism are
those of the specification.  (The driver runs `overlapD`, which for a floating-point first image is `overlap` on the
values: `overlapD_embed`.) -/
theorem overlap_spec (m : Mode) (fill : V) (ndim : Nat) (arrs : List Arr) :
    overlap false m fill ndim arrs = overlap true m fill ndim arrs :=
  overlap_ext rfl fun p _ => pixel_spec m fill _ p

/-- **a common translation of all offsets leaves the whole result unchanged** (shape and pixels) -/
theorem overlap_translation_invariant (spc : Bool) (m : Mode) (fill : V) (ndim : Nat) (arrs : List Arr)
    (t : List Int) (hne : arrs ≠ []) (hoff : ∀ a ∈ arrs, a.off.length = ndim) (ht : t.length = ndim) :
    overlap spc m fill ndim (arrs.map (shift t)) = overlap spc m fill ndim arrs := by
  simp only [overlap, translation_invariant ndim arrs t hne hoff ht]

/-- **reordering the inputs leaves the whole result of `mean` and `sum` unchanged** (shape and
pixels; the offsets are normalised by the same minimum, the bounding box is the same) -/
theorem overlap_perm_invariant (m : Mode) (hm : m ≠ .replace) (fill : V) (ndim : Nat) (a₁ a₂ : List Arr)
    (hp : a₁.Perm a₂) : overlap false m fill ndim a₁ = overlap false m fill ndim a₂ :=
  overlap_ext (newShape_perm ndim _ _ (normalise_perm ndim a₁ a₂ hp))
    fun p _ => perm_invariant m hm fill _ _ (normalise_perm ndim a₁ a₂ hp) p

/-- a 2×2 image of ones at (0,0) and a 2×2 image at (1,1) holding a NaN -/
def exA : Arr := { off := [0, 0], shape := [2, 2], get := fun _ => some 1 }
def exB : Arr := { off := [1, 1], shape := [2, 2], get := fun i => if i = [1, 0] then none else some 2 }

/-- the hypotheses of `bbox_exact` / `translation_invariant` are satisfiable by a non-trivial input -/
example : [exA, exB] ≠ [] ∧ (∀ a ∈ [exA, exB], a.off.length = 2) ∧ ([5, -7] : List Int).length = 2 :=
  ⟨List.cons_ne_nil _ _, by decide, rfl⟩

/-- on that input the three kinds of pixel all occur: two contributions, a NaN-only pixel, an uncovered pixel -/
example : contribs [exA, exB] [1, 1] = [1, 2] ∧ contribs [exA, exB] [2, 1] = [] ∧ exB.at [2, 1] = some none
    ∧ exA.at [0, 2] = none ∧ exB.at [0, 2] = none := by decide +kernel

/-- hypotheses of `overlap_perm_invariant` on that input, and the reason `replace` is excluded: the
two orders of the same inputs differ at the doubly covered pixel -/
example : [exA, exB].Perm [exB, exA] ∧ Mode.sum ≠ Mode.replace
    ∧ mech .replace none [exA, exB] [1, 1] = some 2 ∧ mech .replace none [exB, exA] [1, 1] = some 1 := by
  refine ⟨List.Perm.swap _ _ _, by decide, by decide +kernel, by decide +kernel⟩

/-- an image of zeros alone on its pixels: sum 0, not the fill (hypothesis of `contributed_pixel_ignores_fill` met) -/
def exZ : Arr := { off := [3, 0], shape := [1, 2], get := fun _ => some 0 }

example : contribs [exA, exZ] [3, 1] ≠ [] ∧ mech .sum none [exA, exZ] [3, 1] = some 0 ∧
    mech .sum (some 10) [exA, exZ] [3, 1] = some 0 ∧ contribs [exA, exZ] [3, 2] = [] ∧
    mech .sum (some 10) [exA, exZ] [3, 2] = some 10 := by
  decide +kernel

/-- the mechanism before the repair is wrong: with a finite fill it adds the fill into the sum
(11 instead of 1 where only the first image contributes), and a pixel covered only by a NaN becomes
0 instead of the fill -/
theorem old_mechanism_wrong :
    mechOld .sum (some 10) [exA, exB] [0, 0] = some 11 ∧ spec .sum (some 10) [exA, exB] [0, 0] = some 1 ∧
    mechOld .sum none [exA, exB] [2, 1] = some 0 ∧ spec .sum none [exA, exB] [2, 1] = none := by
  decide +kernel

/-- the same array holding NaN everywhere -/
def nanLike (a : Arr) : Arr := { a with get := fun _ => none }

/-- **`replace` mode: the last writer wins.**  Where the last input places a non-NaN value the
result is that value; everywhere else the result is what the other inputs give (the last input
replaced by an all-NaN image of the same shape and offset, so that the bounding box is kept).
Reordering does change `replace` results in general (example after `exB`). -/
theorem replace_last_writer (fill : V) (l : List Arr) (a : Arr) (p : Idx) :
    mech .replace fill (l ++ [a]) p
      = match (a.at p).join with
        | some x => some x
        | none => mech .replace fill (l ++ [nanLike a]) p := by
  rw [pixel_spec, pixel_spec]
  have hc : ∀ b : Arr, contribs (l ++ [b]) p = contribs l p ++ (match (b.at p).join with | some x => [x] | none => []) :=
    fun b => by rw [contribs_append, contribs_cons]; exact congrArg _ (List.append_nil _)
  unfold spec
  rw [hc a, hc (nanLike a), at_join_of_nan (nanLike a) (fun _ => rfl) p]
  cases h : (a.at p).join with
  | none => rfl
  | some x =>
    cases h2 : contribs l p with
    | nil => simp
    | cons c cs => simp

/-- the same over the whole result of the code (offsets normalised as the code does): replacing
the last input by an all-NaN image keeps the bounding box, and the result of `l ++ [a]` is that of
`l ++ [nanLike a]` overwritten with the non-NaN values of `a` -/
theorem overlap_replace_last_writer (fill : V) (ndim : Nat) (l : List Arr) (a : Arr) :
    (overlap false .replace fill ndim (l ++ [a])).1 = (overlap false .replace fill ndim (l ++ [nanLike a])).1 ∧
    (overlap false .replace fill ndim (l ++ [a])).2
      = (List.zip (allIdx ((overlap false .replace fill ndim (l ++ [a])).1.map Int.toNat))
            (overlap false .replace fill ndim (l ++ [nanLike a])).2).map
          (fun pv => match (({ a with off := sub a.off (minOffset ndim (l ++ [a])) } : Arr).at pv.1).join with
            | some x => some x
            | none => pv.2) := by
  -- the geometry does not look at the values: `nanLike a` and `a` have the same footprint
  obtain ⟨hm, hs⟩ := geometry_congr ndim (l := l ++ [nanLike a]) (l' := l ++ [a]) (by simp [bare, nanLike])
  refine ⟨by simp only [overlap, hs], ?_⟩
  simp only [overlap, Bool.false_eq_true, if_false, hs, ← List.map_prod_left_eq_zip, List.map_map]
  apply List.map_congr_left
  intro p _
  simp only [Function.comp, normalise, hm, List.map_append, List.map_cons, List.map_nil]
  exact replace_last_writer fill _ _ p

/-- `replace_last_writer` on `exA`, `exB`: at (1,1) the last input wins, at (2,1) (its NaN) and at
(0,0) (outside it) the first input's result shows through -/
example : (exB.at [1, 1]).join = some 2 ∧ (exB.at [2, 1]).join = none ∧ (exB.at [0, 0]).join = none
    ∧ mech .replace none ([exA] ++ [nanLike exB]) [0, 0] = some 1 := by decide +kernel

/-! ## histories: the result of one merge fed into the next (tiling) -/

/-- **tiling, one pixel.**  Let `R` be an image that holds at `p` what the merge of `l₁` with fill NaN holds there
(`spec m none l₁ p`; NaN or nothing where `l₁` contributes nothing).  Merging `R` followed by further images `l₂` gives at
`p` what the one merge of `l₁ ++ l₂` gives — in replace and sum mode, for every fill.  (Not in mean mode: a mean of
means is not the mean, see the example below.) -/
theorem tiling_pixel (m : Mode) (hm : m ≠ .mean) (fill : V) (l₁ l₂ : List Arr) (R : Arr) (p : Idx)
    (hR : (R.at p).join = spec m none l₁ p) :
    mech m fill (R :: l₂) p = mech m fill (l₁ ++ l₂) p := by
  rw [pixel_spec, pixel_spec]
  unfold spec at hR ⊢
  rw [contribs_cons, contribs_append, hR]
  cases h1 : contribs l₁ p with
  | nil => simp
  | cons c cs =>
    cases m with
    | mean => exact absurd rfl hm
    | replace | sum =>
      cases contribs l₂ p with
      | nil => simp
      | cons d ds => simp [List.sum_append, add_assoc]

/-- hypothesis of `tiling_pixel` met by a non-trivial input (the one-pixel image holding the sum 3 of `exA`, `exB` at
(1,1)), and the reason mean mode is excluded: the mean of the mean 3/2 and 6 is not the mean of 1, 2, 6 -/
example : (({ off := [1, 1], shape := [1, 1], get := fun _ => some 3 } : Arr).at [1, 1]).join = spec .sum none [exA, exB] [1, 1]
    ∧ mech .mean none [({ off := [1, 1], shape := [1, 1], get := fun _ => some (3 / 2) } : Arr),
                        { off := [1, 1], shape := [1, 1], get := fun _ => some 6 }] [1, 1] = some (15 / 4)
    ∧ mech .mean none [exA, exB, { off := [1, 1], shape := [1, 1], get := fun _ => some 6 }] [1, 1] = some 3 := by
  decide +kernel

theorem mergedImage_at (m : Mode) (ndim : Nat) (l₁ : List Arr) (hne : l₁ ≠ []) (q : List Int) (hq : q.length = ndim)
    (hoff : ∀ a ∈ l₁, a.off.length = ndim) (hsh : ∀ a ∈ l₁, a.shape.length = ndim) :
    ((mergedImage m ndim l₁).at q).join = spec m none l₁ q := by
  have hM := minOffset_length ndim l₁
  rw [Arr.at]
  split
  · show mech m none (normalise ndim l₁) (sub q (minOffset ndim l₁)) = _
    rw [normalise_eq, mech_reoff m none _ l₁ _ (by simp [sub, hq, hM]) (fun a ha => by rw [hM, hoff a ha]),
      sub_add_self _ _ (hq.trans hM.symm), pixel_spec]
  · rename_i hin
    unfold spec
    rw [outside_merged m ndim l₁ hne q hoff hsh (Bool.not_eq_true _ ▸ hin)]
    rfl

/-- **tiling, the whole function.**  Merging `l₁` with fill NaN, handing the result in as the first image (at the
per-axis minimum of the offsets of `l₁`) of a second merge with further images `l₂`, gives — shape and every pixel —
the one merge of `l₁ ++ l₂`: replace and sum mode, any fill of the second merge.  Hypotheses: `l₁` is not empty, every
offset has `ndim` entries and every image of `l₁` has `ndim` axes. -/
theorem tiling (m : Mode) (hm : m ≠ .mean) (fill : V) (ndim : Nat) (l₁ l₂ : List Arr) (hne : l₁ ≠ [])
    (hoff : ∀ a ∈ l₁ ++ l₂, a.off.length = ndim) (hsh : ∀ a ∈ l₁, a.shape.length = ndim) :
    overlap false m fill ndim (mergedImage m ndim l₁ :: l₂) = overlap false m fill ndim (l₁ ++ l₂) := by
  have hoff1 : ∀ a ∈ l₁, a.off.length = ndim := fun a ha => hoff a (List.mem_append_left _ ha)
  refine overlap_ext (newShape_tiling m ndim l₁ l₂ hne hoff1) fun p hpl => ?_
  have hM := minOffset_length ndim (l₁ ++ l₂)
  rw [normalise_eq, normalise_eq, minOffset_tiling m ndim l₁ l₂ hne, List.map_cons, List.map_append]
  apply tiling_pixel m hm
  -- both sides are read at `p + M`, in the frame of the inputs
  rw [at_reoff _ _ p (hpl.trans hM.symm) ((minOffset_length ndim l₁).trans hM.symm),
    mergedImage_at m ndim l₁ hne _ (by simp [hpl, hM]) hoff1 hsh]
  unfold spec
  rw [contribs_reoff _ l₁ p (hpl.trans hM.symm) (fun a ha => (hoff1 a ha).trans hM.symm)]

/-- hypotheses of `tiling` on a non-trivial input: the merge of `exA`, `exB` fed into a merge with `exZ` -/
example : [exA, exB] ≠ [] ∧ (∀ a ∈ [exA, exB] ++ [exZ], a.off.length = 2) ∧ (∀ a ∈ [exA, exB], a.shape.length = 2)
    ∧ (mergedImage .sum 2 [exA, exB]).off = [0, 0] ∧ (mergedImage .sum 2 [exA, exB]).shape = [3, 3]
    ∧ (mergedImage .sum 2 [exA, exB]).get [1, 1] = some 3 ∧ (mergedImage .sum 2 [exA, exB]).get [2, 1] = none :=
  ⟨List.cons_ne_nil _ _, by decide +kernel⟩

/-- structured variant, per field: arrays that lack the field contribute nothing, so the field's
image is the plain merge of exactly the arrays that have it -/
theorem structured_spec (m : Mode) (fill : V) (arrs : List SArr) (name : String) (p : Idx) :
    mech m fill (arrs.map (·.field name)) p = specField m fill arrs name p := by
  rw [pixel_spec]
  unfold specField spec
  have : contribs (arrs.map (·.field name)) p
      = contribs ((arrs.filter (fun a => (a.fields.lookup name).isSome)).map (·.field name)) p := by
    induction arrs with
    | nil => rfl
    | cons a l ih =>
      simp only [List.map_cons, List.filter_cons]
      cases h : a.fields.lookup name with
      | none =>
        rw [contribs_cons, at_join_of_nan _ (fun _ => by simp only [SArr.field, h]) p]; simpa using ih
      | some g =>
        simp only [Option.isSome_some, if_true, List.map_cons]
        rw [contribs_cons, contribs_cons, ih]
  rw [this]

/-- the merged field list contains exactly the names of all inputs -/
theorem mergedNames_mem (arrs : List SArr) (n : String) :
    n ∈ mergedNames arrs ↔ ∃ a ∈ arrs, n ∈ a.fields.map (·.1) := by
  rw [mergedNames_eq, foldl_mergeStep_mem]
  simp only [List.not_mem_nil, false_or]

/-- **the structured merge as a whole**: for every list of structured inputs the mechanism
(`overlap` applied per merged field name to the inputs' fields, NaN stand-ins where an input lacks
the field) returns exactly `overlapStructuredSpec` — what the driver's `c11.structuredD` sends as `plainSpec` when every
field is `float64`: the common bounding box of all inputs and, per field, the last / mean / sum of the values of the
inputs that have the field.  (The offset normalisation and the box do not look at the values, so
they commute with taking a field.) -/
theorem structured_whole (m : Mode) (fill : V) (ndim : Nat) (arrs : List SArr) :
    overlapStructured false m fill ndim arrs = overlapStructuredSpec m fill ndim arrs := by
  unfold overlapStructured overlapStructuredSpec
  apply List.map_congr_left
  intro nm _
  have hview : (arrs.map (fun a => ({ off := a.off, shape := a.shape, get := fun _ => none } : Arr)))
      = (arrs.map (·.field nm)).map bare := by
    rw [List.map_map]
    apply List.map_congr_left
    intro a _
    exact (bare_field a nm).symm
  simp only [hview, minOffset_bare, normalise_bare, newShape_bare]
  have hN : normalise ndim (arrs.map (·.field nm))
      = (arrs.map (fun a => ({ a with off := sub a.off (minOffset ndim (arrs.map (·.field nm))) } : SArr))).map (·.field nm) := by
    simp only [normalise, List.map_map]
    apply List.map_congr_left
    intro a _
    simp only [Function.comp, field_off]
    exact field_reoff a nm _
  simp only [overlap, Bool.false_eq_true, if_false]
  congr 2
  apply List.map_congr_left
  intro p _
  rw [hN]
  exact structured_spec m fill _ nm p

def shiftS (t : List Int) (a : SArr) : SArr := { a with off := List.zipWith (· + ·) a.off t }

theorem field_shiftS (t : List Int) (a : SArr) (n : String) : (shiftS t a).field n = shift t (a.field n) := by
  unfold SArr.field shiftS shift
  cases a.fields.lookup n <;> rfl

theorem mergedNames_shiftS (t : List Int) (arrs : List SArr) : mergedNames (arrs.map (shiftS t)) = mergedNames arrs := by
  unfold mergedNames
  rw [List.foldl_map]
  rfl

theorem overlap_field_shiftS (spc : Bool) (m : Mode) (fill : V) (ndim : Nat) (arrs : List SArr) (t : List Int)
    (hne : arrs ≠ []) (hoff : ∀ a ∈ arrs, a.off.length = ndim) (ht : t.length = ndim) (n : String) :
    overlap spc m fill ndim ((arrs.map (shiftS t)).map (·.field n)) = overlap spc m fill ndim (arrs.map (·.field n)) := by
  have : (arrs.map (shiftS t)).map (·.field n) = (arrs.map (·.field n)).map (shift t) := by
    simp [List.map_map, Function.comp_def, field_shiftS]
  rw [this, overlap_translation_invariant spc m fill ndim _ t (by simpa using hne) _ ht]
  intro a ha
  obtain ⟨b, hb, rfl⟩ := List.mem_map.mp ha
  rw [field_off]; exact hoff b hb

/-- **structured variant: a common translation of all offsets leaves every field of the result unchanged** -/
theorem structured_translation_invariant (spc : Bool) (m : Mode) (fill : V) (ndim : Nat) (arrs : List SArr)
    (t : List Int) (hne : arrs ≠ []) (hoff : ∀ a ∈ arrs, a.off.length = ndim) (ht : t.length = ndim) :
    overlapStructured spc m fill ndim (arrs.map (shiftS t)) = overlapStructured spc m fill ndim arrs := by
  unfold overlapStructured
  rw [mergedNames_shiftS]
  exact List.map_congr_left fun n _ => by rw [overlap_field_shiftS spc m fill ndim arrs t hne hoff ht n]

/-- **structured variant: reordering the inputs (mean / sum).**  The result has the same field names (in another
order: the merged dtype lists them in order of first appearance) and every field holds the same image.
Hypothesis: no input carries a field name twice. -/
theorem structured_perm_invariant (m : Mode) (hm : m ≠ .replace) (fill : V) (ndim : Nat) (a₁ a₂ : List SArr)
    (hp : a₁.Perm a₂) (hn : ∀ a ∈ a₁, (a.fields.map (·.1)).Nodup) :
    (mergedNames a₁).Perm (mergedNames a₂) ∧
    ∀ n, (overlapStructured false m fill ndim a₁).lookup n = (overlapStructured false m fill ndim a₂).lookup n := by
  have hn2 : ∀ a ∈ a₂, (a.fields.map (·.1)).Nodup := fun a ha => hn a (hp.mem_iff.mpr ha)
  have hmem : ∀ n, n ∈ mergedNames a₁ ↔ n ∈ mergedNames a₂ := by
    intro n
    rw [mergedNames_mem, mergedNames_mem]
    exact ⟨fun ⟨a, ha, h⟩ => ⟨a, hp.mem_iff.mp ha, h⟩, fun ⟨a, ha, h⟩ => ⟨a, hp.mem_iff.mpr ha, h⟩⟩
  refine ⟨(List.perm_ext_iff_of_nodup (mergedNames_nodup a₁ hn) (mergedNames_nodup a₂ hn2)).mpr hmem, ?_⟩
  intro n
  unfold overlapStructured
  rw [Lists.lookup_map_self, Lists.lookup_map_self]
  by_cases h : n ∈ mergedNames a₁
  · rw [if_pos h, if_pos ((hmem n).mp h), overlap_perm_invariant m hm fill ndim _ _ (hp.map _)]
  · rw [if_neg h, if_neg (fun h' => h ((hmem n).mpr h'))]

/-- three structured inputs whose field sets overlap pairwise, each lacking one name: hypotheses of
`structured_translation_invariant` / `structured_perm_invariant`; the merged names come in order of first appearance,
so two orders of the inputs list them differently -/
def exS1 : SArr := ⟨[0], [2], [("A", fun _ => some 1), ("B", fun _ => none)]⟩
def exS2 : SArr := ⟨[1], [2], [("C", fun _ => some 3), ("B", fun _ => some 2)]⟩
def exS3 : SArr := ⟨[-1], [1], [("C", fun _ => some 5), ("A", fun _ => some 7)]⟩

example : [exS1, exS2, exS3] ≠ [] ∧ (∀ a ∈ [exS1, exS2, exS3], a.off.length = 1)
    ∧ (∀ a ∈ [exS1, exS2, exS3], (a.fields.map (·.1)).Nodup) ∧ [exS1, exS2, exS3].Perm [exS3, exS1, exS2]
    ∧ mergedNames [exS1, exS2, exS3] = ["A", "B", "C"] ∧ mergedNames [exS3, exS1, exS2] = ["C", "A", "B"] :=
  ⟨List.cons_ne_nil _ _, by decide, by decide, List.perm_append_comm (l₁ := [exS1, exS2]) (l₂ := [exS3]), by decide, by decide⟩

/-- mechanism = specification for the dtype-aware structured merge: exception classes and casts are the same code on both
sides, the pixels are those of `overlap_spec` -/
theorem structuredD_spec (m : Mode) (fill : V) (ndim : Nat) (arrs : List DArr) :
    overlapStructuredD false m fill ndim arrs = overlapStructuredD true m fill ndim arrs := by
  simp only [overlapStructuredD, fieldOutcome, overlap_spec]

theorem overlapStructuredD_ok (spc : Bool) (m : Mode) (fill : V) (ndim : Nat) (arrs : List DArr)
    (hnd : hasDup ((mergedDescr arrs).map (·.1)) = false) (hc : ∀ d ∈ mergedDescr arrs, canvasDT arrs d.1 ≠ .i8) :
    overlapStructuredD spc m fill ndim arrs
      = .ok ((mergedDescr arrs).map fun d =>
          (d.1, d.2, (overlap spc m fill ndim (arrs.map fun a => a.toS.field d.1)).1,
            (overlap spc m fill ndim (arrs.map fun a => a.toS.field d.1)).2.map (castTo d.2))) := by
  unfold overlapStructuredD
  simp only [hnd, Bool.false_eq_true, if_false]
  exact mapM_ok_of_forall _ _ _ fun d hd => by rw [fieldOutcome, if_neg (hc d hd)]; rfl

/-- **all fields `float64`**: the dtype-aware model never raises and is the plain structured merge
(`overlapStructured`, about which `structured_whole` speaks), every pixel defined.  Hypotheses: every
dtype is `f8`; no input has the same field name twice (NumPy does not allow that). -/
theorem structuredD_allF8 (spc : Bool) (m : Mode) (fill : V) (ndim : Nat) (arrs : List DArr)
    (hf : ∀ a ∈ arrs, ∀ f ∈ a.fields, f.2.1 = DT.f8)
    (hn : ∀ a ∈ arrs, (a.fields.map (·.1)).Nodup) :
    overlapStructuredD spc m fill ndim arrs
      = .ok ((overlapStructured spc m fill ndim (arrs.map DArr.toS)).map
          (fun r => (r.1, DT.f8, (r.2.1, r.2.2.map some)))) := by
  have hD := mergedDescr_allF8 arrs hf
  have hnd : hasDup ((mergedDescr arrs).map (·.1)) = false := by
    rw [hD, List.map_map, hasDup_eq_false_iff]
    refine List.Nodup.map (fun x y e => e) (mergedNames_nodup _ fun a ha => ?_)
    obtain ⟨b, hb, rfl⟩ := List.mem_map.mp ha
    simpa [DArr.toS, List.map_map, Function.comp_def] using hn b hb
  rw [overlapStructuredD_ok spc m fill ndim arrs hnd fun d _ => by rw [canvasDT_allF8 arrs hf]; decide, hD]
  have : castTo DT.f8 = some := by funext v; cases v <;> rfl
  simp only [overlapStructured, List.map_map, Function.comp_def, this]

theorem hasDup_of_clash (arrs : List DArr) (a b : DArr) (ha : a ∈ arrs) (hb : b ∈ arrs) (n : String) (d₁ d₂ : DT)
    (h1 : (n, d₁) ∈ a.descr) (h2 : (n, d₂) ∈ b.descr) (hne : d₁ ≠ d₂) :
    hasDup ((mergedDescr arrs).map (·.1)) = true := by
  rw [← Bool.not_eq_false, hasDup_eq_false_iff]
  intro h
  have := List.inj_on_of_nodup_map h ((mergedDescr_mem arrs _).mpr ⟨a, ha, h1⟩) ((mergedDescr_mem arrs _).mpr ⟨b, hb, h2⟩) rfl
  exact hne (by simpa using this)

/-- **when does the structured merge raise on the merged dtype**: exactly when two inputs carry the
same field name with different dtypes (the code merges (name, dtype) pairs, not names), and then
the model returns `ValueError` — as `np.empty` does for a dtype with a repeated field name.
Hypothesis: no input has the same field name twice. -/
theorem structuredD_raises_iff (arrs : List DArr) (hn : ∀ a ∈ arrs, (a.fields.map (·.1)).Nodup) :
    hasDup ((mergedDescr arrs).map (·.1)) = true
      ↔ ∃ a ∈ arrs, ∃ b ∈ arrs, ∃ (n : String) (d₁ d₂ : DT), (n, d₁) ∈ a.descr ∧ (n, d₂) ∈ b.descr ∧ d₁ ≠ d₂ := by
  constructor
  · intro hd
    by_contra hcon
    rw [← Bool.not_eq_false, hasDup_eq_false_iff, List.nodup_map_iff_inj_on (mergedDescr_nodup arrs hn)] at hd
    apply hd
    intro x hx y hy hxy
    obtain ⟨a, ha, hxa⟩ := (mergedDescr_mem arrs x).mp hx
    obtain ⟨b, hb, hyb⟩ := (mergedDescr_mem arrs y).mp hy
    obtain ⟨n, d₁⟩ := x
    obtain ⟨n', d₂⟩ := y
    subst hxy
    by_cases e : d₁ = d₂
    · rw [e]
    · exact absurd ⟨a, ha, b, hb, n, d₁, d₂, hxa, hyb, e⟩ hcon
  · exact fun ⟨a, ha, b, hb, n, d₁, d₂, h1, h2, hne⟩ => hasDup_of_clash arrs a b ha hb n d₁ d₂ h1 h2 hne

/-- two inputs that carry one field name with two dtypes make `overlap_structured_arrays` raise `ValueError`, whatever
the mode, the fill and the other inputs (`hn` is not needed for that: `hasDup_of_clash`) -/
theorem structuredD_clash_raises (spc : Bool) (m : Mode) (fill : V) (ndim : Nat) (arrs : List DArr)
    (a b : DArr) (ha : a ∈ arrs) (hb : b ∈ arrs) (n : String) (d₁ d₂ : DT)
    (h1 : (n, d₁) ∈ a.descr) (h2 : (n, d₂) ∈ b.descr) (hne : d₁ ≠ d₂)
    (hn : ∀ a ∈ arrs, (a.fields.map (·.1)).Nodup) :
    overlapStructuredD spc m fill ndim arrs = .error "ValueError" := by
  unfold overlapStructuredD
  simp only [(structuredD_raises_iff arrs hn).mpr ⟨a, ha, b, hb, n, d₁, d₂, h1, h2, hne⟩, if_true]

/-- non-vacuity: a `float64` field `A` in one input and a `float32` field `A` in another -/
example : overlapStructuredD false .replace none 1
    [⟨[0], [1], [("A", .f8, fun _ => some 1)]⟩, ⟨[1], [1], [("A", .f4, fun _ => some 2)]⟩] = .error "ValueError" := by
  rfl

/-- two structured inputs with overlapping and disjoint `float64` fields: the hypotheses of
`structuredD_allF8` / `structuredD_raises_iff` hold -/
def exD1 : DArr := ⟨[0], [2], [("A", .f8, fun _ => some 1), ("B", .f8, fun _ => none)]⟩
def exD2 : DArr := ⟨[1], [2], [("C", .f8, fun _ => some 3), ("A", .f8, fun _ => some 2)]⟩

example : (∀ a ∈ [exD1, exD2], ∀ f ∈ a.fields, f.2.1 = DT.f8) ∧ (∀ a ∈ [exD1, exD2], (a.fields.map (·.1)).Nodup)
    ∧ mergedDescr [exD1, exD2] = [("A", .f8), ("B", .f8), ("C", .f8)] := by
  decide

def shiftDS (t : List Int) (a : DArr) : DArr := { a with off := List.zipWith (· + ·) a.off t }

theorem toS_shiftDS (t : List Int) (a : DArr) : (shiftDS t a).toS = shiftS t a.toS := rfl

/-- `structured_translation_invariant` with field dtypes: exception classes, casts and all -/
theorem structuredD_translation_invariant (spc : Bool) (m : Mode) (fill : V) (ndim : Nat) (arrs : List DArr)
    (t : List Int) (hne : arrs ≠ []) (hoff : ∀ a ∈ arrs, a.off.length = ndim) (ht : t.length = ndim) :
    overlapStructuredD spc m fill ndim (arrs.map (shiftDS t)) = overlapStructuredD spc m fill ndim arrs := by
  have hd : mergedDescr (arrs.map (shiftDS t)) = mergedDescr arrs := by
    unfold mergedDescr
    rw [List.foldl_map]
    rfl
  have hc : ∀ n, canvasDT (arrs.map (shiftDS t)) n = canvasDT arrs n := by
    intro n
    cases arrs with
    | nil => rfl
    | cons a l => rfl
  have ho : ∀ n, overlap spc m fill ndim ((arrs.map (shiftDS t)).map (fun a => a.toS.field n))
      = overlap spc m fill ndim (arrs.map (fun a => a.toS.field n)) := by
    intro n
    have := overlap_field_shiftS spc m fill ndim (arrs.map DArr.toS) t (by simpa using hne)
      (fun a ha => by obtain ⟨b, hb, rfl⟩ := List.mem_map.mp ha; exact hoff b hb) ht n
    simp only [List.map_map, Function.comp_def, toS_shiftDS] at this ⊢
    exact this
  unfold overlapStructuredD
  simp only [hd, fieldOutcome, hc, ho]

/-! ## images of several dtypes in one list, infinite pixel values (`overlapD`)

`overlap_arrays` is the same code for every list of images: `float64`, `float32`, integer and boolean images in any
order, pixel values NaN, ±∞ or finite.  The canvas has the dtype of the first image and casts what is written into it. -/

/-- where is the IEEE sum of the contributions NaN: exactly where +∞ and −∞ are both contributed -/
theorem sumE_nan_iff (l : List EV) (h : ∀ v ∈ l, v ≠ EV.nan) : sumE l = EV.nan ↔ EV.pinf ∈ l ∧ EV.ninf ∈ l := by
  rw [sumE_eq l h]
  by_cases h1 : EV.pinf ∈ l <;> by_cases h2 : EV.ninf ∈ l <;> simp [h1, h2]

/-- the whole result with dtypes; the hypothesis of `pixel_specD` is asked for only where the code raises nothing (where it
raises, mechanism and specification return the same exception class whatever the pixels hold) -/
theorem overlapD_spec' (m : Mode) (fill : EV) (ndim : Nat) (arrs : List ArrE)
    (h : raisesD (canvasOf arrs) m fill = none →
        ∀ p ∈ allIdx ((newShape ndim ((normaliseE ndim arrs).map ArrE.bare)).map Int.toNat),
          hypD (canvasOf arrs) m (normaliseE ndim arrs) p = true) :
    overlapD false m fill ndim arrs = overlapD true m fill ndim arrs := by
  simp only [overlapD]
  cases hr : raisesD (canvasOf arrs) m fill with
  | some e => rfl
  | none =>
    simp only [Bool.false_eq_true, if_false, if_true]
    rw [List.map_congr_left fun p hp => pixel_specD _ _ fill _ _ (h hr p hp)]

/-- **the whole result with dtypes**: if the hypothesis of `pixel_specD` holds at every pixel of the bounding box, the
mechanism's result (exception class, or dtype, shape and pixels) is the specification's -/
theorem overlapD_spec (m : Mode) (fill : EV) (ndim : Nat) (arrs : List ArrE)
    (h : ∀ p ∈ allIdx ((newShape ndim ((normaliseE ndim arrs).map ArrE.bare)).map Int.toNat),
          hypD (canvasOf arrs) m (normaliseE ndim arrs) p = true) :
    overlapD false m fill ndim arrs = overlapD true m fill ndim arrs :=
  overlapD_spec' m fill ndim arrs fun _ => h

/-- **a list whose first image is floating point and whose values are NaN or finite** (images of any dtypes after the
first, in any order): no exception, the result has the first image's dtype and is, pixel for pixel, the result of the
plain model `overlap` on the values — about which `overlap_spec`, `bbox_exact`, `overlap_translation_invariant`,
`overlap_perm_invariant`, `overlap_replace_last_writer` and `tiling` speak.  No hypothesis on the values. -/
theorem overlapD_embed (spc : Bool) (m : Mode) (fill : V) (ndim : Nat) (l : List (DT × Arr))
    (hc : canvasOf (l.map (fun x => x.2.toE x.1)) = .f8 ∨ canvasOf (l.map (fun x => x.2.toE x.1)) = .f4) :
    overlapD spc m (embed fill) ndim (l.map (fun x => x.2.toE x.1))
      = .ok (canvasOf (l.map (fun x => x.2.toE x.1)), (overlap spc m fill ndim (l.map (·.2))).1,
              (overlap spc m fill ndim (l.map (·.2))).2.map embed) := by
  simp only [overlapD]
  have hr : raisesD (canvasOf (l.map (fun x => x.2.toE x.1))) m (embed fill) = none := by
    rcases hc with h | h <;> rw [h] <;> rfl
  simp only [hr]
  have hsh : newShape ndim ((normaliseE ndim (l.map (fun x => x.2.toE x.1))).map ArrE.bare)
      = newShape ndim (normalise ndim (l.map (·.2))) := by
    rw [normaliseE_bare, toE_map_bare, normalise_bare, newShape_bare]
  simp only [hsh, overlap, List.map_map]
  congr 3
  apply List.map_congr_left
  intro p _
  rw [normaliseE_toE, ← normPairs_snd]
  cases spc
  · exact mechD_toE _ hc m fill _ p
  · exact (castC_float _ hc _).trans (specE_embed m fill _ p)

def shiftE (t : List Int) (a : ArrE) : ArrE := { a with off := List.zipWith (· + ·) a.off t }

theorem normaliseE_shift (ndim : Nat) (arrs : List ArrE) (t : List Int) (hne : arrs ≠ [])
    (hoff : ∀ a ∈ arrs, a.off.length = ndim) (ht : t.length = ndim) :
    normaliseE ndim (arrs.map (shiftE t)) = normaliseE ndim arrs := by
  have hb : (arrs.map (shiftE t)).map ArrE.bare = (arrs.map ArrE.bare).map (shift t) := by
    simp [List.map_map, Function.comp_def, shiftE, shift, ArrE.bare]
  unfold normaliseE
  rw [hb, minOffset_shift ndim (arrs.map ArrE.bare) t (by simpa using hne)
    (fun a ha => by obtain ⟨b, hb', rfl⟩ := List.mem_map.mp ha; exact hoff b hb') ht, List.map_map]
  refine List.map_congr_left fun b hb => ?_
  simp only [Function.comp, shiftE, sub_add_add _ _ t ((hoff b hb).trans ht.symm) ((minOffset_length _ _).trans ht.symm)]

/-- a common translation of all offsets leaves the whole result of `overlap_arrays` on images with dtypes unchanged:
exception class, or dtype, shape and pixels -/
theorem overlapD_translation_invariant (spc : Bool) (m : Mode) (fill : EV) (ndim : Nat) (arrs : List ArrE)
    (t : List Int) (hne : arrs ≠ []) (hoff : ∀ a ∈ arrs, a.off.length = ndim) (ht : t.length = ndim) :
    overlapD spc m fill ndim (arrs.map (shiftE t)) = overlapD spc m fill ndim arrs := by
  have hc : canvasOf (arrs.map (shiftE t)) = canvasOf arrs := by
    cases arrs with
    | nil => rfl
    | cons a l => rfl
  simp only [overlapD, normaliseE_shift ndim arrs t hne hoff ht, hc]

/-- **reordering** the inputs does not change what the property demands of a pixel (mean / sum; ±∞ included) -/
theorem specE_perm (m : Mode) (hm : m ≠ .replace) (fill : EV) (a₁ a₂ : List ArrE) (hp : a₁.Perm a₂) (p : Idx) :
    specE m fill a₁ p = specE m fill a₂ p := by
  have hc := contribsE_perm a₁ a₂ hp p
  have hs := sumE_perm _ _ hc
  have hl := hc.length_eq
  unfold specE
  cases h1 : contribsE a₁ p with
  | nil =>
    have : contribsE a₂ p = [] := by rw [h1] at hc; exact hc.nil_eq.symm
    rw [this]
  | cons c cs =>
    cases h2 : contribsE a₂ p with
    | nil => rw [h1, h2] at hl; simp at hl
    | cons d ds =>
      rw [h1, h2] at hs hl
      cases m with
      | replace => exact absurd rfl hm
      | mean => simp only; rw [hs, hl]
      | sum => simp only; rw [hs]

/-- reordering, whole result of the specification -/
theorem overlapD_perm_invariant (m : Mode) (hm : m ≠ .replace) (fill : EV) (ndim : Nat) (a₁ a₂ : List ArrE)
    (hp : a₁.Perm a₂) (hc : canvasOf a₁ = canvasOf a₂) :
    overlapD true m fill ndim a₁ = overlapD true m fill ndim a₂ := by
  have hn := normaliseE_perm ndim a₁ a₂ hp
  have hsh : newShape ndim ((normaliseE ndim a₁).map ArrE.bare) = newShape ndim ((normaliseE ndim a₂).map ArrE.bare) :=
    newShape_perm ndim _ _ (hn.map _)
  simp only [overlapD, hc, hsh, if_true]
  cases raisesD (canvasOf a₂) m fill with
  | some e => rfl
  | none =>
    simp only
    congr 3
    apply List.map_congr_left
    intro p _
    unfold specD
    rw [specE_perm m hm fill _ _ hn p]

/-- the same for the mechanism, where the hypothesis of `pixel_specD` holds on the box -/
theorem overlapD_mech_perm_invariant (m : Mode) (hm : m ≠ .replace) (fill : EV) (ndim : Nat) (a₁ a₂ : List ArrE)
    (hp : a₁.Perm a₂) (hc : canvasOf a₁ = canvasOf a₂)
    (h : ∀ p ∈ allIdx ((newShape ndim ((normaliseE ndim a₁).map ArrE.bare)).map Int.toNat),
          hypD (canvasOf a₁) m (normaliseE ndim a₁) p = true) :
    overlapD false m fill ndim a₁ = overlapD false m fill ndim a₂ := by
  have hn := normaliseE_perm ndim a₁ a₂ hp
  have hsh : newShape ndim ((normaliseE ndim a₁).map ArrE.bare) = newShape ndim ((normaliseE ndim a₂).map ArrE.bare) :=
    newShape_perm ndim _ _ (hn.map _)
  rw [overlapD_spec m fill ndim a₁ h, overlapD_spec m fill ndim a₂, overlapD_perm_invariant m hm fill ndim a₁ a₂ hp hc]
  intro p hp'
  rw [← hsh] at hp'
  rw [← hc, ← hypD_perm _ m _ _ hn p]
  exact h p hp'

/-- one-pixel images holding `v` at the origin -/
def exInf (v : EV) : ArrE := { off := [0], shape := [1], dt := .f8, get := fun _ => v }

/-- **+∞ and −∞ on one pixel: the mechanism is not the IEEE sum and depends on the order.**  `np.nansum` turns the NaN
that ∞ − ∞ left on the canvas back into 0 when the next image is added: `[∞, −∞, 5]` gives 5 (mean 5/3), `[∞, 5, −∞]`
gives NaN; the IEEE sum of the three values is NaN in every order. -/
theorem inf_cancel_order_dependent :
    mechD .f8 .sum (.fin 0) [exInf .pinf, exInf .ninf, exInf (.fin 5)] [0] = .fin 5 ∧
    mechD .f8 .sum (.fin 0) [exInf .pinf, exInf (.fin 5), exInf .ninf] [0] = .nan ∧
    specE .sum (.fin 0) [exInf .pinf, exInf .ninf, exInf (.fin 5)] [0] = .nan ∧
    mechD .f8 .mean (.fin 0) [exInf .pinf, exInf .ninf, exInf (.fin 5)] [0] = .fin (5 / 3) := by
  decide +kernel

/-- a boolean mask, a float image with a NaN and +∞, an integer image on one footprint -/
def exM1 : ArrE := { off := [0], shape := [2], dt := .b1, get := fun i => if i = [0] then .fin 1 else .fin 0 }
def exM2 : ArrE := { off := [0], shape := [2], dt := .f8, get := fun i => if i = [0] then .nan else .pinf }
def exM3 : ArrE := { off := [1], shape := [2], dt := .i8, get := fun _ => .fin 3 }

/-- non-vacuity of `pixel_specD` / `overlapD_spec`: the hypothesis holds at every pixel for the float-first order in sum
mode (+∞ + 3 = +∞) and for the integer-first order without the float image; it fails for the integer canvas once the
non-integer +∞ is added -/
example : hypD .f8 .sum [exM2, exM1, exM3] [1] = true ∧ mechD .f8 .sum .nan [exM2, exM1, exM3] [1] = .pinf
    ∧ mechD .f8 .sum .nan [exM2, exM1, exM3] [0] = .fin 1 ∧ mechD .f8 .sum .nan [exM2, exM1, exM3] [2] = .fin 3
    ∧ hypD .i8 .sum [exM3, exM1] [1] = true ∧ mechD .i8 .sum (.fin 0) [exM3, exM1] [1] = .fin 3
    ∧ hypD .i8 .sum [exM3, exM2] [1] = false
    ∧ hypD .b1 .sum [exM1, exM3] [1] = true ∧ mechD .b1 .sum (.fin 0) [exM1, exM3] [1] = .fin 1 := by
  decide +kernel

/-- hypotheses of `overlapD_embed` / `overlapD_translation_invariant` / `overlapD_perm_invariant` on a mixed list -/
example : canvasOf ([(DT.f4, exA), (DT.i8, exB)].map (fun x => x.2.toE x.1)) = .f4
    ∧ [exM2, exM1, exM3] ≠ [] ∧ (∀ a ∈ [exM2, exM1, exM3], a.off.length = 1)
    ∧ [exM2, exM1, exM3].Perm [exM2, exM3, exM1] ∧ canvasOf [exM2, exM1, exM3] = canvasOf [exM2, exM3, exM1] :=
  ⟨rfl, List.cons_ne_nil _ _, by decide, List.Perm.cons _ (List.Perm.swap _ _ _), rfl⟩

end Pew.Overlap
