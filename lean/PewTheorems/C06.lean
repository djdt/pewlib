import PewProofs.CalibRows

/-! # C06 — property theorems (statements only depend on `PewModel.Calib`)

`l : List Pt` are the (x, y, w) triples handed to `weighted_linreg`, i.e. the rows left after
rows containing NaN are set aside (`fitPts wt rows`).  The property's hypothesis "at least two
distinct concentrations and positive weights" is `∀ p ∈ l, 0 < p.w` (the theorems need only `0 ≤`)
and `0 < D l`, which `D_pos_iff` shows to be the same thing.

One registered theorem that proofs of later ones use stands where it is proved: `weights_are_pointwise`
(PewProofs/CalibRows.lean). -/
namespace Pew.Calib

/-- the residuals of the fitted line are weight-orthogonal to 1 and to x -/
theorem normal_equations (l : List Pt) (hD : D l ≠ 0) (hS : Sw l ≠ 0) :
    S (fun p => p.w * (p.y - (gradient l * p.x + intercept l))) l = 0 ∧
    S (fun p => p.w * (p.y - (gradient l * p.x + intercept l)) * p.x) l = 0 := by
  constructor
  · rw [← normal_eq1 l hS]
    simp only [Sw, Swx, Swy, ← S_mul_left, ← S_sub]
    exact S_congr l fun p => by ring
  · rw [← normal_eq2 l hD hS]
    simp only [Swx, Swxx, Swxy, ← S_mul_left, ← S_sub]
    exact S_congr l fun p => by ring

/-- no other line has a smaller weighted residual sum -/
theorem optimal (l : List Pt) (hw : ∀ p ∈ l, 0 ≤ p.w) (hD : 0 < D l) (a b : Rat) :
    cost (gradient l) (intercept l) l ≤ cost a b l := by
  rw [cost_excess l hD.ne' (Sw_pos_of_D_pos l hw hD).ne' a b]
  exact le_add_of_nonneg_right (S_sq_nonneg _ l hw)

/-- the fit is determined (`D > 0`) exactly when two positively weighted rows have distinct
concentrations — the hypothesis of the property -/
theorem D_pos_iff (l : List Pt) (hw : ∀ p ∈ l, 0 ≤ p.w) :
    0 < D l ↔ ∃ p ∈ l, ∃ q ∈ l, 0 < p.w ∧ 0 < q.w ∧ p.x ≠ q.x := by
  have hin : ∀ p : Pt, ∀ q ∈ l, 0 ≤ q.w * (q.x - p.x) ^ 2 := fun p q hq => mul_nonneg (hw q hq) (sq_nonneg _)
  rw [← Rat.mul_pos_iff_of_pos_left (by decide : (0 : Rat) < 2), two_D_eq]
  constructor
  · intro h
    obtain ⟨p, hp, h1⟩ := S_pos_exists l h
    have hpw := pos_of_mul_pos_left h1 (S_nonneg l (hin p))
    obtain ⟨q, hq, h2⟩ := S_pos_exists l (pos_of_mul_pos_right h1 hpw.le)
    refine ⟨p, hp, q, hq, hpw, pos_of_mul_pos_left h2 (sq_nonneg _), fun hx => ?_⟩
    rw [hx, sub_self, sq, mul_zero, mul_zero] at h2
    exact lt_irrefl _ h2
  · rintro ⟨p, hp, q, hq, hpw, hqw, hx⟩
    exact S_pos_of_mem l (fun r hr => mul_nonneg (hw r hr) (S_nonneg l (hin r))) p hp
      (mul_pos hpw (S_pos_of_mem l (hin p) q hq (mul_pos hqw (sq_pos_of_ne_zero (sub_ne_zero.mpr hx.symm)))))

/-- the mechanism (closed-form solution of the normal equations) is the textbook line:
slope = weighted covariance / weighted variance, through the weighted centroid (`hD` is not used: `x / 0 = 0` in ℚ) -/
theorem fit_is_centred_form (l : List Pt) (hD : D l ≠ 0) (hS : Sw l ≠ 0) :
    gradient l = specGradient l ∧ intercept l = specIntercept l := by
  have hg : gradient l = specGradient l := by
    rw [specGradient, sxy_eq l hS, sxx_eq l hS, div_div_div_cancel_right₀ hS]
    rfl
  exact ⟨hg, by rw [specIntercept, ← hg, intercept_eq_mean]⟩

/-- `weighted_rsq` (weighted covariance matrix, normalised, clipped, squared) is the squared
weighted correlation `N² / (D · Dy)`; in particular the clip never acts -/
theorem rsq_is_squared_correlation (l : List Pt) (hw : ∀ p ∈ l, 0 ≤ p.w) (hD : 0 < D l)
    (hDy : 0 < Dy l) : rsqMech l = some (specRsq l) := by
  have hS := (Sw_pos_of_D_pos l hw hD).ne'
  obtain ⟨p, hp, q, hq, hpw, hqw, hx⟩ := (D_pos_iff l hw).mp hD
  have hf : Sw l - Sww l / Sw l ≠ 0 := fun h => by
    rw [sub_eq_zero, eq_div_iff hS] at h
    exact (covNorm_pos l hw hp hq (fun h => hx (h ▸ rfl)) hpw hqw).ne' (sub_eq_zero.mpr h)
  rw [rsqMech_eq l hS hf, if_neg (not_or.mpr ⟨hD.ne', hDy.ne'⟩), min_eq_right (specRsq_bounds l hw hD hDy).2]

/-- 0 ≤ r² ≤ 1 (weighted Cauchy–Schwarz), for the value the mechanism returns -/
theorem rsq_bounds (l : List Pt) (hw : ∀ p ∈ l, 0 ≤ p.w) (hD : 0 < D l) (hDy : 0 < Dy l) :
    ∃ r, rsqMech l = some r ∧ 0 ≤ r ∧ r ≤ 1 :=
  ⟨specRsq l, rsq_is_squared_correlation l hw hD hDy, specRsq_bounds l hw hD hDy⟩

/-- reordering the calibration points (with their custom weights) changes nothing: every
attribute set by `update_linreg` is the same, for every weighting -/
theorem fit_perm (wt : Weighting) (r₁ r₂ : List Row) (h : r₁.Perm r₂) :
    updateLinreg wt r₁ = updateLinreg wt r₂ :=
  fit_of_usable_perm wt (h.filter _)

/-- rows containing NaN have no influence at all: two point sets with the same usable rows (in
the same order) give the same fit -/
theorem fit_nan_rows_irrelevant (wt : Weighting) (r₁ r₂ : List Row)
    (h : usableRows r₁ = usableRows r₂) : updateLinreg wt r₁ = updateLinreg wt r₂ :=
  fit_of_usable_perm wt (.of_eq h)

/-- "the fit does not change when NaN rows are interleaved": one row with NaN in either cell, put at any position of any
table, leaves every attribute as it was -/
theorem fit_nan_interleave (wt : Weighting) (a b : List Row) (n : Row) (hn : n.x = none ∨ n.y = none) :
    updateLinreg wt (a ++ n :: b) = updateLinreg wt (a ++ b) := by
  apply fit_nan_rows_irrelevant
  rw [usableRows, usableRows, List.filter_append, List.filter_append,
    List.filter_cons_of_neg (Row.not_usable hn)]

/-- the mechanism before e83c784 (weights derived before NaN rows are set aside) does not have
this property: `[[0,1],[1,2],[2,4]]` with `1/x`, and the same with `[0.5, NaN]` inserted -/
theorem old_nan_interleave_wrong :
    let wt := Weighting.builtin ⟨false, .inv⟩
    let a : List Row := [⟨some 0, some 1, none⟩]
    let b : List Row := [⟨some 1, some 2, none⟩, ⟨some 2, some 4, none⟩]
    let n : Row := ⟨some (1/2), none, none⟩
    (updateLinregOld wt (a ++ n :: b)).gradient ≠ (updateLinregOld wt (a ++ b)).gradient := by
  decide +kernel

/-- fewer than two usable points reset to the identity (gradient 1, intercept 0, no r², no error) -/
theorem few_points_identity (wt : Weighting) (rows : List Row) (h : (usableRows rows).length < 2) :
    updateLinreg wt rows = identityFit := by
  rw [updateLinreg_eq, if_pos h]

theorem calibrate_nan (g c : Rat) : calibrate g c none = none := by
  unfold calibrate; split <;> rfl

theorem calibrate_identity (d : V) : calibrate identityFit.gradient identityFit.intercept d = d :=
  if_pos ⟨rfl, rfl⟩

/-- mechanism = specification: the shortcut changes nothing — for every line with a usable gradient `calibrate`
(shortcut for the exact identity, arithmetic otherwise) is the formula `(r − c) / g`, NaN staying NaN.  In
particular the identity returns every value unchanged *because* `(r − 0) / 1 = r`, not because a branch says so. -/
theorem calibrate_is_formula (g c : Rat) (hg : g ≠ 0) (d : V) : calibrate g c d = specCalibrate g c d := by
  unfold calibrate specCalibrate
  split
  · next h =>
    obtain ⟨rfl, rfl⟩ := h
    cases d with
    | none => rfl
    | some q => exact congrArg some (show q = (q - 0) / 1 by rw [sub_zero, div_one])
  · cases d <;> rfl

/-- the returned value is THE concentration of the response: `calibrate` maps `r` to `x` exactly when `r` lies on
the line at `x` (so the result is determined by the property's clause alone, for every response — integer counts,
values below the blank, anything — not only for those built from a concentration) -/
theorem calibrate_eq_iff_on_line (g c r x : Rat) (hg : g ≠ 0) :
    calibrate g c (some r) = some x ↔ g * x + c = r := by
  rw [calibrate_is_formula g c hg]
  exact Option.some_inj.trans (div_eq_iff_line hg c r x)

theorem calibrate_inverts (g c x : Rat) (hg : g ≠ 0) : calibrate g c (some (g * x + c)) = some x :=
  (calibrate_eq_iff_on_line g c _ x hg).mpr rfl

theorem calibrate_fixed_point_iff (g c q : Rat) (hg : g ≠ 0) :
    calibrate g c (some q) = some q ↔ g * q + c = q :=
  calibrate_eq_iff_on_line g c q q hg

/-- "returns data unchanged" characterises the identity: a calibration (with a usable gradient) returns every
array unchanged exactly when gradient = 1 and intercept = 0 - however close to the identity another line is, it
moves data (it fixes at most the one value `c / (1 - g)`).  Together with `calibrate_inverts`: the shortcut in
`calibrate` may be taken for the exact identity only. -/
theorem calibrate_unchanged_iff_identity (g c : Rat) (hg : g ≠ 0) :
    (∀ d : V, calibrate g c d = d) ↔ (g = 1 ∧ c = 0) := by
  constructor
  · intro h
    have h0 := (calibrate_fixed_point_iff g c 0 hg).1 (h (some 0))
    have h1 := (calibrate_fixed_point_iff g c 1 hg).1 (h (some 1))
    rw [mul_zero, zero_add] at h0
    rw [mul_one, h0, add_zero] at h1
    exact ⟨h1, h0⟩
  · rintro ⟨rfl, rfl⟩ d
    exact calibrate_identity d

/-- every response lies on the line at the concentration `calibrate` returns for it (`onLine` is the executable
predicate the driver evaluates on every case) -/
theorem onLine_calibrate (g c : Rat) (hg : g ≠ 0) (r : V) : onLine g c r (calibrate g c r) = true := by
  cases r with
  | none => rw [calibrate_nan]; rfl
  | some q =>
    rw [calibrate_is_formula g c hg]
    exact decide_eq_true ((div_eq_iff_line hg c q _).mp rfl)

/-- arrays: calibrating the responses of any array of concentrations (NaN entries included) returns the array —
`calibrate ∘ response-of = id`, of any length (shape is carried by the flat order) -/
theorem calibrate_array_inverts (g c : Rat) (hg : g ≠ 0) (xs : List V) :
    (xs.map (fun x => x.map (fun q => g * q + c))).map (calibrate g c) = xs := by
  rw [List.map_map]
  refine List.map_id'' (fun x => ?_) xs
  cases x
  exacts [calibrate_nan g c, calibrate_inverts g c _ hg]

/-- the responses of the calibrated array are the data (`response-of ∘ calibrate = id`); with
`calibrate_array_inverts`, `calibrate` is a bijection of arrays: no two different arrays of responses share their concentrations, nothing
is truncated or merged -/
theorem calibrate_array_preimage (g c : Rat) (hg : g ≠ 0) (rs : List V) :
    (rs.map (calibrate g c)).map (fun x => x.map (fun q => g * q + c)) = rs := by
  rw [List.map_map]
  refine List.map_id'' (fun r => ?_) rs
  cases r with
  | none => rw [Function.comp_apply, calibrate_nan]; rfl
  | some q =>
    rw [Function.comp_apply, calibrate_is_formula g c hg]
    exact congrArg some ((div_eq_iff_line hg c q _).mp rfl)

theorem calibrate_array_injective (g c : Rat) (hg : g ≠ 0) (r₁ r₂ : List V)
    (h : r₁.map (calibrate g c) = r₂.map (calibrate g c)) : r₁ = r₂ := by
  rw [← calibrate_array_preimage g c hg r₁, ← calibrate_array_preimage g c hg r₂, h]

/-- a `calibrate` call at the end of any session uses the line the object holds at that moment and nothing else
of its history -/
theorem session_calibrate_current_line (o : Fit) (pre : List Step) (d : List V) :
    run o (pre ++ [.calibrate d]) =
      run o pre ++ [d.map (calibrate (finalState o pre).gradient (finalState o pre).intercept)] := by
  rw [run_append]; rfl

/-- `update_linreg` overwrites whatever the object held: after a refit the object is the fit of the current
points and weighting -/
theorem session_refit_forgets (o : Fit) (pre : List Step) (wt : Weighting) (rows : List Row) :
    finalState o (pre ++ [.refit wt rows]) = updateLinreg wt rows := by
  rw [finalState_append]; rfl

/-- whatever line the object held before (fitted, assigned, constructed): once it is refitted on fewer than two
usable points, `calibrate` returns the data unchanged -/
theorem session_few_points_unchanged (o : Fit) (pre : List Step) (wt : Weighting) (rows : List Row) (d : List V)
    (h : (usableRows rows).length < 2) :
    run o (pre ++ [.refit wt rows, .calibrate d]) = run o pre ++ [d] := by
  rw [List.append_cons, session_calibrate_current_line, session_refit_forgets, few_points_identity wt rows h,
    List.map_id'' calibrate_identity, run_append, List.append_assoc]
  rfl

/-- whatever the object held before: once a line with a usable gradient is assigned, responses on that line are
mapped back to their concentrations (NaN stays NaN) -/
theorem session_inverts (o : Fit) (pre : List Step) (g c : Rat) (xs : List V) (hg : g ≠ 0) :
    run o (pre ++ [.assign g c, .calibrate (xs.map (fun x => x.map (fun q => g * q + c)))]) = run o pre ++ [xs] := by
  rw [List.append_cons, session_calibrate_current_line, run_append, List.append_assoc, finalState_append]
  exact congrArg (run o pre ++ [·]) (calibrate_array_inverts g c hg xs)

theorem leastNonzero_is_least (xs : List V) :
    (∀ m, leastNonzero xs = some m → some m ∈ xs ∧ m ≠ 0 ∧ ∀ q : Rat, some q ∈ xs → q ≠ 0 → m ≤ q) ∧
    (leastNonzero xs = none ↔ ¬ ∃ q : Rat, some q ∈ xs ∧ q ≠ 0) :=
  ⟨leastNonzero_some xs, leastNonzero_none_iff xs⟩

/-- Safe mode never divides by zero: when some entry is finite and non-zero, every finite entry
(zero included) gets a finite weight, a zero gets the weight of the smallest non-zero level, and
on non-negative entries all these weights are positive. -/
theorem weights_finite (xs : List V) (k : Kind) (hnz : ∃ q : Rat, some q ∈ xs ∧ q ≠ 0) :
    (weightsFromWeighting xs k).length = xs.length ∧
    ∃ m : Rat, nanmin (xs.filter (fun v => !isZero v)) = some m ∧ m ≠ 0 ∧ some m ∈ xs ∧
      ∀ (i : Nat) (q : Rat), xs[i]? = some (some q) →
        ∃ w : Rat, (weightsFromWeighting xs k)[i]? = some (some w) ∧
          some w = applyKind k (some (if q = 0 then m else q)) ∧
          ((∀ a : Rat, some a ∈ xs → 0 ≤ a) → 0 < w) := by
  obtain ⟨m, hm⟩ := leastNonzero_isSome hnz
  obtain ⟨hmem, hm0, -⟩ := leastNonzero_some xs m hm
  rw [weights_are_pointwise, specWeights]
  refine ⟨List.length_map _, m, (nanmin_filter_eq_leastNonzero xs).trans hm, hm0, hmem, fun i q hi => ?_⟩
  have hq : (if q = 0 then m else q) ≠ 0 := by split; exacts [hm0, ‹_›]
  refine ⟨wFun k (if q = 0 then m else q), ?_, (applyKind_some k hq).symm,
    fun hall => wFun_pos k (replaced_pos hm hall (List.mem_of_getElem? hi))⟩
  rw [List.getElem?_map, hi, Option.map_some, specWeight_some hm]

/-- The exact extent of "a zero concentration never produces an infinite or NaN weight": for a weighting
other than `Equal`, the weight of a zero entry is NaN exactly when the array holds nothing but zeros and
NaNs, with at least one NaN (`Calibration.from_points([[0, 1], [nan, 2]], weights="1/x").weights` is
`[nan, nan]`).  It is never infinite: no branch divides by zero. -/
theorem zero_weight_nan_iff (xs : List V) (k : Kind) (i : Nat) (hi : xs[i]? = some (some 0)) (hk : k ≠ .equal) :
    (weightsFromWeighting xs k)[i]? = some none ↔
      (¬ ∃ q : Rat, some q ∈ xs ∧ q ≠ 0) ∧ ∃ j : Nat, xs[j]? = some none := by
  rw [weights_are_pointwise, specWeights, List.getElem?_map, hi, Option.map_some, Option.some_inj]
  cases hl : leastNonzero xs with
  | some m =>
    rw [specWeight_some hl]
    exact ⟨(nomatch ·), fun h => absurd ((leastNonzero_none_iff xs).mpr h.1) (by rw [hl]; exact (nomatch ·))⟩
  | none =>
    -- nothing but zeros and NaNs: the all-zeros branch gives the weight 1, and it is taken exactly when no entry is
    -- NaN; past it the zero gets `(leastNonzero xs).map _ = none`
    have hnz := (leastNonzero_none_iff xs).mp hl
    have h1 : xs.all (·.isNone) = false :=
      List.all_eq_false.mpr ⟨some 0, List.mem_of_getElem? hi, Bool.false_ne_true⟩
    unfold specWeight
    simp only [h1, hl, Bool.false_eq_true, if_false, if_neg hk, ne_eq, not_true_eq_false, Option.map_none]
    by_cases hz : xs.all (fun u => u == some 0) = true
    · rw [if_pos hz]
      exact ⟨(nomatch ·), fun ⟨_, j, hj⟩ => nomatch List.all_eq_true.mp hz none (List.mem_of_getElem? hj)⟩
    · rw [if_neg hz]
      refine ⟨fun _ => ⟨hnz, ?_⟩, fun _ => rfl⟩
      obtain ⟨v, hv, hvz⟩ := List.all_eq_false.mp (Bool.not_eq_true _ ▸ hz)
      cases v with
      | none => exact List.getElem?_of_mem hv
      | some q => exact absurd ⟨q, hv, fun hq => hvz (by rw [hq]; rfl)⟩ hnz

/-- whenever some entry is finite and not zero (`hasNonzero`; implied by two distinct concentrations,
`two_levels_hasNonzero`), every finite entry — zeros included — has a finite weight -/
theorem weights_finite_of_nonzero (xs : List V) (k : Kind) (h : hasNonzero xs = true) :
    finiteAtFinite xs (weightsFromWeighting xs k) = true := by
  obtain ⟨m, hm⟩ := leastNonzero_isSome (hasNonzero_iff.mp h)
  rw [weights_are_pointwise, finiteAtFinite, specWeights, List.length_map, beq_self_eq_true, Bool.true_and,
    List.zip_eq_zipWith, List.zipWith_map_right, List.zipWith_self, List.all_map, List.all_eq_true]
  intro v _
  cases v with
  | none => rfl
  | some q => simp only [Function.comp, specWeight_some hm]; rfl

theorem two_levels_hasNonzero (xs : List V) (p q : Rat) (hp : some p ∈ xs) (hq : some q ∈ xs) (hne : p ≠ q) :
    hasNonzero xs = true := by
  rw [hasNonzero_iff]
  by_cases h0 : p = 0
  · exact ⟨q, hq, fun hh => hne (h0.trans hh.symm)⟩
  · exact ⟨p, hp, h0⟩

/-- for the built-in weightings the property's hypothesis "positive weights once NaN rows are set
aside" holds by itself: non-negative concentrations (responses for the y-based weightings) with at
least one non-zero value give strictly positive fit weights -/
theorem builtin_fit_weights_pos (b : Builtin) (rows : List Row)
    (hnn : ∀ r ∈ usableRows rows, ∀ q : Rat, (if b.onY then r.y else r.x) = some q → 0 ≤ q)
    (hnz : ∃ r ∈ usableRows rows, ∃ q : Rat, (if b.onY then r.y else r.x) = some q ∧ q ≠ 0) :
    ∀ p ∈ fitPts (.builtin b) rows, 0 < p.w := by
  intro p hp
  rw [fitPts_eq_specPts, specPts_eq_map] at hp
  obtain ⟨r, hr, rfl⟩ := List.mem_map.mp hp
  obtain ⟨r0, hr0, q0, hq0, hq0ne⟩ := hnz
  obtain ⟨m, hm⟩ := leastNonzero_isSome (xs := (usableRows rows).map fun r => if b.onY then r.y else r.x)
    ⟨q0, List.mem_map.mpr ⟨r0, hr0, hq0⟩, hq0ne⟩
  -- the row is usable, so its selected cell is finite
  obtain ⟨q, hq⟩ : ∃ q : Rat, (if b.onY then r.y else r.x) = some q := by
    have hu := (List.mem_filter.mp hr).2
    rw [Row.usable, Bool.and_eq_true] at hu
    split
    exacts [Option.isSome_iff_exists.mp hu.2, Option.isSome_iff_exists.mp hu.1]
  show 0 < (specWeight _ b.kind (if b.onY then r.y else r.x)).getD 0
  rw [hq, specWeight_some hm]
  refine wFun_pos _ (replaced_pos hm (fun a ha => ?_) (List.mem_map.mpr ⟨r, hr, hq⟩))
  obtain ⟨r1, hr1, h1⟩ := List.mem_map.mp ha
  exact hnn r1 hr1 a h1

/-- the returned `error`² (computed from the fitted line's residuals) is the residual variance about the
textbook line written with raw sums, `(Σy² − 2gΣxy − 2cΣy + g²Σx² + 2gcΣx + n c²)/(n − 2)`; 0 for n ≤ 2 (`hD` only feeds `fit_is_centred_form`) -/
theorem err2_is_residual_variance (l : List Pt) (hD : D l ≠ 0) (hS : Sw l ≠ 0) : err2 l = specErr2 l := by
  obtain ⟨hg, hc⟩ := fit_is_centred_form l hD hS
  unfold err2 specErr2
  simp only
  rw [← hg, ← hc]
  split
  · congr 1
    simp only [← S_one, ← S_mul_left, ← S_sub, ← S_add]
    exact S_congr l fun p => by ring
  · rfl

/-- it is a variance: not negative (so `error` is a real number) -/
theorem err2_nonneg (l : List Pt) : 0 ≤ err2 l := by
  by_cases h : l.length > 2
  · rw [err2, if_pos h]
    exact div_nonneg (S_nonneg l fun p _ => sq_nonneg _) (sub_nonneg.mpr (Nat.ofNat_le_cast.mpr h.le))
  · rw [err2, if_neg h]

/-! ## the whole fit clause against the NaN-free table

The three theorems below do not mention the mask `update_linreg` computes (`usableRows`): the table handed to pewlib is
related to the NaN-free table by `NanInsert` (NaN rows inserted anywhere, any number of them) and `List.Perm` (any
order), and the result is compared with the specification evaluated on the NaN-free table alone: entry-by-entry
weights (`specPts`), the textbook centred line, the squared weighted correlation, the residual variance. -/

/-- any number of rows with NaN in either or both cells, inserted at any positions, in any order of the whole table,
change nothing: the fit is the fit of the NaN-free table (generalises `fit_nan_interleave` from one inserted row to
all, and composes it with `fit_perm`) -/
theorem fit_nan_insert_perm (wt : Weighting) (clean rows rows' : List Row)
    (hins : NanInsert clean rows) (hperm : rows'.Perm rows) :
    updateLinreg wt rows' = updateLinreg wt clean :=
  fit_of_usable_perm wt ((hperm.filter _).trans (.of_eq (hins.usable_eq.trans hins.clean_usable.symm)))

/-- "fewer than two usable points reset to the identity instead of failing", with "usable" stated on the table itself:
whatever NaN rows surround fewer than two NaN-free rows, in whatever order -/
theorem few_usable_identity (wt : Weighting) (clean rows rows' : List Row)
    (hins : NanInsert clean rows) (hperm : rows'.Perm rows) (h : clean.length < 2) :
    updateLinreg wt rows' = identityFit := by
  rw [fit_nan_insert_perm wt clean rows rows' hins hperm]
  apply few_points_identity
  rw [hins.clean_usable]; exact h

/-- The fit clause of the property in one statement.  For every NaN-free table `clean` whose specified weights are
positive and which holds two distinct concentrations, every table `rows'` obtained from it by inserting NaN rows
anywhere and reordering, and every supported weighting: the gradient and intercept `update_linreg` stores are the
textbook weighted least-squares line of `clean`, no line has a smaller weighted residual sum, r² is the squared
weighted correlation and lies in [0, 1] (where the responses are not constant), `error`² is the residual variance. -/
theorem fit_is_specification (wt : Weighting) (clean rows rows' : List Row)
    (hins : NanInsert clean rows) (hperm : rows'.Perm rows)
    (hw : ∀ p ∈ specPts wt clean, 0 < p.w)
    (hx : ∃ p ∈ specPts wt clean, ∃ q ∈ specPts wt clean, p.x ≠ q.x) :
    (updateLinreg wt rows').gradient = specGradient (specPts wt clean) ∧
    (updateLinreg wt rows').intercept = specIntercept (specPts wt clean) ∧
    (∀ a b : Rat, cost (updateLinreg wt rows').gradient (updateLinreg wt rows').intercept (specPts wt clean)
        ≤ cost a b (specPts wt clean)) ∧
    (0 < Dy (specPts wt clean) →
      (updateLinreg wt rows').rsq = some (some (specRsq (specPts wt clean))) ∧
      0 ≤ specRsq (specPts wt clean) ∧ specRsq (specPts wt clean) ≤ 1) ∧
    (updateLinreg wt rows').err2 = some (specErr2 (specPts wt clean)) := by
  obtain ⟨p, hp, q, hq, hpq⟩ := hx
  have hw0 : ∀ p ∈ specPts wt clean, 0 ≤ p.w := fun p hp => le_of_lt (hw p hp)
  have hD : 0 < D (specPts wt clean) := (D_pos_iff _ hw0).mpr ⟨p, hp, q, hq, hw p hp, hw q hq, hpq⟩
  have hS : Sw (specPts wt clean) ≠ 0 := (Sw_pos_of_D_pos _ hw0 hD).ne'
  have hlen : ¬ clean.length < 2 := by
    rw [← specPts_length wt]
    exact not_lt.mpr (length_ge_two_of_ne hp hq fun h => hpq (h ▸ rfl))
  rw [fit_nan_insert_perm wt clean rows rows' hins hperm, updateLinreg_eq, hins.clean_usable, if_neg hlen]
  obtain ⟨hg, hc⟩ := fit_is_centred_form _ hD.ne' hS
  exact ⟨hg, hc, fun a b => optimal _ hw0 hD a b,
    fun hDy => ⟨congrArg some (rsq_is_squared_correlation _ hw0 hD hDy), specRsq_bounds _ hw0 hD hDy⟩,
    congrArg some (err2_is_residual_variance _ hD.ne' hS)⟩

/-! ## non-vacuity -/

def exRows : List Row :=
  [⟨some 0, some 1, some 1⟩, ⟨some (1/2), none, some 2⟩, ⟨some 1, some 2, some 3⟩, ⟨some 2, some 4, some 1⟩]

def exPts : List Pt := fitPts (.builtin ⟨false, .inv⟩) exRows

-- the hypotheses of the fit theorems hold on a ladder containing 0 with `1/x` weights and a NaN row
example : (∀ p ∈ exPts, 0 ≤ p.w) ∧ 0 < D exPts ∧ 0 < Dy exPts ∧ Sw exPts ≠ 0 := by decide +kernel
example : exPts.length = 3 ∧ gradient exPts = 10/7 ∧ intercept exPts = 6/7 := by decide +kernel
example : fitHyp exPts = true := by decide +kernel
-- weights_finite: a zero and a non-zero level
example : ∃ q : Rat, some q ∈ [some 0, none, some (1/2), some 2] ∧ q ≠ 0 := ⟨2, by decide +kernel⟩
example : weightsFromWeighting [some 0, none, some (1/2), some 2] .inv = [some 2, none, some 2, some (1/2)] := by
  decide +kernel
-- the corner outside the hypothesis: only zeros and NaNs → the zero gets a NaN weight
example : weightsFromWeighting [some 0, none] .inv = [none, none] := by decide +kernel
example : ([some 0, none] : List V)[0]? = some (some 0) ∧ Kind.inv ≠ Kind.equal ∧
    (¬ ∃ q : Rat, some q ∈ ([some 0, none] : List V) ∧ q ≠ 0) ∧ ∃ j : Nat, ([some 0, none] : List V)[j]? = some none :=
  ⟨rfl, by decide, (leastNonzero_none_iff _).mp (by decide +kernel), 1, rfl⟩
example : hasNonzero [some 0, none, some (1/2), some 2] = true ∧ hasNonzero [some 0, none] = false ∧
    finiteAtFinite [some 0, none] (weightsFromWeighting [some 0, none] .inv) = false ∧
    leastNonzero [some 0, none, some 2, some (1/2)] = some (1/2) := by decide +kernel
example : specWeights [some 0, none, some (1/2), some 2] .inv2 = [some 4, none, some 4, some (1/4)] := by decide +kernel
-- err2_is_residual_variance: the ladder above (three usable rows, `1/x`), then four points with equal weights
example : D exPts ≠ 0 ∧ Sw exPts ≠ 0 ∧ err2 exPts = specErr2 exPts := by decide +kernel
def exPts4 : List Pt := fitPts (.builtin ⟨false, .equal⟩)
  [⟨some 0, some 1, none⟩, ⟨some 1, some 3, none⟩, ⟨some 2, some 4, none⟩, ⟨some 3, some 8, none⟩]
example : exPts4.length = 4 ∧ D exPts4 ≠ 0 ∧ Sw exPts4 ≠ 0 ∧ err2 exPts4 = specErr2 exPts4 ∧ err2 exPts4 ≠ 0 := by
  decide +kernel
-- few_points_identity / fit_nan_interleave / calibrate_inverts
example : (usableRows [⟨some 1, none, none⟩, ⟨some 2, some 3, none⟩]).length < 2 := by decide
example : (⟨some (1/2), none, some 2⟩ : Row).x = none ∨ (⟨some (1/2), none, some 2⟩ : Row).y = none := Or.inr rfl
example : calibrate 2 3 (some (2 * 5 + 3)) = some 5 := by decide +kernel

-- fit_is_specification / fit_nan_insert_perm / few_usable_identity: the NaN-free table of `exRows`, `exRows` itself
-- (one NaN row inserted) and a reordering of it
def exClean : List Row := [⟨some 0, some 1, some 1⟩, ⟨some 1, some 2, some 3⟩, ⟨some 2, some 4, some 1⟩]
example : NanInsert exClean exRows :=
  .keep _ rfl rfl (.nan _ (Or.inr rfl) (.keep _ rfl rfl (.keep _ rfl rfl .nil)))
example : (exRows.reverse).Perm exRows := List.reverse_perm _
example : (∀ p ∈ specPts (.builtin ⟨false, .inv⟩) exClean, 0 < p.w) ∧
    (∃ p ∈ specPts (.builtin ⟨false, .inv⟩) exClean, ∃ q ∈ specPts (.builtin ⟨false, .inv⟩) exClean, p.x ≠ q.x) ∧
    0 < Dy (specPts (.builtin ⟨false, .inv⟩) exClean) ∧
    specGradient (specPts (.builtin ⟨false, .inv⟩) exClean) = 10/7 ∧
    (updateLinreg (.builtin ⟨false, .inv⟩) exRows.reverse).gradient = 10/7 := by decide +kernel
example : NanInsert [⟨some 2, some 3, none⟩] [⟨some 1, none, none⟩, ⟨some 2, some 3, none⟩, ⟨none, none, none⟩] :=
  .nan _ (Or.inr rfl) (.keep _ rfl rfl (.nan _ (Or.inl rfl) .nil))

-- calibrate_fixed_point_iff / calibrate_unchanged_iff_identity: a line next to the identity moves data
example : (1000001 / 1000000 : Rat) ≠ 0 ∧
    calibrate (1000001 / 1000000) (1 / 1000000000) (some (1 / 1000000000)) = some 0 := by decide +kernel
example : calibrate 2 3 (some (-3)) = some (-3) ∧ (2 : Rat) * (-3) + 3 = -3 := by decide +kernel
-- calibrate_is_formula / calibrate_eq_iff_on_line / arrays: raw counts [12, 17, NaN, 40] under 40·x + 12
example : (40 : Rat) ≠ 0 ∧ [some 12, some 17, none, some 40].map (calibrate 40 12) = [some 0, some (1/8), none, some (7/10)] ∧
    [some 12, some 17, none, some 40].map (specCalibrate 40 12) = [some 0, some (1/8), none, some (7/10)] ∧
    (40 : Rat) * (1/8) + 12 = 17 ∧ onLine 40 12 (some 17) (some (1/8)) = true ∧ onLine 40 12 (some 17) (some 0) = false := by
  decide +kernel
-- the identity is the formula too: (r − 0) / 1
example : [some 12, none, some (-3)].map (specCalibrate 1 0) = [some 12, none, some (-3)] := by decide +kernel
-- sessions: fit, then too few usable points, then an assigned line
def exSession : List Step :=
  [.refit (.builtin ⟨false, .inv⟩) exRows, .calibrate [some 2, none],
   .refit (.builtin ⟨false, .inv⟩) [⟨some 1, none, none⟩, ⟨some 2, some 3, none⟩], .calibrate [some 2, none],
   .assign 2 3, .calibrate [some 13, none]]
example : run identityFit exSession = [[some (4/5), none], [some 2, none], [some 5, none]] := by decide +kernel
example : (finalState identityFit (exSession.take 1)).gradient = 10/7 ∧ (2 : Rat) ≠ 0 := by decide +kernel

end Pew.Calib
