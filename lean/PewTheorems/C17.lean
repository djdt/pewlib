import PewProofs.FastParseXml
import PewProofs.FastParseLoop
import PewProofs.FastParseCaller
import PewProofs.FastParsePos
import PewProofs.FastParseText

/-! # C17 — property theorems (statements only depend on `PewModel.FastParse` and the example documents defined here) -/
namespace Pew.FastParse

/-- a small document of the layout: two array groups (32-bit m/z, 64-bit intensities) after an extra
group, one scan settings element with a size, two spectra — one with a TIC written with exponent and
sign, extra params everywhere, a noise section that repeats a read accession -/
def exampleDoc : Doc :=
  { decl := true, settingsFirst := false,
    pre := [{ items := [.cv "MS:1000285" (some "7"), .misc] }], mid1 := [], mid2 := [{ items := [] }], post := [],
    groups := [{ id := "spectrum", items := [.cv "MS:1000294" none] },
               { id := "mzArray", items := [.cv "MS:1000514" none, .cv "MS:1000521" none, .cv "IMS:1000101" (some "true")] },
               { id := "intensities", items := [.misc, .cv "MS:1000523" none, .cv "MS:1000515" (some "")] }],
    settings := [{ items := [.cv "IMS:1000042" (some "2"), .cv "IMS:1000043" (some "1"),
                             .cv "IMS:1000046" (some "30"), .cv "IMS:1000047" (some "2.5E+1")] }],
    spectra := [{ items := [.ref "spectrum", .cv "MS:1000285" (some "1.500000e+06")], scanlist := [.cv "MS:1000795" none],
                  scans := [[.cv "IMS:1000050" (some "2"), .cv "IMS:1000051" (some "1"), .misc], [.misc]],
                  arrays := [{ items := [.ref "mzArray", .cv "IMS:1000104" (some "8"), .cv "IMS:1000102" (some "16"), .misc] },
                             { items := [.cv "IMS:1000102" (some "24"), .ref "intensities", .cv "IMS:1000104" (some "16")] }],
                  tail := [] },
                { items := [], scanlist := [],
                  scans := [[.cv "IMS:1000051" (some "1"), .cv "IMS:1000050" (some "1")]],
                  arrays := [{ items := [.ref "intensities", .cv "IMS:1000104" (some "8"), .cv "IMS:1000102" (some "48")] }],
                  tail := [.cv "MS:1000285" (some "-3")] }] }

def exampleLines : List (Line × Nat) := (render clsAny exampleDoc).map (fun l => (l, 1))

theorem exampleLines_fst : exampleLines.map Prod.fst = render clsAny exampleDoc := by
  simp [exampleLines, List.map_map, Function.comp_def]

/-- the fast parser and the XML parser build the same model.  For EVERY document of the layout
(`Layout`: any number ≥ 1 of spectra in any order, extra cv/user lines everywhere, extra ref lines outside
`<binaryDataArray>` (`ArrOk` wants exactly one there), noise sections, TIC present or absent, image size present
or absent, any declared binary types, either order of the settings and group lists, attribute texts without
entity references), every assignment of line lengths, and every callback that returned True whenever it was
invoked: the nested line loops over the raw text return a model, the tree queries over the decoded document
(`xmlDoc d`: what ElementTree hands over after resolving entity and character references) return a model, and the
two are equal — image size, pixel size, both array groups (id, type, external flag) and for every spectrum
position, TIC, offsets and lengths.  `cls` is the value class of the regular expression; `Layout cls` demands
that the values the parsers read are in it (`valOk` in `oneVal` / `optVal`). -/
theorem fast_eq_xml (cls : String → Bool) (d : Doc) (h : Layout cls d) (cb : Nat → Bool)
    (ls : List (Line × Nat)) (hls : ls.map Prod.fst = render cls d)
    (hcb : ∀ p ∈ (run cb ls).calls, cb p = true) :
    ∃ m, fastParse cb ls = .ok m ∧ xmlView (xmlDoc d) = some m := by
  rw [fastParse_congr (run_of_calls_true cb ls hcb), fastParse_tt, hls, xmlDoc_id d h.2]
  exact core_eq_xml cls d h.1

theorem exampleDoc_layout : Layout clsAny exampleDoc := by decide +kernel

example : Layout clsAny exampleDoc := exampleDoc_layout

/-- without a callback (`callback=None`) -/
theorem fast_eq_xml_no_callback (cls : String → Bool) (d : Doc) (h : Layout cls d)
    (ls : List (Line × Nat)) (hls : ls.map Prod.fst = render cls d) :
    ∃ m, fastParse (fun _ => true) ls = .ok m ∧ xmlView (xmlDoc d) = some m :=
  fast_eq_xml cls d h _ ls hls (fun _ _ => rfl)

/-- a document whose attribute texts are plain (`TextOk`, the last conjunct of `Layout`) is the
document the XML parser sees: decoding entity and character references changes nothing -/
theorem plain_text_is_decoded_text (d : Doc) (h : TextOk d) : xmlDoc d = d := xmlDoc_id d h

example : TextOk exampleDoc := exampleDoc_layout.2

/-- the example document with the x position of the second spectrum written `&#x31;` and the first
array reference written `mz&#65;rray` -/
def entityDoc : Doc :=
  { exampleDoc with
    spectra := [{ items := [.ref "spectrum", .cv "MS:1000285" (some "1.500000e+06")], scanlist := [.cv "MS:1000795" none],
                  scans := [[.cv "IMS:1000050" (some "2"), .cv "IMS:1000051" (some "1"), .misc], [.misc]],
                  arrays := [{ items := [.ref "mz&#65;rray", .cv "IMS:1000104" (some "8"), .cv "IMS:1000102" (some "16"), .misc] },
                             { items := [.cv "IMS:1000102" (some "24"), .ref "intensities", .cv "IMS:1000104" (some "16")] }],
                  tail := [] },
                { items := [], scanlist := [],
                  scans := [[.cv "IMS:1000051" (some "1"), .cv "IMS:1000050" (some "&#x31;")]],
                  arrays := [{ items := [.ref "intensities", .cv "IMS:1000104" (some "8"), .cv "IMS:1000102" (some "48")] }],
                  tail := [.cv "MS:1000285" (some "-3")] }] }

/-- `TextOk` is the reason the layout excludes entity references: the document above satisfies the
structural part of the layout and decodes (`xmlDoc`) to the example document; both parsers build a
model, but the regular expression hands over the raw texts (`&#x31;` — on which `int()` then raises —
and offsets keyed `mz&#65;rray`) while ElementTree hands over `1` and `mzArray` -/
theorem entity_reference_diverges :
    LayoutCore clsAny entityDoc ∧ ¬ TextOk entityDoc ∧ xmlDoc entityDoc = exampleDoc ∧
    (fastParse (fun _ => true) ((render clsAny entityDoc).map (fun l => (l, 1)))).toOption.map
        (fun m => m.spectra.map (fun s => (s.x, s.arrays.map (·.1))))
      = some [("2", ["mz&#65;rray", "intensities"]), ("&#x31;", ["intensities"])] ∧
    (xmlView (xmlDoc entityDoc)).map (fun m => m.spectra.map (fun s => (s.x, s.arrays.map (·.1))))
      = some [("2", ["mzArray", "intensities"]), ("1", ["intensities"])] := by
  -- only the spectra differ from the example document, whose texts are plain
  have hx : xmlDoc entityDoc = exampleDoc := by
    have hs : entityDoc.spectra.map xmlSpecDoc = exampleDoc.spectra := by decide +kernel
    rw [show xmlDoc entityDoc = { xmlDoc exampleDoc with spectra := entityDoc.spectra.map xmlSpecDoc } from rfl,
      xmlDoc_id exampleDoc exampleDoc_layout.2, hs]
  refine ⟨by decide +kernel, fun h => ?_, hx, by decide +kernel, ?_⟩
  · -- a document with plain texts is left alone by the decoding, this one is not
    rw [xmlDoc_id _ h] at hx
    exact absurd hx (by decide +kernel)
  · rw [hx]
    decide +kernel

/-- callback positions never decrease and never exceed the file position — for ANY list of lines
(well-formed or not) and any callback -/
theorem callback_positions_sorted (cb : Nat → Bool) (ls : List (Line × Nat)) :
    (run cb ls).calls.Pairwise (· ≤ ·) ∧ ∀ p ∈ (run cb ls).calls, p ≤ (run cb ls).pos :=
  run_posInv (· ≤ ·) cb ls fun _ _ _ _ ha => Nat.le_add_right_of_le ha

/-- every line of a file is at least one byte long (its line end), and then the positions handed to the
callback are STRICTLY increasing — for any list of lines and any callback.  So no two invocations see the
same position, and a callback that answers by counting its invocations (what a progress dialog or the
harness does) is a function of the position, which is how the state machine takes it (`cb : Nat → Bool`) -/
theorem callback_positions_strict (cb : Nat → Bool) (ls : List (Line × Nat)) (hlen : ∀ ln ∈ ls, 0 < ln.2) :
    (run cb ls).calls.Pairwise (· < ·) :=
  (run_posInv (· < ·) cb ls fun ln hln _ _ ha => Nat.lt_of_le_of_lt ha (Nat.lt_add_of_pos_right (hlen ln hln))).1

example : ∀ ln ∈ exampleLines, 0 < ln.2 := by decide +kernel

/-- a callback returning False aborts the import: for ANY list of lines, either every invocation
returned True, or the parser raises the warning-type exception (never a model), the False
invocation is the last one and all earlier ones returned True -/
theorem callback_false_aborts (cb : Nat → Bool) (ls : List (Line × Nat)) :
    ((run cb ls).aborted = false ∧ ∀ p ∈ (run cb ls).calls, cb p = true) ∨
    (fastParse cb ls = .error .aborted ∧
      ∃ pre p, (run cb ls).calls = pre ++ [p] ∧ cb p = false ∧ ∀ q ∈ pre, cb q = true) := by
  rcases run_cut cb ls with ⟨_, h⟩ | ⟨ha, _, _, hex⟩
  · exact Or.inl h
  · exact Or.inr ⟨fastParse_of_aborted cb ls ha, hex⟩

/-- non-vacuity: on the example document a callback that refuses the second spectrum aborts -/
example : fastParse (fun p => p != 62) ((render clsAny exampleDoc).map (fun l => (l, 1))) = .error .aborted := by
  decide +kernel

/-- EXACT callback positions.  For every document of the layout, every assignment of (byte) lengths
to its lines and every callback that returned True whenever it was invoked: the callback is invoked
exactly once per spectrum, and invocation `k` receives the file offset just after line
`callLine cls d k` (which line that is: `callback_call_lines`). -/
theorem callback_positions_exact (cls : String → Bool) (d : Doc) (h : Layout cls d) (cb : Nat → Bool)
    (ls : List (Line × Nat)) (hls : ls.map Prod.fst = render cls d)
    (hcb : ∀ p ∈ (run cb ls).calls, cb p = true) :
    (run cb ls).calls = callPositions cls d (ls.map Prod.snd) := by
  obtain ⟨m, hm, _⟩ := layout_fastDoc cls d h.1
  rw [run_of_calls_true cb ls hcb]
  exact run_tt_calls_eq_callPositions hm ls hls

/-- the progress callback is invoked exactly once per spectrum (documents of the layout, callback
returning True) -/
theorem callback_once_per_spectrum (cls : String → Bool) (d : Doc) (h : Layout cls d) (cb : Nat → Bool)
    (ls : List (Line × Nat)) (hls : ls.map Prod.fst = render cls d)
    (hcb : ∀ p ∈ (run cb ls).calls, cb p = true) :
    (run cb ls).calls.length = d.spectra.length := by
  rw [callback_positions_exact cls d h cb ls hls hcb, callPositions, List.length_map, List.length_range]

/-- on the example document with unit line lengths the two invocations happen after lines 32 and 61 -/
theorem exampleDoc_callPositions : callPositions clsAny exampleDoc (exampleLines.map Prod.snd) = [33, 62] := by
  decide +kernel

example : callPositions clsAny exampleDoc (exampleLines.map Prod.snd) = [33, 62] := exampleDoc_callPositions
example : (run (fun _ => true) exampleLines).calls = [33, 62] := by
  rw [callback_positions_exact clsAny exampleDoc exampleDoc_layout _ exampleLines exampleLines_fst (fun _ _ => rfl)]
  exact exampleDoc_callPositions

/-- the one-pass computation the driver evaluates for `callPositions` (running totals of the line lengths,
indices accumulated spectrum by spectrum) is `callPositions`, for every document and every list of lengths -/
theorem callPositionsFast_eq (cls : String → Bool) (d : Doc) (lens : List Nat) :
    callPositionsFast cls d lens = callPositions cls d lens := by
  unfold callPositionsFast callPositions
  rw [callLinesFast_eq, List.map_map]
  exact List.map_congr_left fun k _ => by
    simp only [Function.comp, List.getElem?_toArray, prefixSums_getD]

example : callPositionsFast clsAny exampleDoc (exampleLines.map Prod.snd) = [33, 62] := by decide +kernel

/-- ANY callback, also one that returns False: the positions it was invoked with are an initial
segment of the exact positions.  With `callback_false_aborts` (the False invocation is the last one)
an import aborted at invocation `j` made exactly the invocations `0 … j`, each at its exact position. -/
theorem callback_positions_prefix (cls : String → Bool) (d : Doc) (h : Layout cls d) (cb : Nat → Bool)
    (ls : List (Line × Nat)) (hls : ls.map Prod.fst = render cls d) :
    (run cb ls).calls <+: callPositions cls d (ls.map Prod.snd) := by
  obtain ⟨m, hm, _⟩ := layout_fastDoc cls d h.1
  rw [← run_tt_calls_eq_callPositions hm ls hls]
  exact run_calls_prefix_tt cb ls

example : (run (fun p => p != 33) exampleLines).calls = [33] := by decide +kernel
example : (run (fun p => p != 62) exampleLines).calls <+: [33, 62] := by
  have := callback_positions_prefix clsAny exampleDoc exampleDoc_layout (fun p => p != 62) exampleLines exampleLines_fst
  rwa [exampleDoc_callPositions] at this

/-- the lines the formula names: `callLine 0` is the `<spectrumList …>` line, `callLine k` for
`0 < k < number of spectra` is the `<spectrum …>` line of spectrum `k` (for any document) -/
theorem callback_call_lines (cls : String → Bool) (d : Doc) :
    (render cls d)[callLine cls d 0]? = some (.opn .spectrumList "") ∧
    ∀ k, 0 < k → k < d.spectra.length → (render cls d)[callLine cls d k]? = some (.opn .spectrum "") := by
  constructor
  · unfold render callLine
    rw [List.getElem?_append_right (by omega)]
    simp [renderSpectra]
  · intro k hk0 hk
    unfold render callLine
    rw [List.getElem?_append_right (by omega)]
    simp only [Nat.ne_of_gt hk0, if_false]
    have e : (renderHead cls d).length + 1 + (1 + ((d.spectra.take k).map (fun s => (renderSpec cls s).length)).sum)
        - (renderHead cls d).length = 2 + ((d.spectra.take k).map (fun s => (renderSpec cls s).length)).sum := by omega
    rw [e]
    unfold renderSpectra
    rw [List.append_assoc, List.append_assoc, List.getElem?_append_right (by simp)]
    simp only [List.length_cons, List.length_nil, Nat.add_sub_cancel_left]
    exact flatMap_getElem_start (renderSpec cls) (.opn .spectrum "") d.spectra _ k hk
      (fun s _ => by simp [renderSpec])

example : 0 < 1 ∧ 1 < exampleDoc.spectra.length := by decide

/-- "and therefore extract identical images": the images are a function of the parsed model
(`imageSizeOf` = `ImzML.image_size`, `ticImageOf` = `extract_tic`, `massImageOf` = `extract_masses`,
on top of C05's `Pew.Imzml` extraction, with the text→number conversions and the reads of the binary
file as opaque functions `B`).  For every document of the layout, every such `B`, every list of target
masses and every width: both parsers succeed, and the image size, the TIC image and the mass-window
image computed from the fast parser's model are those computed from the XML parser's model.
(A corollary of `fast_eq_xml`: the models are equal; the content is that "the images" is a defined
function of the model.) -/
theorem fast_xml_same_images (cls : String → Bool) (d : Doc) (h : Layout cls d) (cb : Nat → Bool)
    (ls : List (Line × Nat)) (hls : ls.map Prod.fst = render cls d)
    (hcb : ∀ p ∈ (run cb ls).calls, cb p = true)
    (B : Bin) (masses : List Rat) (w : Pew.Imzml.Width) :
    ∃ mf mx, fastParse cb ls = .ok mf ∧ xmlView (xmlDoc d) = some mx ∧
      imageSizeOf B mf = imageSizeOf B mx ∧ ticImageOf B mf = ticImageOf B mx ∧
      massImageOf B mf masses w = massImageOf B mx masses w := by
  obtain ⟨m, h1, h2⟩ := fast_eq_xml cls d h cb ls hls hcb
  exact ⟨m, m, h1, h2, rfl, rfl, rfl⟩

/-- a concrete `B` on the example document: positions and sizes are read as written, the stored TICs are
1500000 and -3, every array is `[100]` / `[5]` — the image is 2 × 1 with the two TICs -/
def exampleBin : Bin :=
  { int := fun s => if s = "2" then 2 else 1, float := fun s => if s = "-3" then -3 else 1500000,
    read := fun g _ => if g.id = "mzArray" then [100] else [5] }

example : (xmlView (xmlDoc exampleDoc)).map (fun m => (imageSizeOf exampleBin m, ticImageOf exampleBin m))
    = some ((2, 1), [[some (-3), some 1500000]]) := by decide +kernel

/-- the value class before `fix: accept signed and exponent values in the fast imzML parser`
(`[\w.]+`) is the reason for the hypothesis on values: with it the example document, whose first TIC
is `1.500000e+06`, makes the fast parser fail with `float(None)` while the XML parser succeeds -/
theorem fast_rejects_exponent :
    fastParse (fun _ => true) ((render clsWord exampleDoc).map (fun l => (l, 1))) = .error .typeError ∧
    (xmlView exampleDoc).isSome = true ∧
    (∃ m, fastParse (fun _ => true) ((render clsAny exampleDoc).map (fun l => (l, 1))) = .ok m ∧ xmlView exampleDoc = some m) := by
  have h := fast_eq_xml_no_callback clsAny exampleDoc exampleDoc_layout _ exampleLines_fst
  rw [plain_text_is_decoded_text exampleDoc exampleDoc_layout.2] at h
  obtain ⟨m, hf, hm⟩ := h
  exact ⟨by decide +kernel, by rw [hm]; rfl, m, hf, hm⟩

/-- the mechanism's test (`if not callback(…)`, the truth value of the object) against the property's
words: an object that IS False — `False`, `numpy.False_`, the integer `0` — is falsy, so the import is
aborted; an object that IS True — `True`, `numpy.True_`, `1` — is truthy, so it is not; no object is both -/
theorem callback_value_scope (v : PyVal) :
    (v.isFalse = true → v.truthy = false) ∧ (v.isTrue = true → v.truthy = true) ∧
    ¬(v.isFalse = true ∧ v.isTrue = true) :=
  ⟨isFalse_falsy v, isTrue_truthy v, fun ⟨h1, h2⟩ =>
    Bool.false_ne_true ((isFalse_falsy v h1).symm.trans (isTrue_truthy v h2))⟩

example : (PyVal.npBool false).isFalse = true ∧ (PyVal.int 0).isFalse = true ∧ (PyVal.bool false).isFalse = true ∧
    PyVal.none.isFalse = false ∧ PyVal.none.isTrue = false ∧ PyVal.none.truthy = false ∧
    (PyVal.other true).isTrue = false ∧ (PyVal.int 2).isTrue = false ∧ (PyVal.int 2).truthy = true := by decide

/-- ANY Python callback `f` (position ↦ returned object), ANY list of lines: what the parser does is an
outcome the property allows for the objects the callback returned at its invocations (`outcomeOk`: every
invocation before the last did not return False, and an aborting invocation did not return True).
Either the import ran to the end and no invocation returned a falsy object, or it raised the
warning-type exception (never a model) at the first falsy object, which was the last invocation -/
theorem callback_values_outcome (f : Nat → PyVal) (ls : List (Line × Nat)) :
    ((run (cbOf f) ls).aborted = false ∧ firstFalsy ((run (cbOf f) ls).calls.map f) = none ∧
      outcomeOk ((run (cbOf f) ls).calls.map f) none = true) ∨
    (fastParse (cbOf f) ls = .error .aborted ∧
      ∃ pre p, (run (cbOf f) ls).calls = pre ++ [p] ∧
        firstFalsy ((run (cbOf f) ls).calls.map f) = some pre.length ∧
        outcomeOk ((run (cbOf f) ls).calls.map f) (some pre.length) = true) := by
  rcases callback_false_aborts (cbOf f) ls with ⟨ha, hall⟩ | ⟨hf, pre, p, hc, hp, hpre⟩
  · have hnone := firstFalsy_map_eq_none f _ hall
    exact Or.inl ⟨ha, hnone, hnone ▸ outcomeOk_firstFalsy _⟩
  · have hsome := hc ▸ firstFalsy_map_append f pre p hpre hp
    exact Or.inr ⟨hf, pre, p, hc, hsome, hsome ▸ outcomeOk_firstFalsy _⟩

/-- when every object the callback returns is False or True (`bool`, `numpy.bool_`, `0`/`1`) the property
leaves exactly one outcome, the mechanism's: abort at the first False -/
theorem callback_outcome_determined (vals : List PyVal) (hd : ∀ v ∈ vals, v.isFalse = true ∨ v.isTrue = true)
    (a : Option Nat) (h : outcomeOk vals a = true) : a = firstFalsy vals := by
  induction vals generalizing a with
  | nil => cases a <;> simp [outcomeOk, firstFalsy] at h ⊢
  | cons v vs ih =>
    have ih' := ih fun w hw => hd w (List.mem_cons_of_mem _ hw)
    have hv := hd v List.mem_cons_self
    clear hd ih
    rw [firstFalsy_cons]
    rcases hv with hv | hv
    · -- False: falsy, and not skipped
      rw [isFalse_falsy v hv]
      rcases a with _ | _ | j
      · simp [outcomeOk_cons_none, hv] at h
      · rfl
      · simp [outcomeOk_cons_succ, hv] at h
    · rw [isTrue_truthy v hv, if_pos rfl]
      rcases a with _ | _ | j
      · rw [outcomeOk_cons_none, Bool.and_eq_true] at h
        rw [← ih' none h.2]; rfl
      · simp [outcomeOk_cons_zero, hv] at h
      · rw [outcomeOk_cons_succ, Bool.and_eq_true] at h
        rw [← ih' (some j) h.2]; rfl

/-- a callback comparing the position with a NumPy integer returns `numpy.True_` twice, then `numpy.False_`:
the only allowed outcome is an abort at the third invocation -/
example : okOutcomes [.npBool true, .npBool true, .npBool false, .npBool false] = [some 2] := by decide
/-- after `None` at the second invocation both going on and aborting there are allowed -/
example : okOutcomes [.int 1, .none, .bool true] = [none, some 1] := by decide
/-- the mechanism on the example document -/
example : fastParse (cbOf (fun p => .npBool (p < 62))) exampleLines = .error .aborted := by decide +kernel

/-- ANY document, ANY history of imports and caller edits: what the k-th import returns is what that
import returns on its own — neither the earlier imports (through either parser, aborted or not, with
whatever binary) nor the edits the caller made to the objects it holds have any influence -/
theorem history_imports_independent (d : Doc) (ls : List (Line × Nat)) (ops : List Op) :
    (runOps d ls ops).results = (importsOf ops).map (importOnce d ls) := by
  unfold runOps
  rw [results_foldl]; rfl

theorem importOnce_layout (cls : String → Bool) (d : Doc) (h : Layout cls d) (ls : List (Line × Nat))
    (hls : ls.map Prod.fst = render cls d) {m : Model} (hx : xmlView (xmlDoc d) = some m) (i : Import)
    (hcb : ∀ cb, i.parser = .fast (some cb) → ∀ p ∈ (run cb ls).calls, cb p = true) :
    importOnce d ls i = .ok { model := m, bin := i.bin } := by
  have hfast : ∀ cb, (∀ p ∈ (run cb ls).calls, cb p = true) → fastParse cb ls = .ok m := fun cb hc => by
    obtain ⟨m', h1, h2⟩ := fast_eq_xml cls d h cb ls hls hc
    rw [h1, Option.some.inj (h2.symm.trans hx)]
  unfold importOnce
  cases hp : i.parser with
  | xml => simp [hx]
  | fast cb =>
    cases cb with
    | none => simp [hfast _ fun _ _ => rfl]
    | some cb => simp [hfast cb (hcb cb hp)]

/-- documents of the layout: in every history every import — fast parser with or without a callback
that never returned False, or XML parser — returns the model the XML parser builds from the document,
attached to the binary given to THAT import -/
theorem history_every_import_is_the_document (cls : String → Bool) (d : Doc) (h : Layout cls d)
    (ls : List (Line × Nat)) (hls : ls.map Prod.fst = render cls d) (ops : List Op)
    (hcb : ∀ i ∈ importsOf ops, ∀ cb, i.parser = .fast (some cb) → ∀ p ∈ (run cb ls).calls, cb p = true) :
    ∃ m, xmlView (xmlDoc d) = some m ∧
      (runOps d ls ops).results = (importsOf ops).map (fun i => .ok { model := m, bin := i.bin }) := by
  obtain ⟨m, _, hx⟩ := fast_eq_xml_no_callback cls d h ls hls
  exact ⟨m, hx, (history_imports_independent d ls ops).trans
    (List.map_congr_left fun i hi => importOnce_layout cls d h ls hls hx i (hcb i hi))⟩

/-- … and therefore the images of every returned object are those of the document's model with the
binary of its own import: two imports given different binaries extract from different binaries, two
imports given the same binary (one per parser, say) extract identical images -/
theorem history_images (cls : String → Bool) (d : Doc) (h : Layout cls d)
    (ls : List (Line × Nat)) (hls : ls.map Prod.fst = render cls d) (ops : List Op)
    (hcb : ∀ i ∈ importsOf ops, ∀ cb, i.parser = .fast (some cb) → ∀ p ∈ (run cb ls).calls, cb p = true)
    (Bs : Nat → Bin) (masses : List Rat) (w : Pew.Imzml.Width) :
    ∃ m, xmlView (xmlDoc d) = some m ∧
      (runOps d ls ops).results.map (fun r => match r with | .ok o => some (objImages Bs masses w o) | _ => none)
        = (importsOf ops).map (fun i => some (objImages Bs masses w { model := m, bin := i.bin })) := by
  obtain ⟨m, hx, hr⟩ := history_every_import_is_the_document cls d h ls hls ops hcb
  refine ⟨m, hx, ?_⟩
  rw [hr, List.map_map]
  rfl

/-- a history on the example document: fast import with the first binary, the caller removes the image
size and a spectrum, then a fast import with the second binary (whose spectra the caller clears), then the
XML parser, then an import aborted by its callback — three objects of the unedited model, with binaries 0, 1, 1 -/
def exampleOps : List Op :=
  [.imp { parser := .fast none, bin := 0 }, .edit 0 (.setSize none), .edit 0 (.dropSpectrum 1),
   .imp { parser := .fast none, bin := 1 }, .edit 1 .clearSpectra, .imp { parser := .xml, bin := 1 },
   .imp { parser := .fast (some (fun p => p != 62)), bin := 0 }]

example : (runOps exampleDoc exampleLines exampleOps).results.map
      (fun r => match r with | .ok o => some (o.bin, o.model.scan.size, o.model.spectra.length) | _ => none)
    = [some (0, some ("2", "1"), 2), some (1, some ("2", "1"), 2), some (1, some ("2", "1"), 2), none] := by
  decide +kernel

example : (runOps exampleDoc exampleLines exampleOps).heap.map (fun o => (o.bin, o.model.scan.size, o.model.spectra.length))
    = [(0, none, 1), (1, some ("2", "1"), 0), (1, some ("2", "1"), 2)] := by
  decide +kernel

/-- `int()` and `float()` read a text of ASCII digits as the same number: where the model converts a
position or size with `pyNat`, the exact decimal value `float()` rounds (`pyFloat s = (decimalValue s).bind
nearestF64`) is that natural number — `052676` is 52676 for both -/
theorem decimalValue_of_digits (s : String) (n : Nat) (h : pyNat s = some n) : decimalValue s = some (n : Rat) := by
  obtain ⟨h1, h2, rfl⟩ := pyNat_eq_some h
  exact decimalValue_of_isDigit s h1 h2

example : pyNat "052676" = some 52676 ∧ pyFloat "052676" = some 52676 ∧ pyFloat "1.500000e+06" = some 1500000 ∧
    pyFloat " -2.5E-3 " = some (-5764607523034235 / 2305843009213693952) ∧ pyFloat "inf" = none ∧ pyNat "+5" = none := by
  decide +kernel

/-- the state machine does not tell the inert lines apart: any two lists of lines that agree up to
`Line.norm` (an unknown opening or closing tag is as good as any other line without an accession) and in
their byte lengths drive it through the same states, callback invocations included.  The driver
tokenises the TEXT of every generated file of at most 20000 lines (harness/c17.py sends no text for longer ones,
and the driver then runs on the rendered lines) with `tokenise` (the code's `startswith` / `find` / regular
expression tests on characters), checks that the result agrees with `render cls d` up to `Line.norm`, and
by this theorem `fastParse` on the tokenised text is `fastParse` on the rendered document, the object of
`fast_eq_xml` -/
theorem tokens_agree_modulo_inert_lines (cb : Nat → Bool) (ls ls' : List (Line × Nat))
    (h : ls.map (fun ln => (ln.1.norm, ln.2)) = ls'.map (fun ln => (ln.1.norm, ln.2))) :
    run cb ls = run cb ls' ∧ fastParse cb ls = fastParse cb ls' := by
  have e : run cb ls = run cb ls' :=
    (runS_norm cb ls St.init).symm.trans (h ▸ runS_norm cb ls' St.init)
  exact ⟨e, fastParse_congr e⟩

/-- lines as the generator writes them, as the code's string tests classify them: cvParam lines in six
attribute orders and spacings (the tab-separated one under both value classes), a reference, a group, the
two lists whose opening tag the `<spectrum` / `<referenceableParamGroup` prefix tests also accept, a
`userParam` whose text mentions `accession`, an element no loop knows.  Each is evaluated on the
characters of the literal (`tokenise_eq`). -/
example : tokenise clsAnyC "   <cvParam cvRef=\"IMS\" accession=\"IMS:1000050\" name=\"position x\" value=\"3\"/>  \r"
    = some (.cv "IMS:1000050" (some "3")) := by
  rw [tokenise_eq, String.toList_ofList]; decide +kernel
example : tokenise clsAnyC "<cvParam accession=\"MS:1000285\" cvRef=\"MS\" name=\"p\" unitAccession=\"MS:1000040\" unitCvRef=\"MS\" unitName=\"m/z\" value=\"1.500000e+06\"/>"
    = some (.cv "MS:1000285" (some "1.500000e+06")) := by
  rw [tokenise_eq, String.toList_ofList]; decide +kernel
example : tokenise clsAnyC "<cvParam cvRef=\"IMS\" accession=\"IMS:1000046\" name=\"n\" value=\"30\" unitCvRef=\"UO\" unitAccession=\"UO:0000017\" unitName=\"micrometer\"/>"
    = some (.cv "IMS:1000046" (some "30")) := by
  rw [tokenise_eq, String.toList_ofList]; decide +kernel
example : tokenise clsAnyC "<cvParam unitCvRef=\"UO\" unitAccession=\"UO:0000017\" unitName=\"micrometer\" cvRef=\"IMS\" accession=\"IMS:1000046\" name=\"n\" value=\"2.5E+1\"/>"
    = some (.cv "IMS:1000046" (some "2.5E+1")) := by
  rw [tokenise_eq, String.toList_ofList]; decide +kernel
example : tokenise clsAnyC "<cvParam\tcvRef=\"MS\"\taccession=\"MS:1000285\"\t\tname=\"tic\"\tvalue=\"-1.5e+06\"\t/>"
    = some (.cv "MS:1000285" (some "-1.5e+06")) := by
  rw [tokenise_eq, String.toList_ofList]; decide +kernel
example : tokenise clsWordC "<cvParam\tcvRef=\"MS\"\taccession=\"MS:1000285\"\t\tname=\"tic\"\tvalue=\"-1.5e+06\"\t/>"
    = some (.cv "MS:1000285" none) := by
  rw [tokenise_eq, String.toList_ofList]; decide +kernel
example : tokenise clsAnyC "<cvParam cvRef=\"MS\" accession=\"MS:1000514\" name=\"array\" value=\"\"></cvParam>"
    = some (.cv "MS:1000514" none) := by
  rw [tokenise_eq, String.toList_ofList]; decide +kernel
example : tokenise clsAnyC "<referenceableParamGroupRef ref=\"intensities\"/>" = some (.ref "intensities") := by
  rw [tokenise_eq, String.toList_ofList]; decide +kernel
example : tokenise clsAnyC "  <referenceableParamGroup id=\"mzArray\">" = some (.opn .group "mzArray") := by
  rw [tokenise_eq, String.toList_ofList]; decide +kernel
example : tokenise clsAnyC "<referenceableParamGroupList count=\"3\">" = some (.opn .groupList "") := by
  rw [tokenise_eq, String.toList_ofList]; decide +kernel
example : tokenise clsAnyC "<spectrumList count=\"2\" defaultDataProcessingRef=\"dp0\">" = some (.opn .spectrumList "") := by
  rw [tokenise_eq, String.toList_ofList]; decide +kernel
example : tokenise clsAnyC "<userParam name=\"accession\" value=\"2975.78\"/>" = some .misc := by
  rw [tokenise_eq, String.toList_ofList]; decide +kernel
example : (tokenise clsAnyC "<scanList count=\"1\">").map Line.norm = some (Line.norm (.opn .other "")) := by
  rw [tokenise_eq, String.toList_ofList]; decide +kernel

end Pew.FastParse
