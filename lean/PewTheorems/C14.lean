import PewProofs.ColocalCoef
import PewProofs.Colocal
import PewProofs.ColocalNd
import Mathlib.Analysis.Real.Sqrt

/-! # C14 — property theorems.  The statements speak of `PewModel/Colocal.lean`, of `PewModel/ColocalNd.lean` (the
`_nd` theorems and `nd_coincides_2d`) and, for the two corollaries about r itself, of `pearsonR` defined here with
`Real.sqrt`. -/
namespace Pew.Colocal

/-- the code's numerator `mean(xy) - mean(x)mean(y)` is the textbook centred covariance
`Σ(x-mx)(y-my)/n`, and `std²` is the centred variance -/
theorem pearson_textbook (x y : List Rat) (h : x.length = y.length) (hx : x ≠ []) :
    cov x y = covCentred x y ∧ var x = covCentred x x :=
  ⟨cov_eq_centred x y h hx, var_eq_centred x⟩

/-- symmetric in the two images (numerator, r², sign) -/
theorem pearson_symm (x y : List Rat) :
    cov x y = cov y x ∧ pearsonSq x y = pearsonSq y x ∧ pearsonSign x y = pearsonSign y x :=
  ⟨cov_comm x y, pearsonSq_comm x y, pearsonSign_comm x y⟩

/-- Cauchy–Schwarz: `cov² ≤ var x · var y`, hence `r² ≤ 1` for constant-free images -/
theorem pearson_sq_le_one (x y : List Rat) (h : x.length = y.length) (hx : x ≠ [])
    (hvar : 0 < var x * var y) :
    cov x y * cov x y ≤ var x * var y ∧ pearsonSq x y ≤ 1 :=
  ⟨cov_mul_self_le x y h hx, (div_le_one hvar).mpr (cov_mul_self_le x y h hx)⟩

example : let x : List Rat := [0, 1, 0, 1]; let y : List Rat := [0, 1, 1, 0]
    x.length = y.length ∧ x ≠ [] ∧ 0 < var x * var y := by decide +kernel

/-- positive affine rescaling `a·x + b` (a > 0) of either image scales the numerator by `a` and the
variance by `a²`: r² and the sign, hence r, are unchanged -/
theorem pearson_affine (a b : Rat) (x y : List Rat) (h : x.length = y.length) (hx : x ≠ []) (ha : 0 < a) :
    cov (x.map (fun v => a * v + b)) y = a * cov x y ∧
    var (x.map (fun v => a * v + b)) = a * a * var x ∧
    pearsonSq (x.map (fun v => a * v + b)) y = pearsonSq x y ∧
    pearsonSign (x.map (fun v => a * v + b)) y = pearsonSign x y ∧
    pearsonSq x (y.map (fun v => a * v + b)) = pearsonSq x y ∧
    pearsonSign x (y.map (fun v => a * v + b)) = pearsonSign x y := by
  have hy := ne_nil_of_length_eq h hx
  exact ⟨cov_affine a b x y h hx, var_affine a b x hx, pearsonSq_affine a b x y h hx ha,
    pearsonSign_affine a b x y h hx ha,
    by rw [pearsonSq_comm, pearsonSq_affine a b y x h.symm hy ha, pearsonSq_comm],
    by rw [pearsonSign_comm, pearsonSign_affine a b y x h.symm hy ha, pearsonSign_comm]⟩

/-- Pearson's r as the code computes it over the reals -/
noncomputable def pearsonR (x y : List Rat) : ℝ :=
  (cov x y : ℝ) / (Real.sqrt (var x : ℝ) * Real.sqrt (var y : ℝ))

theorem pearsonR_sq (x y : List Rat) : pearsonR x y ^ 2 = (pearsonSq x y : ℝ) := by
  rw [pearsonR, pearsonSq, div_pow, mul_pow, Real.sq_sqrt (Rat.cast_nonneg.mpr (var_nonneg x)),
    Real.sq_sqrt (Rat.cast_nonneg.mpr (var_nonneg y)), sq, Rat.cast_div, Rat.cast_mul, Rat.cast_mul]

/-- `r ∈ [-1, 1]`, and `r²` is the model's `pearsonSq` -/
theorem pearson_real_range (x y : List Rat) (h : x.length = y.length) (hx : x ≠ [])
    (hvx : 0 < var x) (hvy : 0 < var y) :
    |pearsonR x y| ≤ 1 ∧ pearsonR x y ^ 2 = (pearsonSq x y : ℝ) := by
  have hsq := pearsonR_sq x y
  refine ⟨abs_le_one_iff_mul_self_le_one.mpr ?_, hsq⟩
  rw [← sq, hsq, ← Rat.cast_one, Rat.cast_le]
  exact (pearson_sq_le_one x y h hx (mul_pos hvx hvy)).2

theorem pearsonR_comm (x y : List Rat) : pearsonR y x = pearsonR x y := by
  rw [pearsonR, pearsonR, cov_comm, mul_comm]

theorem pearsonR_affine (a b : Rat) (x y : List Rat) (h : x.length = y.length) (hx : x ≠ []) (ha : 0 < a) :
    pearsonR (x.map (fun v => a * v + b)) y = pearsonR x y := by
  have ha' : (0 : ℝ) < (a : ℝ) := Rat.cast_pos.mpr ha
  rw [pearsonR, cov_affine a b x y h hx, var_affine a b x hx, pearsonR]
  rw [Rat.cast_mul, Rat.cast_mul, Rat.cast_mul, Real.sqrt_mul (mul_self_nonneg _), Real.sqrt_mul_self ha'.le,
    mul_assoc, mul_div_mul_left _ _ ha'.ne']

theorem pearson_real_affine (a b : Rat) (x y : List Rat) (h : x.length = y.length) (hx : x ≠ []) (ha : 0 < a) :
    pearsonR (x.map (fun v => a * v + b)) y = pearsonR x y ∧
    pearsonR x (y.map (fun v => a * v + b)) = pearsonR x y ∧
    pearsonR y x = pearsonR x y :=
  ⟨pearsonR_affine a b x y h hx ha,
    by rw [pearsonR_comm, pearsonR_affine a b y x h.symm (ne_nil_of_length_eq h hx) ha, pearsonR_comm],
    pearsonR_comm x y⟩

/-- the counted condition `(x-ux)(y-uy) ≥ 0` is "the deviations do not have opposite signs" -/
theorem icq_spec (x y : List Rat) : icq x y = icqSpec x y := by
  have : (fun a b => decide ((a - mean x) * (b - mean y) ≥ 0))
      = (fun a b => !oppositeSigns (a - mean x) (b - mean y)) := by
    funext a b; exact decide_mul_nonneg_eq_not_oppositeSigns _ _
  unfold icq icqSpec icqCount
  rw [this]

/-- a value in `[-1/2, 1/2]` -/
theorem icq_range (x y : List Rat) (hx : x ≠ []) : -(1 / 2) ≤ icq x y ∧ icq x y ≤ 1 / 2 := by
  obtain ⟨h0, h1⟩ := count_div_bounds (List.zipWith (fun a b => decide ((a - mean x) * (b - mean y) ≥ 0)) x y)
    x.length (by rw [List.length_zipWith]; exact Nat.min_le_left _ _) (List.length_pos_iff.mpr hx)
  exact ⟨le_sub_iff_add_le.mpr (by rw [neg_add_cancel]; exact h0), sub_le_iff_le_add.mpr (by rw [add_halves]; exact h1)⟩

example : icq [0, 1, 0, 1] [0, 1, 1, 0] = 0 := by decide +kernel

/-- the coefficients are the stated thresholded-sum ratios -/
theorem manders_spec (x y : List Rat) (tx ty : Option Rat) :
    manders x y tx ty
      = (mandersSpec1 x y (ty.getD (minOf y)), mandersSpec1 y x (tx.getD (minOf x))) := by
  unfold manders manders1 mandersSpec1
  rw [sumWhere_eq_filter, sumWhere_eq_filter]

/-- and lie in `[0, 1]` for non-negative images with a positive sum -/
theorem manders_range (x y : List Rat) (t : Rat) (hx : ∀ v ∈ x, 0 ≤ v) (hs : 0 < x.sum) :
    0 ≤ manders1 x y t ∧ manders1 x y t ≤ 1 := by
  obtain ⟨h1, h2⟩ := sumWhere_bounds x (y.map (fun b => decide (b > t))) hx
  exact div_bounds h1 h2 hs

example : manders [0, 1, 0, 1] [1, 2, 3, 4] (some 0) (some 0) = (1, 3 / 5) := by decide +kernel

/-! ## block shuffling in any dimension (`shuffle_blocks` is written for n-D arrays)

`shuffleBlocksNd` (`PewModel/ColocalNd.lean`): shapes, blocks and coordinates are lists.  Hypotheses:
`block.length = x.shape.length` (the code asserts it) and positive block sizes.  The 2-D section below has the same
theorems for `shuffleBlocks`, and `nd_coincides_2d` says that the 2-D model is this one on shapes `[n0, n1]`. -/

/-- **n-D: block shuffling is a permutation of whole blocks** (cf. `shuffle_is_bijection`) -/
theorem shuffle_is_bijection_nd {α : Type} (x : NdImg α) (mask : List Nat → Bool) (block : List Nat)
    (padMode part : Bool) (nidx : List Nat) (hlen : block.length = x.shape.length) (hpos : ∀ v ∈ block, 0 < v)
    (hp : nidx.Perm (shuffleIdxNd x mask block padMode part)) :
    let p := prepareNd x mask block padMode
    let nb := nBlocksL p.N block
    let idx := shuffleIdxNd x mask block padMode part
    let φ := phiNd block nb idx nidx
    (∀ c, (shuffleBlocksNd x mask block padMode part nidx).get c = p.X (φ c)) ∧
    ((coords p.N).map φ).Perm (coords p.N) ∧
    (∀ c c', c.length = block.length → c'.length = block.length → φ c = φ c' → c = c') ∧
    (∀ c, c.length = block.length → ltAll (divL c block) nb = true →
      modL (φ c) block = modL c block ∧
      divL (φ c) block = unravel nb (src idx nidx (ravel nb (divL c block)))) ∧
    (∀ c, c.length = block.length → inSelectedNd block nb idx c = false → φ c = c) := by
  have G := geoNd_of_call x mask block padMode part nidx hlen hpos hp
  refine ⟨fun c => rfl, ?_, fun c c' hc hc' h => phiNd_inj G c c' hc hc' h,
    fun c hc hv => (phiNd_div_mod G c hc hv).symm, fun c hc h => phiNd_fix c hc h⟩
  have := conserved_working_nd id G
  rwa [List.map_id] at this

/-- a 2×2×4 array, blocks 1×2×2, full mask: four blocks, reversed -/
example : ([3, 2, 1, 0] : List Nat).Perm
    (shuffleIdxNd (⟨[2, 2, 4], fun c => (ravel [2, 2, 4] c : Rat)⟩ : NdImg Rat) (fun _ => true) [1, 2, 2] false false) := by
  decide +kernel

example : (coords [2, 2, 4]).map (shuffleBlocksNd (⟨[2, 2, 4], fun c => (ravel [2, 2, 4] c : Rat)⟩ : NdImg Rat)
      (fun _ => true) [1, 2, 2] false false [3, 2, 1, 0]).get
    = [10, 11, 8, 9, 14, 15, 12, 13, 2, 3, 0, 1, 6, 7, 4, 5] := by decide +kernel

/-- a 1-D array is the shape `[n]` (no embedding into 2-D): pad mode, 5 elements, block 2 - three blocks, the last
one partly padding -/
example : shuffleIdxNd (⟨[5], fun c => (c.getD 0 0 : Rat)⟩ : NdImg Rat) (fun _ => true) [2] true false = [0, 1, 2] ∧
    (coords [5]).map (shuffleBlocksNd (⟨[5], fun c => (c.getD 0 0 : Rat)⟩ : NdImg Rat) (fun _ => true) [2] true false
      [2, 1, 0]).get = [4, 4, 2, 3, 0] := by decide +kernel

/-- n-D: pixels outside the shuffled blocks never move (any `nidx`, both modes) -/
theorem outside_never_move_nd {α : Type} (x : NdImg α) (mask : List Nat → Bool) (block : List Nat)
    (padMode part : Bool) (nidx : List Nat) (c : List Nat) (hlen : block.length = x.shape.length)
    (hc : ltAll c x.shape = true)
    (hout : inSelectedNd block (nBlocksL (prepareNd x mask block padMode).N block)
      (shuffleIdxNd x mask block padMode part) c = false) :
    (shuffleBlocksNd x mask block padMode part nidx).get c = x.get c := by
  rw [shuffleBlocksNd_get, phiNd_fix c ((ltAll_length hc).trans hlen.symm) hout]
  exact prepareNd_X x mask block padMode c hc

/-- n-D: every output block is one of the selected input blocks: block `f` of the result is block `src f` of the
working array, pixel for pixel (offsets `o` in the box `block`), and `src f` is again a selected block -/
theorem blocks_from_input_nd {α : Type} (x : NdImg α) (mask : List Nat → Bool) (block : List Nat)
    (padMode part : Bool) (nidx : List Nat) (hlen : block.length = x.shape.length)
    (hp : nidx.Perm (shuffleIdxNd x mask block padMode part))
    (f : Nat) (hf : f ∈ shuffleIdxNd x mask block padMode part) :
    let p := prepareNd x mask block padMode
    let nb := nBlocksL p.N block
    let g := src (shuffleIdxNd x mask block padMode part) nidx f
    g ∈ shuffleIdxNd x mask block padMode part ∧
    ∀ o, ltAll o block = true →
      (shuffleBlocksNd x mask block padMode part nidx).get (recomb (unravel nb f) block o)
        = p.X (recomb (unravel nb g) block o) := by
  refine ⟨src_mem _ _ hp f hf, fun o ho => ?_⟩
  rw [shuffleBlocksNd_get,
    phiNd_block (nBlocksL_length x mask block padMode hlen) f (selectedNd_lt _ _ _ _ f hf) o ho]

/-- n-D: pixel values are conserved (as a multiset over the whole array) whenever the shape is a multiple of the
block on every axis, and always in in-place mode -/
theorem values_conserved_nd {α : Type} (x : NdImg α) (mask : List Nat → Bool) (block : List Nat)
    (padMode part : Bool) (nidx : List Nat) (hlen : block.length = x.shape.length) (hpos : ∀ v ∈ block, 0 < v)
    (hp : nidx.Perm (shuffleIdxNd x mask block padMode part))
    (happ : conservedAppliesNd x block padMode = true) :
    ((coords x.shape).map (shuffleBlocksNd x mask block padMode part nidx).get).Perm
      ((coords x.shape).map x.get) := by
  have hw := conserved_working_nd (prepareNd x mask block padMode).X
    (geoNd_of_call x mask block padMode part nidx hlen hpos hp)
  -- under `happ` nothing is padded (otherwise the crop cuts into the permuted box): the working box is that of `x`, and
  -- on it the working array is `x`
  rwa [congrArg coords (prepareNd_N_of_applies x mask block padMode hlen happ),
    List.map_congr_left (fun c hc => prepareNd_X x mask block padMode c ((mem_coords _ _).mp hc))] at hw

example : conservedAppliesNd (⟨[4, 6, 2], fun _ => (0 : Rat)⟩ : NdImg Rat) [2, 3, 1] true = true ∧
    conservedAppliesNd (⟨[5, 7, 3], fun _ => (0 : Rat)⟩ : NdImg Rat) [2, 3, 2] false = true ∧
    conservedAppliesNd (⟨[5, 6, 2], fun _ => (0 : Rat)⟩ : NdImg Rat) [2, 3, 1] true = false := by decide +kernel

/-- **n-D: the model's result satisfies the relation the check evaluates on the implementation's result**
(`specOutsideNd`, `specBlocksNd`, `specConservedNd`), for every permutation `nidx`, arrays of any dimension. -/
theorem model_satisfies_spec_nd (x : NdImg Rat) (mask : List Nat → Bool) (block : List Nat)
    (padMode part : Bool) (nidx : List Nat) (hlen : block.length = x.shape.length) (hpos : ∀ v ∈ block, 0 < v)
    (hp : nidx.Perm (shuffleIdxNd x mask block padMode part)) :
    specOutsideNd x (shuffleBlocksNd x mask block padMode part nidx) mask block padMode part = true ∧
    specBlocksNd x (shuffleBlocksNd x mask block padMode part nidx) mask block padMode part = true ∧
    (conservedAppliesNd x block padMode = true →
      specConservedNd x (shuffleBlocksNd x mask block padMode part nidx) = true) := by
  refine ⟨(specOutsideNd_iff _ _ _ _ _ _).mpr
      (fun c hc => outside_never_move_nd x mask block padMode part nidx c hlen hc),
    (specBlocksNd_iff _ _ _ _ _ _).mpr (fun f hf => ?_), ?_⟩
  · obtain ⟨hg, hblk⟩ := blocks_from_input_nd x mask block padMode part nidx hlen hp f hf
    exact ⟨_, hg, fun o ho _ => hblk o ho⟩
  · exact fun happ => (sortR_beq_iff _ _).mpr (values_conserved_nd x mask block padMode part nidx hlen hpos hp happ)

/-- n-D, memory layout (copy case): when the block view does not alias the returned array the call returns the
input pixel for pixel -/
theorem layout_copy_returns_input_nd {α : Type} (x : NdImg α) (mask : List Nat → Bool) (block : List Nat)
    (padMode part : Bool) (nidx : List Nat) (c : List Nat) (hlen : block.length = x.shape.length)
    (hc : ltAll c x.shape = true) :
    (shuffleBlocksLayoutNd false x mask block padMode part nidx).get c = x.get c := by
  rw [shuffleBlocksLayoutNd_get, if_neg Bool.false_ne_true, phiNd_self c ((ltAll_length hc).trans hlen.symm)]
  exact prepareNd_X x mask block padMode c hc

/-- n-D: whichever the layout, the result satisfies the relation the check evaluates -/
theorem layout_satisfies_spec_nd (aliases : Bool) (x : NdImg Rat) (mask : List Nat → Bool) (block : List Nat)
    (padMode part : Bool) (nidx : List Nat) (hlen : block.length = x.shape.length) (hpos : ∀ v ∈ block, 0 < v)
    (hp : nidx.Perm (shuffleIdxNd x mask block padMode part)) :
    specOutsideNd x (shuffleBlocksLayoutNd aliases x mask block padMode part nidx) mask block padMode part = true ∧
    specBlocksNd x (shuffleBlocksLayoutNd aliases x mask block padMode part nidx) mask block padMode part = true ∧
    (conservedAppliesNd x block padMode = true →
      specConservedNd x (shuffleBlocksLayoutNd aliases x mask block padMode part nidx) = true) := by
  cases aliases with
  | true => exact model_satisfies_spec_nd x mask block padMode part nidx hlen hpos hp
  | false =>
    exact model_satisfies_spec_nd x mask block padMode part (shuffleIdxNd x mask block padMode part) hlen hpos
      (List.Perm.refl _)

/-- **n-D: "the mask passed must not be written to"** - `shuffle_call_frame` for arrays of any dimension: the
per-axis trim writes `np.swapaxes(mask, 0, axis)[slice(t, None)] = False` go to the copy.  The last conjunct is the
n-D form of `shuffle_call_without_copy`: with `copies = false` the caller's mask comes back trimmed. -/
theorem shuffle_call_frame_nd {α : Type} (aliases : Bool) (x : NdImg α) (mask : List Nat → Bool) (block : List Nat)
    (padMode part : Bool) (nidx : List Nat) :
    (shuffleCallNd true aliases x mask block padMode part nidx).maskAfter = mask ∧
    (shuffleCallNd true aliases x mask block padMode part nidx).ret
      = shuffleBlocksLayoutNd aliases x mask block padMode part nidx ∧
    (shuffleCallNd true aliases x mask block padMode part nidx).xAfter
      = (if padMode then x else (shuffleCallNd true aliases x mask block padMode part nidx).ret) ∧
    (shuffleCallNd false aliases x mask block false part nidx).maskAfter
      = (fun c => mask c && inTrim x.shape block c) := by
  exact ⟨shuffleCallNd_maskAfter_copies _ _ _ _ _ _ _, shuffleCallNd_ret _ _ _ _ _ _ _ _,
    shuffleCallNd_xAfter _ _ _ _ _ _ _ _,
    (inplaceMask_without_copy (trimCutsNd x.shape block) mask).trans (foldl_trimCutsNd x mask block)⟩

/-- a 3×3×3 mask of ones, blocks 2×2×2: 8 ones are left without the copy, 27 with it -/
example :
    ((coords [3, 3, 3]).filter (shuffleCallNd false true (⟨[3, 3, 3], fun c => (ravel [3, 3, 3] c : Rat)⟩ : NdImg Rat)
        (fun _ => true) [2, 2, 2] false false [0]).maskAfter).length = 8 ∧
    ((coords [3, 3, 3]).filter (shuffleCallNd true true (⟨[3, 3, 3], fun c => (ravel [3, 3, 3] c : Rat)⟩ : NdImg Rat)
        (fun _ => true) [2, 2, 2] false false [0]).maskAfter).length = 27 := by decide +kernel

/-- **The 2-D model is the n-D model on shapes `[n0, n1]`**: the list handed to the permutation and every pixel of
the result coincide (so the n-D theorems above and the 2-D theorems below speak about the same function, and the check
runs both on every 1-D/2-D case). -/
theorem nd_coincides_2d {α : Type} (aliases : Bool) (x : Img α) (mask : Nat → Nat → Bool) (b0 b1 : Nat)
    (padMode part : Bool) (nidx : List Nat) :
    shuffleIdxNd x.toNd (maskToNd mask) [b0, b1] padMode part = shuffleIdx x mask b0 b1 padMode part ∧
    ∀ i j, (shuffleBlocksLayoutNd aliases x.toNd (maskToNd mask) [b0, b1] padMode part nidx).get [i, j]
      = (shuffleBlocksLayout aliases x mask b0 b1 padMode part nidx).get i j := by
  refine ⟨shuffleIdxNd_two x mask b0 b1 padMode part, fun i j => ?_⟩
  rw [shuffleBlocksLayoutNd_get, shuffleIdxNd_two, prepareNd_two_N, nBlocksL_two, phiNd_two, prepareNd_two_X]
  cases aliases <;> rfl

/-! ## block shuffling, 2-D (`shuffleBlocks` of `PewModel/Colocal.lean`, the n-D model on shapes `[n0, n1]`) -/

/-- **Block shuffling is a permutation of whole blocks.**  For every `nidx` that is a permutation
of the selected flat block indices (what `numpy.random.permutation` returns), the result is the
working array read through a map `φ` of pixel coordinates that (1) is a bijection of the
coordinates of the working array, (2) keeps the offset inside the block and sends all pixels of
a block to one and the same source block, (3) fixes every pixel outside the selected blocks. -/
theorem shuffle_is_bijection {α : Type} (x : Img α) (mask : Nat → Nat → Bool) (b0 b1 : Nat)
    (padMode part : Bool) (nidx : List Nat) (hb0 : 0 < b0) (hb1 : 0 < b1)
    (hp : nidx.Perm (shuffleIdx x mask b0 b1 padMode part)) :
    let p := prepare x mask b0 b1 padMode
    let nb0 := nBlocks p.N0 b0
    let nb1 := nBlocks p.N1 b1
    let idx := shuffleIdx x mask b0 b1 padMode part
    let φ := fun q : Nat × Nat => phi b0 b1 nb0 nb1 idx nidx q.1 q.2
    (∀ i j, (shuffleBlocks x mask b0 b1 padMode part nidx).get i j = p.X (φ (i, j)).1 (φ (i, j)).2) ∧
    ((pixels p.N0 p.N1).map φ).Perm (pixels p.N0 p.N1) ∧
    (∀ q q', φ q = φ q' → q = q') ∧
    (∀ i j, i / b0 < nb0 → j / b1 < nb1 →
      (φ (i, j)).1 % b0 = i % b0 ∧ (φ (i, j)).2 % b1 = j % b1 ∧
      (φ (i, j)).1 / b0 = src idx nidx (i / b0 * nb1 + j / b1) / nb1 ∧
      (φ (i, j)).2 / b1 = src idx nidx (i / b0 * nb1 + j / b1) % nb1) ∧
    (∀ i j, inSelected b0 b1 nb0 nb1 idx i j = false → φ (i, j) = (i, j)) := by
  intro p nb0 nb1 idx φ
  -- that `φ` is injective and stays in the box is proved once, in n-D: `G` is the n-D bundle of this call on `[n0, n1]`
  have G := geoNd_of_call x.toNd (maskToNd mask) [b0, b1] padMode part nidx rfl (pos_two hb0 hb1)
    (by rw [shuffleIdxNd_two]; exact hp)
  rw [shuffleIdxNd_two, prepareNd_two_N, nBlocksL_two] at G
  refine ⟨fun i j => rfl, ?_, fun q q' h => phi_inj G q.1 q.2 q'.1 q'.2 h, fun i j h0 h1 => ?_,
    fun i j h => phi_fix i j h⟩
  · apply map_perm_of_inj _ _ (pixels_nodup _ _)
    · intro q hq
      rw [mem_pixels] at hq ⊢
      have := phiNd_in_box G [q.1, q.2] ((ltAll_two _ _ _ _).mpr hq)
      rwa [phiNd_two, ltAll_two] at this
    · intro q _ q' _ h
      exact phi_inj G q.1 q.2 q'.1 q'.2 h
  · simp only [φ, phi_valid i j h0 h1]
    exact ⟨Nat.mul_add_mod_of_lt (Nat.mod_lt _ hb0), Nat.mul_add_mod_of_lt (Nat.mod_lt _ hb1),
      blk_div _ _ _ (Nat.mod_lt _ hb0), blk_div _ _ _ (Nat.mod_lt _ hb1)⟩

/-- a 2×4 image, 2×2 blocks, full mask: both blocks are selected, `[1, 0]` swaps them -/
example : ([1, 0] : List Nat).Perm
    (shuffleIdx (⟨2, 4, fun i j => ((i * 4 + j : Nat) : Rat)⟩ : Img Rat) (fun _ _ => true) 2 2 false false) := by
  decide +kernel

example : (pixels 2 4).map (fun q => (shuffleBlocks (⟨2, 4, fun i j => ((i * 4 + j : Nat) : Rat)⟩ : Img Rat)
      (fun _ _ => true) 2 2 false false [1, 0]).get q.1 q.2) = [2, 3, 0, 1, 6, 7, 4, 5] := by
  decide +kernel

/-- pad mode, 1×5 line, block 2: the padded sixth pixel is an edge copy, the last block is partial -/
example : shuffleIdx (⟨1, 5, fun _ j => (j : Rat)⟩ : Img Rat) (fun _ _ => true) 1 2 true false = [0, 1, 2] := by
  decide +kernel

/-- pixels outside the shuffled blocks never move (any `nidx`, both modes) -/
theorem outside_never_move {α : Type} (x : Img α) (mask : Nat → Nat → Bool) (b0 b1 : Nat)
    (padMode part : Bool) (nidx : List Nat) (i j : Nat) (hi : i < x.n0) (hj : j < x.n1)
    (hout : inSelected b0 b1 (nBlocks (prepare x mask b0 b1 padMode).N0 b0)
      (nBlocks (prepare x mask b0 b1 padMode).N1 b1) (shuffleIdx x mask b0 b1 padMode part) i j = false) :
    (shuffleBlocks x mask b0 b1 padMode part nidx).get i j = x.get i j := by
  rw [shuffleBlocks_get, phi_fix i j hout]
  exact prepare_X x mask b0 b1 padMode i j hi hj

/-- every output block is one of the selected input blocks: block `f` of the result is block
`src f` of the working array, pixel for pixel, and `src f` is again a selected block -/
theorem blocks_from_input {α : Type} (x : Img α) (mask : Nat → Nat → Bool) (b0 b1 : Nat)
    (padMode part : Bool) (nidx : List Nat) (hp : nidx.Perm (shuffleIdx x mask b0 b1 padMode part))
    (f : Nat) (hf : f ∈ shuffleIdx x mask b0 b1 padMode part) :
    let p := prepare x mask b0 b1 padMode
    let nb1 := nBlocks p.N1 b1
    let g := src (shuffleIdx x mask b0 b1 padMode part) nidx f
    g ∈ shuffleIdx x mask b0 b1 padMode part ∧
    ∀ o0 o1, o0 < b0 → o1 < b1 →
      (shuffleBlocks x mask b0 b1 padMode part nidx).get (f / nb1 * b0 + o0) (f % nb1 * b1 + o1)
        = p.X (g / nb1 * b0 + o0) (g % nb1 * b1 + o1) := by
  refine ⟨src_mem _ _ hp f hf, fun o0 o1 h0 h1 => ?_⟩
  rw [shuffleBlocks_get, phi_block f o0 o1 (shuffleIdx_lt _ _ _ _ _ _ f hf) h0 h1]

/-- pixel values are conserved (as a multiset over the whole image) whenever the shape is a
multiple of the block, and always in in-place mode -/
theorem values_conserved {α : Type} (x : Img α) (mask : Nat → Nat → Bool) (b0 b1 : Nat)
    (padMode part : Bool) (nidx : List Nat) (hb0 : 0 < b0) (hb1 : 0 < b1)
    (hp : nidx.Perm (shuffleIdx x mask b0 b1 padMode part))
    (happ : conservedApplies x b0 b1 padMode = true) :
    ((pixels x.n0 x.n1).map (fun q => (shuffleBlocks x mask b0 b1 padMode part nidx).get q.1 q.2)).Perm
      ((pixels x.n0 x.n1).map (fun q => x.get q.1 q.2)) := by
  have h := values_conserved_nd x.toNd (maskToNd mask) [b0, b1] padMode part nidx rfl (pos_two hb0 hb1)
    (by rw [(nd_coincides_2d true x mask b0 b1 padMode part nidx).1]; exact hp) (by rw [conservedAppliesNd_two]; exact happ)
  change ((coords [x.n0, x.n1]).map _).Perm ((coords [x.n0, x.n1]).map _) at h
  rw [coords_two, List.map_map, List.map_map] at h
  exact (List.Perm.of_eq (List.map_congr_left fun q _ =>
    ((nd_coincides_2d true x mask b0 b1 padMode part nidx).2 q.1 q.2).symm)).trans h

example : conservedApplies (⟨4, 6, fun _ _ => (0 : Rat)⟩ : Img Rat) 2 3 true = true ∧
    conservedApplies (⟨5, 7, fun _ _ => (0 : Rat)⟩ : Img Rat) 2 3 false = true := by decide +kernel

/-- 1-D arrays (one row, block height 1): the shuffled line is a rearrangement of the line -/
theorem values_conserved_1d {α : Type} (x : Img α) (mask : Nat → Nat → Bool) (b : Nat)
    (padMode part : Bool) (nidx : List Nat) (hrow : x.n0 = 1) (hb : 0 < b)
    (hp : nidx.Perm (shuffleIdx x mask 1 b padMode part))
    (happ : conservedApplies x 1 b padMode = true) :
    ((List.range x.n1).map (fun j => (shuffleBlocks x mask 1 b padMode part nidx).get 0 j)).Perm
      ((List.range x.n1).map (fun j => x.get 0 j)) := by
  have := values_conserved x mask 1 b padMode part nidx (by omega) hb hp happ
  simp only [pixels, hrow, List.range_one, List.flatMap_cons, List.flatMap_nil, List.append_nil,
    List.map_map] at this
  exact this

/-- **The model's result satisfies the relation the check evaluates on the implementation's
result** (`specOutside`, `specBlocks`, `specConserved`), for every permutation `nidx`. -/
theorem model_satisfies_spec (x : Img Rat) (mask : Nat → Nat → Bool) (b0 b1 : Nat)
    (padMode part : Bool) (nidx : List Nat) (hb0 : 0 < b0) (hb1 : 0 < b1)
    (hp : nidx.Perm (shuffleIdx x mask b0 b1 padMode part)) :
    specOutside x (shuffleBlocks x mask b0 b1 padMode part nidx) mask b0 b1 padMode part = true ∧
    specBlocks x (shuffleBlocks x mask b0 b1 padMode part nidx) mask b0 b1 padMode part = true ∧
    (conservedApplies x b0 b1 padMode = true →
      specConserved x (shuffleBlocks x mask b0 b1 padMode part nidx) = true) := by
  exact ⟨(specOutside_iff _ _ _ _ _ _ _).mpr (outside_never_move x mask b0 b1 padMode part nidx),
    (specBlocks_iff _ _ _ _ _ _ _).mpr (fun f hf =>
      ⟨_, src_mem _ nidx hp f hf, shuffleBlocks_blockEq x mask b0 b1 padMode part nidx _ _ f hf⟩),
    fun happ => (sortR_beq_iff _ _).mpr (values_conserved x mask b0 b1 padMode part nidx hb0 hb1 hp happ)⟩

/-! ## memory layout: a block view that does not alias the array -/

/-- **Memory layout (copy case).**  When the block view does not alias the returned array (Fortran-ordered
input, or a strided view in in-place mode: `np.ascontiguousarray` copies) the call returns the input pixel for
pixel - it is the identity permutation of the blocks, still "a permutation of whole blocks inside the mask". -/
theorem layout_copy_returns_input {α : Type} (x : Img α) (mask : Nat → Nat → Bool) (b0 b1 : Nat)
    (padMode part : Bool) (nidx : List Nat) (i j : Nat) (hi : i < x.n0) (hj : j < x.n1) :
    (shuffleBlocksLayout false x mask b0 b1 padMode part nidx).get i j = x.get i j := by
  rw [shuffleBlocksLayout_false, shuffleBlocks_get, phi_self]
  exact prepare_X x mask b0 b1 padMode i j hi hj

/-- whichever the layout, the result satisfies the relation the check evaluates (`model_satisfies_spec` lifted to
`shuffleBlocksLayout`) -/
theorem layout_satisfies_spec (aliases : Bool) (x : Img Rat) (mask : Nat → Nat → Bool) (b0 b1 : Nat)
    (padMode part : Bool) (nidx : List Nat) (hb0 : 0 < b0) (hb1 : 0 < b1)
    (hp : nidx.Perm (shuffleIdx x mask b0 b1 padMode part)) :
    specOutside x (shuffleBlocksLayout aliases x mask b0 b1 padMode part nidx) mask b0 b1 padMode part = true ∧
    specBlocks x (shuffleBlocksLayout aliases x mask b0 b1 padMode part nidx) mask b0 b1 padMode part = true ∧
    (conservedApplies x b0 b1 padMode = true →
      specConserved x (shuffleBlocksLayout aliases x mask b0 b1 padMode part nidx) = true) := by
  cases aliases with
  | true => exact model_satisfies_spec x mask b0 b1 padMode part nidx hb0 hb1 hp
  | false =>
    exact model_satisfies_spec x mask b0 b1 padMode part (shuffleIdx x mask b0 b1 padMode part) hb0 hb1
      (List.Perm.refl _)

/-! ## `shuffle_blocks` as a call: what is left of the arguments -/

/-- **"The mask passed must not be written to"** (the code's own comment), as a frame property of the call model
`shuffleCall` with the copy statement in place (`copies = true`, the code as it is): in both modes and whatever the
memory layout, the caller's mask array after the call is the one before; the array handed back is the pure model's
`shuffleBlocksLayout`; in pad mode the caller's `x` is untouched, in in-place mode the caller's `x` *is* the
array handed back.  The trim writes exist in the model (`inplaceMask`, `trimCuts`); they go to the copy. -/
theorem shuffle_call_frame {α : Type} (aliases : Bool) (x : Img α) (mask : Nat → Nat → Bool) (b0 b1 : Nat)
    (padMode part : Bool) (nidx : List Nat) :
    (shuffleCall true aliases x mask b0 b1 padMode part nidx).maskAfter = mask ∧
    (shuffleCall true aliases x mask b0 b1 padMode part nidx).ret
      = shuffleBlocksLayout aliases x mask b0 b1 padMode part nidx ∧
    (shuffleCall true aliases x mask b0 b1 padMode part nidx).xAfter
      = (if padMode then x else (shuffleCall true aliases x mask b0 b1 padMode part nidx).ret) :=
  ⟨shuffleCall_maskAfter_copies _ _ _ _ _ _ _ _, shuffleCall_ret _ _ _ _ _ _ _ _ _,
    shuffleCall_xAfter _ _ _ _ _ _ _ _ _⟩

/-- The same model without the copy statement (`copies = false`): the array handed back
is the same, but in in-place mode the caller's mask comes back with everything beyond the last whole block switched
off. -/
theorem shuffle_call_without_copy {α : Type} (aliases : Bool) (x : Img α) (mask : Nat → Nat → Bool) (b0 b1 : Nat)
    (part : Bool) (nidx : List Nat) :
    (shuffleCall false aliases x mask b0 b1 false part nidx).maskAfter
      = (fun i j => mask i j && decide (i < x.n0 - x.n0 % b0) && decide (j < x.n1 - x.n1 % b1)) ∧
    (shuffleCall false aliases x mask b0 b1 false part nidx).ret
      = shuffleBlocksLayout aliases x mask b0 b1 false part nidx :=
  ⟨inplaceMask_without_copy (trimCuts x.n0 x.n1 b0 b1) mask, shuffleCall_ret _ _ _ _ _ _ _ _ _⟩

/-- the defect the copy repairs: a 4×4 mask of ones, block 3 - 9 ones afterwards without the copy, 16 with it -/
example :
    ((pixels 4 4).filter (fun q => (shuffleCall false true (⟨4, 4, fun i j => ((i * 4 + j : Nat) : Rat)⟩ : Img Rat)
        (fun _ _ => true) 3 3 false false [0]).maskAfter q.1 q.2)).length = 9 ∧
    ((pixels 4 4).filter (fun q => (shuffleCall true true (⟨4, 4, fun i j => ((i * 4 + j : Nat) : Rat)⟩ : Img Rat)
        (fun _ _ => true) 3 3 false false [0]).maskAfter q.1 q.2)).length = 16 := by decide +kernel

/-! ## the probability loop: every rᵢ is computed over the pixels of r, and nothing of the caller's is written -/

/-- **Same pixels, untouched arguments.**  In the run of `pearsonr_probablity` as the code does it (the mask is a
loop-carried array handed to every call of `shuffle_blocks`, which copies it before trimming; `shuffled` is
`y.copy()`), for an image `y` of any memory layout `(yC, yF)`:
there is one round per shuffle; the mask array that `x[mask]` and `shuffled[mask]` are evaluated with in *every*
round is the one `r` was computed with - a consequence of the frame property of the call
(`shuffleCall_maskAfter_copies`, the lemma behind `shuffle_call_frame`), not of how the loop is written: the same
statement is false for `copies = false`, see the `example` below -; every `shuffledᵢ` has the shape of `y`, so
`shuffledᵢ[mask]` reads exactly the coordinates
`{q | mask q}` that `y[mask]` reads; and after the loop the mask array and the caller's `y` are what they were
(`x` is never passed to anything that could write it). -/
theorem same_pixels (yC yF : Bool) (y : Img Rat) (mask : Nat → Nat → Bool) (b : Nat) (part : Bool)
    (sigmas : List (List Nat)) :
    (probRun true true yC yF y mask b part sigmas).rounds.length = sigmas.length ∧
    (∀ rd ∈ (probRun true true yC yF y mask b part sigmas).rounds,
      rd.mask = (probRun true true yC yF y mask b part sigmas).maskR ∧
      rd.shuffled.n0 = y.n0 ∧ rd.shuffled.n1 = y.n1 ∧
      masked rd.shuffled rd.mask
        = ((pixels y.n0 y.n1).filter (fun q => mask q.1 q.2)).map (fun q => rd.shuffled.get q.1 q.2)) ∧
    (probRun true true yC yF y mask b part sigmas).final.mask = mask ∧
    (probRun true true yC yF y mask b part sigmas).final.yMem.caller = y := by
  obtain ⟨h1, h2, h3⟩ := loopRun_spec b part (loopInit true yC yF y mask) y rfl rfl rfl sigmas
  have hshape := shuffleSeq_forall (P := fun yi => yi.n0 = y.n0 ∧ yi.n1 = y.n1) mask b part sigmas y ⟨rfl, rfl⟩
    (fun _ _ _ h => h)
  refine ⟨?_, ?_, h2, h3⟩
  · show (loopRun true b part (loopInit true yC yF y mask) sigmas).1.length = _
    rw [h1, List.length_map, shuffleSeq_length]
  · intro rd hrd
    change rd ∈ (loopRun true b part (loopInit true yC yF y mask) sigmas).1 at hrd
    rw [h1, List.mem_map] at hrd
    obtain ⟨yi, hyi, rfl⟩ := hrd
    obtain ⟨s0, s1⟩ := hshape yi hyi
    refine ⟨rfl, s0, s1, ?_⟩
    rw [masked_eq_filter_map, s0, s1]
    rfl

/-- in terms of the numbers the routine computes: every rᵢ is a coefficient over as many pixels as r (the mask of
round i is the mask of r, `same_pixels`) -/
theorem prob_steps_same_pixels (x y : Img Rat) (mask : Nat → Nat → Bool) (b : Nat) (part : Bool)
    (sigmas : List (List Nat)) :
    (probSteps x y mask b part sigmas).length = sigmas.length ∧
    ∀ s ∈ probSteps x y mask b part sigmas, s.n = (masked x mask).length := by
  obtain ⟨hl, hr, _, _⟩ := same_pixels true true y mask b part sigmas
  refine ⟨by simp [probSteps, probStepsOf, hl], ?_⟩
  intro s hs
  simp only [probSteps, probStepsOf, List.mem_map] at hs
  obtain ⟨rd, hrd, rfl⟩ := hs
  rw [(hr rd hrd).1]
  rfl

/-- the loop without the mask copy (`copies = false`), 4×4 images, block 3: `r` is computed over 16 pixels,
`r₁` over 9 - with the copy, over 16 -/
example :
    let y : Img Rat := ⟨4, 4, fun i j => ((i * 4 + j : Nat) : Rat)⟩
    ((probRun false true true false y (fun _ _ => true) 3 false [[0]]).rounds.map
        (fun rd => (masked y rd.mask).length)) = [9] ∧
    ((probRun true true true false y (fun _ _ => true) 3 false [[0]]).rounds.map
        (fun rd => (masked y rd.mask).length)) = [16] ∧
    (masked y (probRun false true true false y (fun _ _ => true) 3 false [[0]]).maskR).length = 16 := by
  decide +kernel

/-- and without `y.copy()` (`copyY = false`) the in-place shuffles would land in the caller's `y`: the copy statement
is what the "images untouched" part of `same_pixels` rests on -/
example :
    let y : Img Rat := ⟨2, 4, fun i j => ((i * 4 + j : Nat) : Rat)⟩
    (pixels 2 4).map (fun q => (probRun true false true false y (fun _ _ => true) 2 false [[1, 0]]).final.yMem.caller.get q.1 q.2)
      = [2, 3, 0, 1, 6, 7, 4, 5] ∧
    (pixels 2 4).map (fun q => (probRun true true true false y (fun _ _ => true) 2 false [[1, 0]]).final.yMem.caller.get q.1 q.2)
      = [0, 1, 2, 3, 4, 5, 6, 7] := by decide +kernel

/-- **No layout flag is needed in the loop** (`x`, `y`, `mask` may be Fortran-ordered or strided views):
`shuffled = y.copy()` is C-contiguous (`ndarray.copy` has `order='C'`), so `np.ascontiguousarray` inside
`view_as_blocks` returns the array itself and the block assignment reaches it: whatever the layout `(yC, yF)` of `y`,
the arrays the rounds read are the iteration of `shuffleBlocksLayout true` (`shuffleSeq`) started from `y`.
`x[mask]`, `y[mask]`, `shuffled[mask]` are boolean-mask selections, which list the selected pixels in row-major
index order whatever the memory layout of the three arrays. -/
theorem loop_layout_free (yC yF : Bool) (y : Img Rat) (mask : Nat → Nat → Bool) (b : Nat) (part : Bool)
    (sigmas : List (List Nat)) :
    (probRun true true yC yF y mask b part sigmas).rounds.map (·.shuffled) = shuffleSeq y mask b part sigmas := by
  obtain ⟨h1, _, _⟩ := loopRun_spec b part (loopInit true yC yF y mask) y rfl rfl rfl sigmas
  show (loopRun true b part (loopInit true yC yF y mask) sigmas).1.map (·.shuffled) = _
  rw [h1, List.map_map]
  exact List.map_id _

example : (probRun true true false true (⟨2, 4, fun i j => ((i * 4 + j : Nat) : Rat)⟩ : Img Rat) (fun _ _ => true) 2 false
      [[1, 0], [1, 0]]).rounds.map (fun rd => (pixels 2 4).map (fun q => rd.shuffled.get q.1 q.2))
    = [[2, 3, 0, 1, 6, 7, 4, 5], [0, 1, 2, 3, 4, 5, 6, 7]] := by decide +kernel

/-- each in-place shuffle of the loop only rearranges the image: every `shuffledᵢ` has the pixel
values of `y` (as a multiset), whatever the mask, the block size (≥ 1) and the layout of `y` -/
theorem loop_conserves (yC yF : Bool) (y : Img Rat) (mask : Nat → Nat → Bool) (b : Nat) (part : Bool)
    (sigmas : List (List Nat)) (hb : 0 < b)
    (hp : ∀ s ∈ sigmas, s.Perm (shuffleIdx y mask b b false part)) :
    ∀ rd ∈ (probRun true true yC yF y mask b part sigmas).rounds,
      ((pixels y.n0 y.n1).map (fun q => rd.shuffled.get q.1 q.2)).Perm
        ((pixels y.n0 y.n1).map (fun q => y.get q.1 q.2)) := by
  have key := shuffleSeq_forall (P := fun yi => (yi.n0 = y.n0 ∧ yi.n1 = y.n1) ∧
      ((pixels y.n0 y.n1).map (fun q => yi.get q.1 q.2)).Perm ((pixels y.n0 y.n1).map (fun q => y.get q.1 q.2)))
    mask b part sigmas y ⟨⟨rfl, rfl⟩, List.Perm.refl _⟩ (fun y' s hs h => by
      -- the index list depends on the shape only, so `s` permutes the selected blocks of `y'` as well
      have step := values_conserved y' mask b b false part s hb hb
        (by rw [shuffleIdx_shape y' y mask b b false part h.1.1 h.1.2]; exact hp s hs) rfl
      rw [h.1.1, h.1.2] at step
      exact ⟨h.1, step.trans h.2⟩)
  intro rd hrd
  refine (key rd.shuffled ?_).2
  rw [← loop_layout_free yC yF]
  exact List.mem_map_of_mem hrd

/-- for `n ≥ 1` comparisons the value is a rational `p` with `0 ≤ p ≤ 1` and `p·n` the natural number of `true`s,
at most `n` -/
theorem probability_range (gt : List Bool) (h : gt ≠ []) :
    ∃ p : Rat, probability gt = some p ∧ 0 ≤ p ∧ p ≤ 1 ∧
      p * (gt.length : Rat) = (gt.count true : Rat) ∧ gt.count true ≤ gt.length :=
  probability_of_length gt _ rfl (List.length_pos_iff.mpr h)

example : probability [true, false, false] = some (1 / 3) := by decide +kernel

/-- the routine: with `n ≥ 1` shuffles the probability is a fraction `k / n` in `[0, 1]`; with `n = 0` it is NaN
(`0 / 0` in NumPy), which the property's "fraction in [0, 1]" cannot speak about -/
theorem pearson_probability_fraction (x y : Img Rat) (mask : Nat → Nat → Bool) (b : Nat) (part : Bool)
    (sigmas : List (List Nat)) :
    (sigmas ≠ [] → ∃ (p : Rat) (k : Nat), pearsonProbability x y mask b part sigmas = some p ∧
      0 ≤ p ∧ p ≤ 1 ∧ p * (sigmas.length : Rat) = (k : Rat) ∧ k ≤ sigmas.length) ∧
    (sigmas = [] → pearsonProbability x y mask b part sigmas = none) := by
  refine ⟨fun hne => ?_, fun he => by subst he; rfl⟩
  obtain ⟨p, h⟩ := probability_of_length ((probSteps x y mask b part sigmas).map (·.gt)) sigmas.length
    (by rw [List.length_map, (prob_steps_same_pixels x y mask b part sigmas).1]) (List.length_pos_iff.mpr hne)
  exact ⟨p, _, h⟩

/-- three shuffles of a 2×4 image in 2×2 blocks (swap, stay, swap): two of the three rᵢ exceed r -/
example : pearsonProbability (⟨2, 4, fun i j => ((i * 4 + j : Nat) : Rat)⟩ : Img Rat)
      (⟨2, 4, fun i j => (((i * 4 + j) * (i * 4 + j) % 3 : Nat) : Rat)⟩ : Img Rat) (fun _ _ => true) 2 false
      [[1, 0], [0, 1], [1, 0]]
    = some (2 / 3) := by decide +kernel

/-! ## large images: the quasi-linear forms decide the same relations -/

/-- `mean(x²) - mean(x)²` is `np.std(x)²` -/
theorem var_fast (x : List Rat) : varFast x = var x :=
  (var_eq_cov x).symm

example : varFast [1, 2, 3, 6] = 7 / 2 := by decide +kernel

/-- integer-valued images: `covI` (integer sums) is `cov` of the same values as rationals; with `var_fast`
(`var x = cov x x`) every number the check takes from `pstats` is the model's `cov` / `var` / `mean` -/
theorem cov_int (x y : List Int) :
    meanI x = mean (x.map (fun (i : Int) => (i : Rat))) ∧
    covI x y = cov (x.map (fun (i : Int) => (i : Rat))) (y.map (fun (i : Int) => (i : Rat))) := by
  refine ⟨meanI_eq x, ?_⟩
  rw [covI, cov, meanI_eq, meanI_eq x, meanI_eq y, mulL, List.map_zipWith, List.zipWith_map]
  simp only [Int.cast_mul]

example : covI [1, 2, 3, 6] [2, 1, 5, 4] = 7 / 4 := by decide +kernel

/-- **`specOutsideFast` is `specOutside`** (any image, mask, block, mode) -/
theorem spec_outside_fast (x out : Img Rat) (mask : Nat → Nat → Bool) (b0 b1 : Nat) (padMode part : Bool) :
    specOutsideFast x out mask b0 b1 padMode part = specOutside x out mask b0 b1 padMode part := by
  unfold specOutsideFast specOutside
  simp only [inSelected_selected]

/-- **`specBlocksFast` is `specBlocks`**: the hash-set lookup finds a selected input block with the same visible part
exactly when one exists -/
theorem spec_blocks_fast (x out : Img Rat) (mask : Nat → Nat → Bool) (b0 b1 : Nat) (padMode part : Bool) :
    specBlocksFast x out mask b0 b1 padMode part = specBlocks x out mask b0 b1 padMode part := by
  rw [Bool.eq_iff_iff, specBlocks_iff]
  unfold specBlocksFast
  simp only [List.all_eq_true]
  refine forall₂_congr (fun f hf => ?_)
  rw [contains_ofList_pairs _ _ _ _ (List.mem_eraseDups.mpr (List.mem_map_of_mem hf))]
  simp only [blockKey_eq_iff]
  exact Iff.rfl

/-- a 5×7 image in pad mode with 2×3 blocks (partly visible blocks on two sides): yes for a real shuffle, no when a
pixel of a selected block is changed -/
example :
    let x : Img Rat := ⟨5, 7, fun i j => ((i * 7 + j : Nat) : Rat)⟩
    let y := shuffleBlocks x (fun _ _ => true) 2 3 true false [8, 7, 6, 5, 4, 3, 2, 1, 0]
    let z : Img Rat := ⟨5, 7, fun i j => if i = 0 ∧ j = 0 then 1000 else y.get i j⟩
    specBlocksFast x y (fun _ _ => true) 2 3 true false = true ∧
    specBlocksFast x z (fun _ _ => true) 2 3 true false = false := by
  -- `Std.HashSet` does not reduce in the kernel: decided on the reference form, the same Boolean by `spec_blocks_fast`
  simp only [spec_blocks_fast]
  decide +kernel

/-- **The certificate pins the output.**  If pixels outside the selected blocks are where they were (`specOutside`) and
block `idx[k]` of the output is block `nidx[k]` of the working array for every `k` (`specApplied`), then the output is,
pixel for pixel, the model's `shuffleBlocks … nidx` - for any `nidx` (no permutation hypothesis). -/
theorem applied_determines_output (x out : Img Rat) (mask : Nat → Nat → Bool) (b0 b1 : Nat) (padMode part : Bool)
    (nidx : List Nat)
    (ho : specOutside x out mask b0 b1 padMode part = true)
    (ha : specApplied x out mask b0 b1 padMode part nidx = true) :
    ∀ i j, i < x.n0 → j < x.n1 → out.get i j = (shuffleBlocks x mask b0 b1 padMode part nidx).get i j := by
  intro i j hi hj
  rw [shuffleBlocks_get]
  rcases Bool.eq_false_or_eq_true (inSelected b0 b1 (nBlocks (prepare x mask b0 b1 padMode).N0 b0)
      (nBlocks (prepare x mask b0 b1 padMode).N1 b1) (shuffleIdx x mask b0 b1 padMode part) i j) with hs | hs
  · -- inside a selected block: the certificate entry of that block, at the offset of the pixel
    obtain ⟨⟨h0, h1⟩, hmem⟩ := (inSelected_eq_true _ _ _ _ _ _ _).mp hs
    have := ((specApplied_iff _ _ _ _ _ _ _ _).mp ha).2 _ hmem (i % b0) (j % b1)
      (Nat.mod_lt _ (pos_of_lt_nBlocks h0)) (Nat.mod_lt _ (pos_of_lt_nBlocks h1))
    rw [blk_div _ _ _ h1, Nat.mul_add_mod_of_lt h1, Nat.div_add_mod', Nat.div_add_mod'] at this
    rw [this hi hj, phi_valid i j h0 h1]
  · -- outside: fixed by the implementation's output (`specOutside`) and by the model (`phi_fix`)
    rw [phi_fix i j hs, prepare_X x mask b0 b1 padMode i j hi hj]
    exact (specOutside_iff _ _ _ _ _ _ _).mp ho i j hi hj hs

/-- **and the model's output carries the certificate**: `shuffleBlocks … nidx` passes `specApplied … nidx` whenever
`nidx` has one entry per selected block (so "certificate fails" means "differs from the model") -/
theorem model_satisfies_applied (x : Img Rat) (mask : Nat → Nat → Bool) (b0 b1 : Nat) (padMode part : Bool)
    (nidx : List Nat) (hlen : nidx.length = (shuffleIdx x mask b0 b1 padMode part).length) :
    specApplied x (shuffleBlocks x mask b0 b1 padMode part nidx) mask b0 b1 padMode part nidx = true :=
  (specApplied_iff _ _ _ _ _ _ _ _).mpr ⟨hlen, fun f hf => shuffleBlocks_blockEq x mask b0 b1 padMode part nidx _ _ f hf⟩

/-- soundness of the check by sorting: if `nidx` sorts to `idx` it is a permutation of `idx` (`idx` itself need not be
sorted for this) -/
theorem is_perm_of_sorted (nidx idx : List Nat) (h : isPermOfSorted nidx idx = true) : nidx.Perm idx := by
  unfold isPermOfSorted at h
  rw [beq_iff_eq] at h
  rw [← h]
  exact (List.mergeSort_perm nidx _).symm

example : isPermOfSorted [2, 0, 1] [0, 1, 2] = true ∧ isPermOfSorted [2, 0, 0] [0, 1, 2] = false := by
  -- `mergeSort` is by well-founded recursion and does not evaluate: yes because the target is the strictly ascending
  -- permutation of the input, no because the target is no permutation of it
  constructor
  · rw [isPermOfSorted, beq_iff_eq]
    exact SortKey.sortKey_of_perm_strict id _ _ (by decide) (by decide)
  · exact Bool.eq_false_iff.mpr fun h => absurd (is_perm_of_sorted _ _ h) (by decide)

/-- the certificate for a 2×4 image in 2×2 blocks, `[1, 0]` swaps the two blocks -/
example :
    let x : Img Rat := ⟨2, 4, fun i j => ((i * 4 + j : Nat) : Rat)⟩
    specApplied x (shuffleBlocks x (fun _ _ => true) 2 2 false false [1, 0]) (fun _ _ => true) 2 2 false false [1, 0] = true ∧
    specApplied x x (fun _ _ => true) 2 2 false false [1, 0] = false := by decide +kernel

/-- **The certificate carries the whole specification**: an output that passes `specOutside` and `specApplied` for a
permutation `nidx` of the selected blocks also satisfies "every output block equals some input block" and, where it is
promised, conservation of the pixel values (`specBlocks`: the certificate with its witness named; conservation: the
output is the model's, `applied_determines_output`). -/
theorem certificate_implies_spec (x out : Img Rat) (mask : Nat → Nat → Bool) (b0 b1 : Nat) (padMode part : Bool)
    (nidx : List Nat) (hb0 : 0 < b0) (hb1 : 0 < b1)
    (hp : nidx.Perm (shuffleIdx x mask b0 b1 padMode part))
    (ho : specOutside x out mask b0 b1 padMode part = true)
    (ha : specApplied x out mask b0 b1 padMode part nidx = true) :
    specBlocks x out mask b0 b1 padMode part = true ∧
    (conservedApplies x b0 b1 padMode = true → specConserved x out = true) := by
  refine ⟨(specBlocks_iff _ _ _ _ _ _ _).mpr (fun f hf =>
    ⟨_, src_mem _ nidx hp f hf, ((specApplied_iff _ _ _ _ _ _ _ _).mp ha).2 f hf⟩), fun happ => ?_⟩
  have hd := applied_determines_output x out mask b0 b1 padMode part nidx ho ha
  exact (sortR_beq_iff _ _).mpr ((List.Perm.of_eq (List.map_congr_left fun q hq =>
    hd q.1 q.2 ((mem_pixels _ _ q).mp hq).1 ((mem_pixels _ _ q).mp hq).2)).trans
      (values_conserved x mask b0 b1 padMode part nidx hb0 hb1 hp happ))

/-- **Block shuffling is a permutation of whole blocks**, at the level of blocks: for every permutation `nidx` of the
selected flat indices, the list of selected blocks of the model's result is a rearrangement of the list of selected
blocks of the working array (`specBlockMultiset`, which the check evaluates on the implementation's output whenever every
selected block lies inside the image: shape a multiple of the block, or in-place mode).  Strictly more than
"values conserved + every output block equals some input block": see the `example` below. -/
theorem model_block_multiset (x : Img Rat) (mask : Nat → Nat → Bool) (b0 b1 : Nat)
    (padMode part : Bool) (nidx : List Nat) (hp : nidx.Perm (shuffleIdx x mask b0 b1 padMode part)) :
    specBlockMultiset x (shuffleBlocks x mask b0 b1 padMode part nidx) mask b0 b1 padMode part = true := by
  unfold specBlockMultiset
  rw [List.isPerm_iff]
  -- block `f` of the result is block `src f` of the working array, and reading through `src` is reading at `nidx`
  refine (List.Perm.of_eq ?_).trans (hp.map (fun g => blockKey (prepare x mask b0 b1 padMode).X b0 b1 b0 b1
    (g / nBlocks (prepare x mask b0 b1 padMode).N1 b1) (g % nBlocks (prepare x mask b0 b1 padMode).N1 b1)))
  rw [← map_src_eq _ nidx hp (shuffleIdx_nodup x mask b0 b1 padMode part)]
  refine List.map_congr_left (fun f hf => List.map_inj_left.mpr (fun o ho => ?_))
  rw [mem_pixels] at ho
  exact (blocks_from_input x mask b0 b1 padMode part nidx hp f hf).2 o.1 o.2 ho.1 ho.2

/-- a 1×4 line `[1, 2, 2, 1]` in blocks of two: `[1, 2, 1, 2]` conserves the values and consists of input blocks only,
but uses the block `[1, 2]` twice - not a permutation of blocks -/
example :
    let x : Img Rat := ⟨1, 4, fun _ j => if j = 0 ∨ j = 3 then 1 else 2⟩
    let bad : Img Rat := ⟨1, 4, fun _ j => if j % 2 = 0 then 1 else 2⟩
    ((pixels 1 4).map (fun q => bad.get q.1 q.2)).Perm ((pixels 1 4).map (fun q => x.get q.1 q.2)) ∧
    specBlocks x bad (fun _ _ => true) 1 2 false false = true ∧
    specOutside x bad (fun _ _ => true) 1 2 false false = true ∧
    specBlockMultiset x bad (fun _ _ => true) 1 2 false false = false ∧
    specBlockMultiset x (shuffleBlocks x (fun _ _ => true) 1 2 false false [1, 0]) (fun _ _ => true) 1 2 false false = true := by
  decide +kernel

end Pew.Colocal
