import PewProofs.Extent
import PewProofs.ExtentHist

/-! # C10 — property theorems (statements only depend on `PewModel.Extent` / `PewModel.Srr`) -/
namespace Pew.Extent
open Pew Pew.Srr

/-- The reported extent of an image is `(0, columns × pixel width, 0, rows × pixel height)` with
pixel width = speed × scan time and pixel height = spot size for a raster configuration, and the
x / y spot spacing for a spot configuration.  All parameters, all shapes.
(Model mechanism and specification are the same formula up to commutativity, so by itself this says little; its
content comes from the structural tie: on every run `harness/structural.py` translates `get_pixel_width`,
`get_pixel_height`, `data_extent` of `Config` / `SpotConfig` from the source and proves the translated terms equal to
`extentSpec`, and `harness/structural_c10.py` does the same for the SRR pixel sizes, `SRRLaser.extent`, `magnification`,
the warm-up setter, `subpixels_per_pixel` and the extent → index conversion of `Laser.get`.) -/
theorem extent_spec {α : Type} (data : Arr2 α) :
    (∀ spotsize speed scantime : Rat,
      laserExtent (.raster spotsize speed scantime) data
        = extentSpec (speed * scantime) spotsize data.rows data.cols) ∧
    (∀ sx sy : Rat, laserExtent (.spot sx sy) data = extentSpec sx sy data.rows data.cols) :=
  ⟨fun s v t => Cfg.dataExtent_eq_specExtent (.raster s v t) _ _, fun sx sy => Cfg.dataExtent_eq_specExtent (.spot sx sy) _ _⟩

example : laserExtent (.raster 35 (17 / 10) (1 / 10)) ({ rows := 59, cols := 53, get := fun _ _ => 0 } : Arr2 Int)
    = { x0 := 0, x1 := 53 * (17 / 100), y0 := 0, y1 := 59 * 35 } := by
  rw [(extent_spec _).1]; simp [extentSpec]; norm_num

/-- **A configuration survives its array form, as NumPy builds it**: the 0-d record `spotsize, speed, scantime` of a
`Config`, the two-element one-field array of a `SpotConfig` (`[("spotsize", f8)]`, x spacing in element 0, y spacing in
element 1), read back by `from_array` of the same class, give the configuration again - hence the same pixel width,
pixel height and every extent. -/
theorem config_array_roundtrip (c : Cfg) :
    Cfg.fromRec c.kind c.toRec = .ok c ∧
    (∀ c', Cfg.fromRec c.kind c.toRec = .ok c' →
      c'.pixelWidth = c.pixelWidth ∧ c'.pixelHeight = c.pixelHeight ∧ ∀ shape, c'.dataExtent shape = c.dataExtent shape) := by
  have h : Cfg.fromRec c.kind c.toRec = .ok c := by cases c <;> rfl
  refine ⟨h, ?_⟩
  intro c' hc'
  rw [h] at hc'
  cases hc'
  exact ⟨rfl, rfl, fun _ => rfl⟩

example : Cfg.fromRec .spot (Cfg.spot (3 / 10) (7 / 1000)).toRec = .ok (.spot (3 / 10) (7 / 1000)) ∧
    (Cfg.spot (3 / 10) (7 / 1000)).toRec = { names := ["spotsize"], dim := some 2, recs := [[.num (3 / 10)], [.num (7 / 1000)]] } :=
  ⟨(config_array_roundtrip (Cfg.spot (3 / 10) (7 / 1000))).1, rfl⟩

/-- `Config.from_array` reads by name: ANY 0-d array that has float fields `spotsize`, `speed`, `scantime` - in any
order, with any further fields (an older or newer layout, an `SRRConfig` array) - gives the raster configuration of those
three values. -/
theorem raster_from_any_layout (a : RecArr) (r : List FVal) (h0 : a.dim = none) (hr : a.recs = [r])
    (i j k : Nat) (s v t : Rat)
    (hi : a.fieldIdx "spotsize" = some i) (hj : a.fieldIdx "speed" = some j) (hk : a.fieldIdx "scantime" = some k)
    (vi : r.getD i (.num 0) = .num s) (vj : r.getD j (.num 0) = .num v) (vk : r.getD k (.num 0) = .num t) :
    Cfg.fromRec .raster a = .ok (.raster s v t) := by
  rw [List.getD_eq_getElem?_getD] at vi vj vk
  simp [Cfg.fromRec, RecArr.floatField, RecArr.field, hi, hj, hk, h0, hr, vi, vj, vk, bind, Except.bind, pure, Except.pure]

example :
    Cfg.fromRec .raster ({ names := ["scantime", "extra", "speed", "spotsize"], dim := none, recs := [[.num 1, .num 9, .num 2, .num 3]] } : RecArr)
      = .ok (.raster 3 2 1) :=
  raster_from_any_layout _ _ rfl rfl 3 2 0 3 2 1 (by decide) (by decide) (by decide) rfl rfl rfl

/-- **`from_array` on the arrays of the other configuration classes** (what the real calls do):
`SpotConfig.from_array` of a raster or SRR array is an IndexError (a 0-d array cannot be indexed),
`Config.from_array` of a spot array is a TypeError (`float()` of a two-element array),
`Config.from_array` of an SRR array SUCCEEDS and keeps spot size, speed and scan time (warm-up and offsets are dropped). -/
theorem config_array_cross_kind (spotsize speed scantime sx sy : Rat) (c : SrrConfig) :
    Cfg.fromRec .spot (Cfg.raster spotsize speed scantime).toRec = .error .indexError ∧
    Cfg.fromRec .raster (Cfg.spot sx sy).toRec = .error .typeError ∧
    Cfg.fromRec .raster c.toRec = .ok (.raster c.spotsize c.speed c.scantime) ∧
    Cfg.fromRec .spot c.toRec = .error .indexError :=
  ⟨rfl, rfl, rfl, rfl⟩

/-- Reading a pixel-aligned rectangle.  For all positive pixel sizes, all `r0 ≤ r1 ≤ rows`,
`c0 ≤ c1 ≤ cols`, and every perturbation smaller than 5·10⁻⁷ of each of the four quotients
`bound / pixel size` (the floating-point error of the division), the conversion
`int(round(q, 6))` yields exactly `c0, c1, r0, r1`, no rounding tie occurs, and the read is
`data[r0:r1, c0:c1]`. -/
theorem get_aligned_rect {α : Type} (data : Arr2 α) (pw ph : Rat) (hpw : 0 < pw) (hph : 0 < ph)
    (r0 r1 c0 c1 : Nat) (hr : r0 ≤ r1) (hr1 : r1 ≤ data.rows) (hc : c0 ≤ c1) (hc1 : c1 ≤ data.cols)
    (d1 d2 d3 d4 : Rat)
    (h1 : |d1| < 5 / 10000000) (h2 : |d2| < 5 / 10000000)
    (h3 : |d3| < 5 / 10000000) (h4 : |d4| < 5 / 10000000) :
    let qx0 := (c0 : Rat) * pw / pw + d1
    let qx1 := (c1 : Rat) * pw / pw + d2
    let qy0 := (r0 : Rat) * ph / ph + d3
    let qy1 := (r1 : Rat) * ph / ph + d4
    toIndex qx0 = c0 ∧ toIndex qx1 = c1 ∧ toIndex qy0 = r0 ∧ toIndex qy1 = r1 ∧
    (∀ q ∈ [qx0, qx1, qy0, qy1], q * 1000000 - ((q * 1000000).floor : Rat) ≠ 1 / 2) ∧
    round6 qx0 = round6Up qx0 ∧ round6 qx1 = round6Up qx1 ∧
    round6 qy0 = round6Up qy0 ∧ round6 qy1 = round6Up qy1 ∧
    getQ data qx0 qx1 qy0 qy1 = rectSpec data r0 r1 c0 c1 := by
  intro qx0 qx1 qy0 qy1
  have n1 := aligned_near hpw c0 h1
  have n2 := aligned_near hpw c1 h2
  have n3 := aligned_near hph r0 h3
  have n4 := aligned_near hph r1 h4
  obtain ⟨i1, t1, u1⟩ := near_index _ _ n1
  obtain ⟨i2, t2, u2⟩ := near_index _ _ n2
  obtain ⟨i3, t3, u3⟩ := near_index _ _ n3
  obtain ⟨i4, t4, u4⟩ := near_index _ _ n4
  refine ⟨i1, i2, i3, i4, ?_, u1, u2, u3, u4, getQ_near data r0 r1 c0 c1 hr hr1 hc hc1 n1 n2 n3 n4⟩
  intro q hq
  simp only [List.mem_cons, List.not_mem_nil, or_false] at hq
  rcases hq with rfl | rfl | rfl | rfl <;> assumption

/-- non-vacuity: the 59 × 53 image with pixel 0.17 × 35, its own
extent, every quotient 10⁻¹² too low: the read is still the whole image, whereas plain truncation
turns the column bound 53 into 52 (`get_trunc_fragile` below) -/
example (data : Arr2 Int) (hr : data.rows = 59) (hc : data.cols = 53) :
    getQ data ((0 : Nat) * (17 / 100 : Rat) / (17 / 100) + -(1 / 1000000000000))
        ((53 : Nat) * (17 / 100 : Rat) / (17 / 100) + -(1 / 1000000000000))
        ((0 : Nat) * (35 : Rat) / 35 + -(1 / 1000000000000))
        ((59 : Nat) * (35 : Rat) / 35 + -(1 / 1000000000000))
      = rectSpec data 0 59 0 53 :=
  have h : |(-(1 / 1000000000000) : Rat)| < 5 / 10000000 := by norm_num [abs_lt]
  getQ_near data 0 59 0 53 (by decide) (by omega) (by decide) (by omega) (aligned_near (by norm_num) 0 h)
    (aligned_near (by norm_num) 53 h) (aligned_near (by norm_num) 0 h) (aligned_near (by norm_num) 59 h)

/-- reading an image's own extent (exact quotients: another way of meeting `getQ_near`) returns the whole image -/
theorem get_own_extent {α : Type} (c : Cfg) (data : Arr2 α) (hpw : 0 < c.pixelWidth) (hph : 0 < c.pixelHeight) :
    get c data (laserExtent c data) = data := by
  have e : ∀ (p : Rat) (n : Nat), 0 < p → |p * n / p - (n : Rat)| < 5 / 10000000 := fun p n hp => by
    rw [mul_div_cancel_left₀ _ hp.ne', sub_self, abs_zero]; norm_num
  have z : ∀ p : Rat, |0 / p - ((0 : Nat) : Rat)| < 5 / 10000000 := fun p => by norm_num
  exact (getQ_near data 0 data.rows 0 data.cols (Nat.zero_le _) (Nat.le_refl _) (Nat.zero_le _) (Nat.le_refl _)
    (z _) (e _ _ hpw) (z _) (e _ _ hph)).trans (rectSpec_full data)

/-- Why the conversion rounds before it truncates: plain truncation `int(q)` of a quotient that is any amount
below the boundary `j ≥ 1` gives `j - 1`, so the read loses a row or column. -/
theorem get_trunc_fragile (j : Nat) (hj : 1 ≤ j) (d : Rat) (h1 : -1 < d) (h2 : d < 0) :
    toIndexOld ((j : Rat) + d) = (j : Int) - 1 := by
  unfold toIndexOld trunc
  have hj' : (1 : Rat) ≤ (j : Rat) := by exact_mod_cast hj
  rw [if_pos (by linarith)]
  apply floor_eq_of_bounds
  · push_cast; linarith
  · push_cast; linarith

example : toIndexOld ((53 : Nat) + (-(1 : Rat) / 1000000000000)) = 52 := by
  rw [get_trunc_fragile 53 (by decide) _ (by norm_num) (by norm_num)]; rfl

/-! ## the float64 pipeline: what CPython evaluates, for every index up to 2²⁸

`get_aligned_rect` takes the quotient error as a hypothesis.  Here it is discharged: with `fl` = the nearest binary64
(`PewModel/Srr.lean`; normal exponent range), for EVERY positive pixel size and every boundary index `k ≤ 2²⁸`, a bound
within `k·p / 2⁵⁰` of `k·p` - the caller's product `fl(p·k)`, the extent pewlib reports, one ulp up or down - divided in
float64 by the pixel size and converted by `int(round(·, 6))` gives `k`. -/

/-- Reading a pixel-aligned rectangle **in float64**: all positive pixel sizes, images up to 2²⁸ pixels per side,
every `r0 ≤ r1 ≤ rows`, `c0 ≤ c1 ≤ cols`, bounds near their boundaries: the four converted indices are `c0, c1, r0, r1`
and the read is `data[r0:r1, c0:c1]`. -/
theorem get_float_aligned {α : Type} (data : Arr2 α) (pw ph : Rat) (hpw : 0 < pw) (hph : 0 < ph)
    (r0 r1 c0 c1 : Nat) (hr : r0 ≤ r1) (hr1 : r1 ≤ data.rows) (hc : c0 ≤ c1) (hc1 : c1 ≤ data.cols)
    (hrows : data.rows ≤ 2 ^ 28) (hcols : data.cols ≤ 2 ^ 28) (x0 x1 y0 y1 : Rat)
    (h1 : NearBoundary x0 pw c0) (h2 : NearBoundary x1 pw c1) (h3 : NearBoundary y0 ph r0) (h4 : NearBoundary y1 ph r1) :
    toIndex (fl (x0 / pw)) = c0 ∧ toIndex (fl (x1 / pw)) = c1 ∧ toIndex (fl (y0 / ph)) = r0 ∧ toIndex (fl (y1 / ph)) = r1 ∧
    getQ data (fl (x0 / pw)) (fl (x1 / pw)) (fl (y0 / ph)) (fl (y1 / ph)) = rectSpec data r0 r1 c0 c1 := by
  have n1 := float_quotient_near pw x0 c0 hpw (by omega) h1
  have n2 := float_quotient_near pw x1 c1 hpw (by omega) h2
  have n3 := float_quotient_near ph y0 r0 hph (by omega) h3
  have n4 := float_quotient_near ph y1 r1 hph (by omega) h4
  exact ⟨(near_index _ _ n1).1, (near_index _ _ n2).1, (near_index _ _ n3).1, (near_index _ _ n4).1,
    getQ_near data r0 r1 c0 c1 hr hr1 hc hc1 n1 n2 n3 n4⟩

/-- `Laser.get(extent=…)` of a configuration, in float64, for bounds near pixel boundaries -/
theorem get_float_config {α : Type} (c : Cfg) (hpos : c.Positive) (data : Arr2 α)
    (r0 r1 c0 c1 : Nat) (hr : r0 ≤ r1) (hr1 : r1 ≤ data.rows) (hc : c0 ≤ c1) (hc1 : c1 ≤ data.cols)
    (hrows : data.rows ≤ 2 ^ 28) (hcols : data.cols ≤ 2 ^ 28) (e : Ext)
    (h1 : NearBoundary e.x0 c.pixelWidthF c0) (h2 : NearBoundary e.x1 c.pixelWidthF c1)
    (h3 : NearBoundary e.y0 c.pixelHeightF r0) (h4 : NearBoundary e.y1 c.pixelHeightF r1) :
    getF c data e = rectSpec data r0 r1 c0 c1 :=
  (get_float_aligned data _ _ (pixelF_pos c hpos).1 (pixelF_pos c hpos).2 r0 r1 c0 c1 hr hr1 hc hc1 hrows hcols
    e.x0 e.x1 e.y0 e.y1 h1 h2 h3 h4).2.2.2.2

/-- **Reading an image's own extent returns the whole image, in float64**: every configuration with positive
parameters, every image up to 2²⁸ pixels per side; the extent is the one `Laser.extent` computes in float64
(`fl(fl(speed·scantime)·columns)` …), the read divides it again in float64. -/
theorem get_float_own_extent {α : Type} (c : Cfg) (hpos : c.Positive) (data : Arr2 α)
    (hrows : data.rows ≤ 2 ^ 28) (hcols : data.cols ≤ 2 ^ 28) :
    getF c data (laserExtentF c data) = data := by
  obtain ⟨hw, hh⟩ := pixelF_pos c hpos
  have key := get_float_config c hpos data 0 data.rows 0 data.cols (Nat.zero_le _) (Nat.le_refl _) (Nat.zero_le _) (Nat.le_refl _)
    hrows hcols (laserExtentF c data) (nearBoundary_zero _) (nearBoundary_fl_mul _ _ hw) (nearBoundary_zero _) (nearBoundary_fl_mul _ _ hh)
  rw [key, rectSpec_full]

example : getF (.raster 35 (17 / 10) (1 / 10)) ({ rows := 59, cols := 53, get := fun r c => r * 53 + c } : Arr2 Nat)
      (laserExtentF (.raster 35 (17 / 10) (1 / 10)) ({ rows := 59, cols := 53, get := fun r c => r * 53 + c } : Arr2 Nat))
    = { rows := 59, cols := 53, get := fun r c => r * 53 + c } :=
  get_float_own_extent _ (by simp [Cfg.Positive]) _ (by norm_num) (by norm_num)

/-- **The float64 extent against the property's formula**: for positive parameters each value `Laser.extent` computes
is within a relative `2⁻⁵¹` of `(0, columns × pixel width, 0, rows × pixel height)` (the zeros are exact). -/
theorem extent_float_close (c : Cfg) (hpos : c.Positive) (rows cols : Nat) :
    (c.dataExtentF [rows, cols]).x0 = (c.specExtent rows cols).x0 ∧
    (c.dataExtentF [rows, cols]).y0 = (c.specExtent rows cols).y0 ∧
    |(c.dataExtentF [rows, cols]).x1 - (c.specExtent rows cols).x1| ≤ (c.specExtent rows cols).x1 / 2 ^ 51 ∧
    |(c.dataExtentF [rows, cols]).y1 - (c.specExtent rows cols).y1| ≤ (c.specExtent rows cols).y1 / 2 ^ 51 := by
  have one : ∀ (p : Rat) (n : Nat), 0 < p → |fl (p * (n : Rat)) - (n : Rat) * p| ≤ (n : Rat) * p / 2 ^ 51 :=
    fun p n hp => fl_mul_close p n hp 51 (by decide)
  cases c with
  | raster s v t =>
    -- `fl(fl(v·t) · n)` against `n · (v·t)`: the error of the first product carried through the second
    have hn : 0 ≤ (cols : Rat) * (v * t) := mul_nonneg (Nat.cast_nonneg cols) (mul_pos hpos.2.1 hpos.2.2).le
    have h1 := relerr_mul (cols : Rat) (fl_relerr (v * t))
    rw [mul_comm (v * t), abs_of_nonneg hn] at h1
    exact ⟨rfl, rfl, relerr_trans (a := 2 ^ 53) (b := 2 ^ 53) (by norm_num) (abs_of_nonneg hn).le h1
      (fl_relerr _) (by norm_num), one s rows hpos.1⟩
  | spot sx sy => exact ⟨rfl, rfl, one sx cols hpos.1, one sy rows hpos.2⟩

/-- the bounds a caller computes are near their boundaries: the float product `fl(p · k)` (also what `data_extent`
reports), and anything within one ulp (relative `2⁻⁵²`) of a value that is within `2⁻⁵²` of the exact product -/
theorem caller_bounds_near (p : Rat) (k : Nat) (hp : 0 < p) :
    NearBoundary (fl (p * (k : Rat))) p k ∧
    (∀ b b' : Rat, |b - (k : Rat) * p| ≤ (k : Rat) * p / 2 ^ 52 → |b' - b| ≤ |b| / 2 ^ 52 → NearBoundary b' p k) :=
  ⟨nearBoundary_fl_mul p k hp, fun b b' h1 h2 => (nearBoundary_iff _ _ _).mpr
    (relerr_trans (a := 2 ^ 52) (b := 2 ^ 52) (by norm_num)
      (abs_of_nonneg (mul_nonneg (Nat.cast_nonneg k) hp.le)).le h1 h2 (by norm_num))⟩

/-- Why six decimals and not twelve: a quotient one float64 rounding below the boundary 6848
(`6848 - 2⁻⁴⁰`, well inside `NearBoundary`) is converted to 6848 by `int(round(q, 6))` and to 6847 by `int(round(q, 12))`. -/
theorem round12_fragile :
    toIndex ((6848 : Rat) - 1 / 2 ^ 40) = 6848 ∧ toIndex12 ((6848 : Rat) - 1 / 2 ^ 40) = 6847 ∧
    NearBoundary (((6848 : Rat) - 1 / 2 ^ 40) * (3 / 10)) (3 / 10) 6848 := by
  decide +kernel

/-- **What a laser shows depends on nothing but the last writes**: for EVERY history of the operations create / copy a
configuration object, create a laser, `laser.config = obj` (objects may be shared by several lasers), `obj.attr = v`,
`laser.data = array`, the configuration and shape laser `l` shows after the left fold `Heap.run` are the ones read off
the history backwards (`viewSpec`: newest assignment of each attribute of the object held now, else its constructor
value - for a copy, what the original held at that moment; newest data assignment).  No hypothesis: operations that
name an object or laser that does not exist change nothing on both sides. -/
theorem hist_view_spec (ops : List HOp) (l : Nat) : (Heap.run ops).view l = viewSpec ops.reverse l := by
  obtain ⟨_, _, attr, kind, held, shape⟩ := inv_run ops
  unfold Heap.view viewSpec
  rw [← held l, ← shape l]
  cases hl : (Heap.run ops).lasers[l]? with
  | none => rfl
  | some x =>
    simp only [Option.map_some]
    rw [← kind x.cfg, ← attr x.cfg .spotsize, ← attr x.cfg .speed, ← attr x.cfg .scantime, ← attr x.cfg .spotsizeY]
    cases (Heap.run ops).cfgs[x.cfg]? with
    | none => rfl
    | some o => rfl

/-- hence the extent it reports is `(0, columns × pixel width, 0, rows × pixel height)` of the configuration and shape
that are current then, whatever happened before -/
theorem hist_extent_spec (ops : List HOp) (l : Nat) : (Heap.run ops).extent l = extentHistSpec ops.reverse l := by
  unfold Heap.extent extentHistSpec
  rw [hist_view_spec]
  cases viewSpec ops.reverse l with
  | none => rfl
  | some v =>
    obtain ⟨c, rows, cols⟩ := v
    simp only [Option.map_some]
    congr 1
    exact Cfg.dataExtent_eq_specExtent c rows cols

/-- non-vacuity: one configuration object shared by two lasers, edited through neither; a copy taken before the edit
keeps the old value; the second laser gets new data -/
example :
    let ops := [HOp.newCfg (.ofCfg (.raster 35 140 (1 / 4))), .newLaser 0 5 7, .copyCfg 0, .newLaser 1 5 7, .newLaser 0 2 3,
                .setAttr 0 .scantime (1 / 2), .setData 2 4 9]
    (Heap.run ops).extent 0 = some (extentSpec 70 35 5 7) ∧ (Heap.run ops).extent 1 = some (extentSpec 35 35 5 7) ∧
    (Heap.run ops).extent 2 = some (extentSpec 70 35 4 9) := by
  decide +kernel

/-- For an SRR image the extent divided by the reconstructed pixel size is the shape of the
reconstruction (`Srr.reconCols` columns, `Srr.reconRows` rows; these are the shape of
`Srr.krisskross`, see `Pew.Srr.krisskross_voxel` of C09): integer magnification `M ≥ 1`, positive
speed and scan time, any warm-up, any offsets, any sub-pixel size ≥ 1, stacks whose first two
layers have `l0` and `l1` lines. -/
theorem srr_extent_matches_shape {α : Type} (c : SrrConfig) (M : Nat) (hM : 1 ≤ M)
    (hspeed : 0 < c.speed) (hscan : 0 < c.scantime) (hsize : 1 ≤ c.size)
    (layers : List (Arr2 α)) (d0 d1 : Arr2 α) (h0 : layers[0]? = some d0) (h1 : layers[1]? = some d1) :
    ∃ e, srrLaserExtent c (M : Rat) layers = some e ∧
      (e.x1 - e.x0) / srrPixelWidth c (M : Rat) none
        = (reconCols d1.rows M (subpixelsPerPixel c.size (M : Rat)) c.offs : Nat) ∧
      (e.y1 - e.y0) / srrPixelHeight c (M : Rat) none
        = (reconRows d0.rows M (subpixelsPerPixel c.size (M : Rat)) c.offs : Nat) := by
  have hp : ((subpixelsPerPixel c.size (M : Rat) : Nat) : Rat) ≠ 0 :=
    Nat.cast_ne_zero.mpr (Nat.ne_of_gt (spp_pos c.size M hsize hM))
  have hpx : c.speed * c.scantime / ((subpixelsPerPixel c.size (M : Rat) : Nat) : Rat) ≠ 0 :=
    div_ne_zero (mul_pos hspeed hscan).ne' hp
  -- an extent `(a·w, a·(w + n))` divided by the pixel size `a` is `n`
  have span : ∀ a w n : Rat, a ≠ 0 → (a * (w + n) - a * w) / a = n := fun a w n ha => by
    rw [← mul_sub, add_sub_cancel_left, mul_div_cancel_left₀ _ ha]
  have he : srrLaserExtent c (M : Rat) layers = some (srrDataExtent c (M : Rat)
      ((d0.rows : Rat) * M * (subpixelsPerPixel c.size (M : Rat) : Nat) + (maxList c.offs : Nat))
      ((d1.rows : Rat) * M * (subpixelsPerPixel c.size (M : Rat) : Nat) + (maxList c.offs : Nat)) none) := by
    simp only [srrLaserExtent, srrShape, h0, h1]
  refine ⟨_, he, ?_, ?_⟩
  · simp only [srrDataExtent, srrPixelWidth, reconCols, span _ _ _ hpx]
    push_cast; rfl
  · simp only [srrDataExtent, srrPixelHeight, reconRows, span _ _ _ hpx]
    push_cast; rfl

/-- The same, stated against the reconstruction itself: for every crossed stack and every accepted
configuration (the hypotheses of `Pew.Srr.krisskross_voxel`, plus positive speed and a sub-pixel
size ≥ 1), the reconstruction exists and the extent divided by the reconstructed pixel size is
(columns, rows) of the reconstructed array. -/
theorem srr_extent_matches_reconstruction {α : Type} (z : α) (c : SrrConfig) (M : Nat) (hM : 1 ≤ M)
    (hspeed : 0 < c.speed) (hscan : 0 < c.scantime) (hsize : 1 ≤ c.size) (hoffs : c.offs ≠ [])
    (layers : List (Arr2 α)) (l0 s0 l1 s1 : Nat) (hc : Crossed layers l0 s0 l1 s1)
    (hv : validForData c (M : Rat) layers = some true) :
    ∃ out e, krisskross z c (M : Rat) layers = some out ∧ srrLaserExtent c (M : Rat) layers = some e ∧
      (e.x1 - e.x0) / srrPixelWidth c (M : Rat) none = (out.cols : Nat) ∧
      (e.y1 - e.y0) / srrPixelHeight c (M : Rat) none = (out.rows : Nat) := by
  obtain ⟨d0, d1, h0, h1, r0, _, r1, _⟩ := crossed_heads layers l0 s0 l1 s1 hc
  obtain ⟨e, he, hx, hy⟩ := srr_extent_matches_shape c M hM hspeed hscan hsize layers d0 d1 h0 h1
  exact ⟨_, e, krisskross_crossed z c M hM hscan hoffs layers l0 s0 l1 s1 hc hv, he, by rw [hx, r1], by rw [hy, r0]⟩

end Pew.Extent
