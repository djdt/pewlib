import PewProofs.Export
import PewProofs.ExportVtkBlocks
import PewProofs.ExportVtkHeader
import PewProofs.ExportForeign
import PewProofs.ExportSession

/-! # C16 — property theorems

The statements depend on `PewModel.Export` and on three predicates that stand at the head of their proof files:
`Clean` (what is assumed of the opaque number printer / converter) and `IsDelim` (`,` `;` tab) in `PewProofs.Export`,
`HeadOk` (what is assumed of the byte-order and spacing tokens of the VTK header) in `PewProofs.ExportVtkHeader`.
Three property theorems stand where their lemmas are: `vtk_block_length` in `PewProofs.ExportVtkBlocks`,
`escape_mech_eq_spec` and `escape_inverse` in `PewProofs.ExportVtkHeader`. -/
namespace Pew.Export

section text
variable {α : Type}

/-- **text round trip**: every image with `r ≥ 1` rows of `c ≥ 1` columns — single rows, single
columns and 1×1 included — saved (with any header, also a multi-line one or one containing
delimiter and comment characters) and loaded is the same image: same shape `(r, c)`, same values in
the same order.  Assumes only that the number printer is inverted by the converter and prints at
least one character and no delimiter, comment, newline or space character (`Clean`; for `'%.18g'`
and `float` this is the trusted float64 ↔ decimal round trip), and that the header holds no carriage
return (a `\r` is a line break for the reader but not for the writer: see the `example` with header
`a\r1` below). -/
theorem text_roundtrip (fmt : α → Str) (conv : Str → α) (hc : Clean fmt conv)
    (header : Str) (hh : '\r' ∉ header)
    (img : List (List α)) (c : Nat) (hr : img ≠ []) (hcpos : 0 < c) (hcols : ∀ row ∈ img, row.length = c) :
    loadText conv 2 (saveText fmt header img) = some ([img.length, c], img.flatten) := by
  rw [← loadTextD_none]
  exact saveText_loads fmt conv hc header hh img c hr hcpos hcols none nofun

/-- **the choice of delimiter never matters**, for every text file whatsoever: two files that differ
only in which of `,` `;` tab stands at each delimiter position load to the same result — the same
array, or both raise, and both warn or neither does. -/
theorem delimiter_choice_irrelevant (conv : Str → α) (ndmin : Nat) (f g : Str) (h : normalise f = normalise g) :
    loadText conv ndmin f = loadText conv ndmin g ∧ loadWarns f = loadWarns g := by
  have : loaderLines f = loaderLines g := by
    rw [← loaderLines_normalise f, ← loaderLines_normalise g, h]
  simp [loadText, loadFields, loadWarns, this]

/-- **delimiters agree**: a file whose fields are separated by any mixture of `,`, `;` and tab
loads to the same image as the comma-separated file that `save` writes (namely the image itself) -/
theorem delimiters_agree (fmt : α → Str) (conv : Str → α) (hc : Clean fmt conv)
    (seps : List (List Char)) (img : List (List α)) (c : Nat) (hlen : seps.length = img.length)
    (hs : ∀ ss ∈ seps, ∀ s ∈ ss, IsDelim s)
    (hr : img ≠ []) (hcpos : 0 < c) (hcols : ∀ row ∈ img, row.length = c) :
    loadText conv 2 (saveWith fmt seps img) = loadText conv 2 (saveText fmt [] img)
      ∧ loadText conv 2 (saveWith fmt seps img) = some ([img.length, c], img.flatten) := by
  have h := saveWith_loads fmt conv hc seps img c hlen hs hr hcpos hcols none nofun
  rw [loadTextD_none] at h
  exact ⟨h.trans (text_roundtrip fmt conv hc [] (by simp) img c hr hcpos hcols).symm, h⟩

/-- **files written by other tools**: a file of the class `foreignFile` — every line indented by
spaces, its cells padded with spaces and separated by any of `,` `;` tab, an optional comment at the
end, terminated by `\n`, `\r\n`, a lone `\r` or (last line) nothing, blank and comment-only lines
anywhere — loads to the image formed by the values of the lines that have cells.  Beyond `Clean`
the converter must ignore spaces around a number (`float` does; trusted like `Clean.roundtrip`);
`foreignOk` is the decidable well-formedness of the description (see its definition). -/
theorem foreign_file_loads (fmt : α → Str) (conv : Str → α) (hc : Clean fmt conv)
    (hpad : ∀ x a b, conv (spaces a ++ fmt x ++ spaces b) = x)
    (ls : List (FLine α)) (hok : foreignOk fmt ls = true) (c : Nat)
    (hr : foreignImage ls ≠ []) (hcols : ∀ row ∈ foreignImage ls, row.length = c) :
    loadText conv 2 (foreignFile fmt ls) = some ([(foreignImage ls).length, c], (foreignImage ls).flatten) := by
  rw [← loadTextD_none]
  exact foreign_loads fmt conv hc ls (.of_foreignOk fmt ls hok) none nofun (fun l _ => rowFields_values fmt conv hpad l)
    c hr hcols

/-- **a column stays a column**: with `genfromtxt`'s default `ndmin = 0` (the code before commit 9e652ea) a
column of three values comes back as a row; with `ndmin = 2`, which `load` passes, every two-axis shape
is kept. -/
theorem text_column_wrong : shapeRule 0 [3, 1] = [1, 3] ∧ ∀ r c, shapeRule 2 [r, c] = [r, c] :=
  ⟨by decide, shapeRule_two⟩

/-! non-vacuity: a printer / converter pair satisfying `Clean`, a single-column image, a multi-line header -/

def fmtB (b : Bool) : Str := if b then ['1'] else ['0']
def convB : Str → Bool
  | ['1'] => true
  | _ => false

theorem clean_fmtB : Clean fmtB convB := ⟨by decide, by decide, by decide⟩

example : loadText convB 2 (saveText fmtB "x;#\n1,0".toList [[true], [false], [true]])
    = some ([3, 1], [true, false, true]) :=
  text_roundtrip fmtB convB clean_fmtB _ (by decide_chars) _ 1 (by decide) (by decide) (by decide)

example : saveText fmtB "x;#\n1,0".toList [[true, false]] = "#x;#\n#1,0\n1,0\n".toList := by decide_chars

example : loadText convB 2 (saveWith fmtB [[';', '\t'], [',', ';']] [[true, false, true], [false, false, true]])
    = some ([2, 3], [true, false, true, false, false, true]) :=
  (delimiters_agree fmtB convB clean_fmtB _ _ 3 (by decide) (by simp [IsDelim]) (by decide) (by decide) (by decide)).2

example : loadText convB 2 "1;0\r\n0\t1".toList = loadText convB 2 "1,0\r\n0,1".toList :=
  (delimiter_choice_irrelevant convB 2 _ _ (by decide_chars)).1

/-- a carriage return in the header starts a line the writer did not prefix: the image grows a row -/
example : loadText convB 2 (saveText fmtB "a\r1".toList [[true], [false]]) = some ([3, 1], [true, true, false]) := by
  decide_chars

/-- a converter that ignores spaces, as `foreign_file_loads` asks -/
def convB' : Str → Bool := fun s => convB (s.filter (· ≠ ' '))

theorem clean_fmtB' : Clean fmtB convB' := ⟨by decide, by decide, by decide⟩

theorem pad_fmtB' (x : Bool) (a b : Nat) : convB' (spaces a ++ fmtB x ++ spaces b) = x := by
  have h : ∀ n, (spaces n).filter (· ≠ ' ') = [] := by
    intro n
    simp [spaces]
  unfold convB'
  rw [List.filter_append, List.filter_append, h, h]
  cases x <;> decide

/-- non-vacuity of `foreign_file_loads`: a comment line, a padded row ended by `\r\n`, a blank
line ended by a lone `\r`, a row with a comment and no terminator -/
def linesB : List (FLine Bool) :=
  [ { indent := 0, cells := [], seps := [], comment := some " h;1".toList, eol := .lf },
    { indent := 2, cells := [(0, true, 1), (1, false, 0)], seps := [';'], comment := none, eol := .crlf },
    { indent := 1, cells := [], seps := [], comment := none, eol := .cr },
    { indent := 0, cells := [(0, false, 0), (0, true, 2)], seps := ['\t'], comment := some "x".toList, eol := .eof } ]

example : foreignFile fmtB linesB = "# h;1\n  1 ; 0\r\n \r0\t1  #x".toList := by decide_chars

example : loadText convB' 2 (foreignFile fmtB linesB) = some ([2, 2], [true, false, false, true]) :=
  foreign_file_loads fmtB convB' clean_fmtB' pad_fmtB' linesB (by decide) 2 (by decide) (by decide)

/-! the loader model on files `save` never writes (what `genfromtxt` does with them) -/

/-- empty and unparsable fields are fields (the converter makes them NaN), a trailing delimiter is a column -/
example : loadFields 2 "1,,x\n2;3;\n".toList = some ([2, 3], ["1", "", "x", "2", "3", ""].map String.toList) := by decide_chars

/-- spaces around a line are stripped, those inside stay in the fields; `\r\n` and `\r` end lines;
comments are cut; blank and comment-only lines are skipped; the last line needs no terminator -/
example : loadFields 2 " 1 ; 2 \r\n\n# c\r3\t4 # d\n  \n5,6".toList
    = some ([3, 2], ["1 ", " 2", "3", "4", "5", "6"].map String.toList) := by decide_chars

/-- no line with a field: an empty array of shape (0, 1), with a warning -/
example : loadFields 2 "# only\n\n".toList = some ([0, 1], []) ∧ loadWarns "# only\n\n".toList = true := by decide_chars

/-- a row with another number of fields than the first: `ValueError` -/
example : loadFields 2 "1,2\n3\n".toList = none := by decide_chars

/-! ### `load` with its options, and calls one after another -/

/-- **a named delimiter**: on every text whose only delimiter character (of `,` `;` tab) is `d`,
`load(path, delimiter=d)` returns what the default call returns — the same array, or both raise. -/
theorem explicit_delimiter_agrees (conv : Str → α) (ndmin : Nat) (d : Char) (hd : IsDelim d) (f : Str)
    (h : ∀ c ∈ f, IsDelim c → c = d) :
    loadTextD conv (some d) ndmin f = loadText conv ndmin f := by
  rw [← loadTextD_none, loadTextD, loadFieldsD, loaderRows_some_of_chars d hd f h]
  rfl

/-- **the file `save` writes, read with `delimiter=","`**: the image again (the model's `save` writes commas;
the property itself only speaks of the default call, see `Src.image?`). -/
theorem saved_file_with_comma (fmt : α → Str) (conv : Str → α) (hc : Clean fmt conv)
    (header : Str) (hh : '\r' ∉ header)
    (img : List (List α)) (c : Nat) (hr : img ≠ []) (hcpos : 0 < c) (hcols : ∀ row ∈ img, row.length = c) :
    loadTextD conv (some ',') 2 (saveText fmt header img) = some ([img.length, c], img.flatten) := by
  exact saveText_loads fmt conv hc header hh img c hr hcpos hcols _ fun _ hd => (Option.some.inj hd).symm

/-- **what a file is read as, by its source and the delimiter named**: an image written by `save` (any header
without a carriage return) and read with the default call, and an image another tool wrote with a mixture of
`,` `;` tab read with the default, or with one delimiter throughout read with that delimiter named, load
to that image: shape `(rows, columns)`, every value at its place.
`Src.ok`: the decidable well-formedness of the source (see its definition); `Src.image?`: the cases just listed. -/
theorem source_loads (fmt : α → Str) (conv : Str → α) (hc : Clean fmt conv) (s : Src α) (delim : Option Char)
    (img : List (List α)) (hok : s.ok = true) (hi : s.image? delim = some img) :
    loadTextD conv delim 2 (s.text fmt) = some ([img.length, (img.headD []).length], img.flatten) := by
  cases s with
  | saved h im =>
    obtain ⟨rfl, rfl⟩ := Src.image?_saved hi
    obtain ⟨hcr, him⟩ := Src.ok_saved.mp hok
    obtain ⟨hne, hpos, hcols⟩ := imgOk_spec im him
    exact saveText_loads fmt conv hc h hcr im _ hne hpos hcols none nofun
  | delimited seps im =>
    obtain ⟨rfl, hd⟩ := Src.image?_delimited hi
    obtain ⟨hlen, hs, him, hw⟩ := Src.ok_delimited.mp hok
    obtain ⟨hne, hpos, hcols⟩ := imgOk_spec im him
    exact saveWith_loads fmt conv hc seps im _ hlen hs hne hpos hcols delim fun d hdd =>
      ⟨(hd d hdd).1, fun ss hss => ⟨(hd d hdd).2 ss hss, fun h => absurd h (by rw [hw ss hss]; exact Nat.lt_irrefl _)⟩⟩
  | other t => cases hi

/-- **a session has no memory but its files**: the calls run one after another, the file system handed
from each to the next, return exactly what the specification says — every `load` answered from the last
`put` at its path among the earlier calls and from its own `delimiter` / `name`, from nothing else. -/
theorem session_stateless (fmt : α → Str) (conv : Str → α) (cs : List (Call α)) :
    runSession fmt conv [] cs = sessionSpec fmt conv cs :=
  runSession_eq_specFrom fmt conv [] [] cs fun _ => rfl

/-- **every load of a session, whatever was called before**: after any calls `pre`, a file put at `p`
(saved, or written by another tool), any calls `mid` that put nothing at `p` — loads of this or of other
files with any delimiter and name, saves of other files — a `load(p, delimiter, name)` for which the
property names the image (`source_loads`) returns that image, as a view with field `name` when one is given;
whatever follows (`post`). -/
theorem session_loads (fmt : α → Str) (conv : Str → α) (hc : Clean fmt conv) (pre mid post : List (Call α))
    (p : Nat) (s : Src α) (delim : Option Char) (name : Option Str) (img : List (List α))
    (hmid : ∀ q s', Call.put q s' ∈ mid → q ≠ p) (hok : s.ok = true) (hi : s.image? delim = some img) :
    (runSession fmt conv [] ((pre ++ Call.put p s :: mid) ++ Call.load p delim name :: post))[(pre ++ Call.put p s :: mid).length]?
      = some (.loaded { shape := [img.length, (img.headD []).length], data := img.flatten, field := name }) := by
  have hlast : lastPut p (pre ++ Call.put p s :: mid) = some s := by
    rw [lastPut_append]
    simp [lastPut, lastPut_none p mid hmid]
  rw [session_stateless, sessionSpec, specFrom_get, List.getElem?_append_right (Nat.le_refl _), Nat.sub_self,
    List.take_left' rfl]
  simp only [List.getElem?_cons_zero, Option.map_some, List.nil_append, replyAt, hlast, loadReply,
    source_loads fmt conv hc s delim img hok hi]

/-- non-vacuity: a tab-delimited file read with its delimiter named, then a saved image at another path read by
default as a view with a field name, then the first file read by default -/
example : runSession fmtB convB []
      [ .put 0 (.delimited [['\t']] [[true, false]]), .load 0 (some '\t') none,
        .put 1 (.saved [] [[true, false], [false, true]]), .load 1 none (some ['A']), .load 0 none none ]
    = [ .done, .loaded ⟨[1, 2], [true, false], none⟩, .done, .loaded ⟨[2, 2], [true, false, false, true], some ['A']⟩,
        .loaded ⟨[1, 2], [true, false], none⟩ ] := by decide_chars

example : (runSession fmtB convB []
      (([.load 7 none none] ++ Call.put 1 (.saved "h;1".toList [[true, false], [false, true]]) ::
        [.put 0 (.delimited [['\t']] [[true, false]]), .load 0 (some '\t') none]) ++ Call.load 1 none (some ['A']) :: []))[4]?
    = some (.loaded ⟨[2, 2], [true, false, false, true], some ['A']⟩) :=
  session_loads fmtB convB clean_fmtB [.load 7 none none] [.put 0 (.delimited [['\t']] [[true, false]]), .load 0 (some '\t') none] []
    1 (.saved "h;1".toList [[true, false], [false, true]]) none (some ['A']) [[true, false], [false, true]]
    (by simp) (by decide) (by decide)

/-- a file read with a delimiter it does not use is outside what the property names: one column of unparsable fields -/
example : loadFieldsD (some ';') 2 "1,2\n3,4\n".toList = some ([2, 1], ["1,2", "3,4"].map String.toList) := by decide_chars

example : loadFieldsD (some '\t') 2 " 1\t2 # c\r\n\t\n".toList = some ([2, 2], ["1", "2", "", ""].map String.toList) := by decide_chars

example : loadTextD convB (some ',') 2 (saveText fmtB "x;y".toList [[true, false], [false, true]]) = some ([2, 2], [true, false, false, true]) :=
  saved_file_with_comma fmtB convB clean_fmtB _ (by decide_chars) _ 2 (by decide) (by decide) (by decide)

example : loadTextD convB (some ';') 2 "1;0\n0;1\n".toList = loadText convB 2 "1;0\n0;1\n".toList :=
  explicit_delimiter_agrees convB 2 ';' (Or.inr (Or.inl rfl)) _ (by decide_chars)

end text

section vtk
variable {α : Type}

/-- **VTK decode**: in the block written for an image with `ny` rows, `nx` columns and `nz`
layers (`nz = 1` for a 2-D image), position `x + nx·(y + ny·z)` holds `data[ny − 1 − y][x][z]`:
x runs along the columns, y is counted from the bottom row -/
theorem vtk_decode (v : Vol α) (x y z : Nat) (hx : x < v.n1) (hy : y < v.n0) (hz : z < v.n2) :
    (vtkBlock v)[x + v.n1 * (y + v.n0 * z)]? = some (v.get (v.n0 - 1 - y) x z) := by
  exact ravelF_index (swap01 (flip0 v)) x y z hx hy hz

theorem vtkBlock_eq_spec (v : Vol α) : vtkBlock v = vtkBlockSpec v :=
  ravelF_eq_map (swap01 (flip0 v))

/-- **offsets, sizes and the appended section agree**: the offset declared for element `k` is
`Σ_{j<k} (size_j·8 + 8)`, it is a multiple of 8, the 8-byte word at that offset is the byte count
`size_k·8`, and the `size_k` words after it are the element's values in order -/
theorem vtk_offsets_consistent (blocks : List (List α)) (k : Nat) (hk : k < blocks.length) :
    let o := ((blocks.take k).map (fun b => b.length * 8 + 8)).sum
    (offsetsFrom 0 (blocks.map List.length))[k]? = some o ∧ o % 8 = 0 ∧
    (appended blocks)[o / 8]? = some (Word.len (blocks[k].length * 8)) ∧
    ∀ p (hp : p < blocks[k].length), (appended blocks)[o / 8 + 1 + p]? = some (Word.val (blocks[k][p])) := by
  -- `sum_bytes_eq_eight_mul_words`: the byte offset is 8 × the number of words the blocks before `k` take
  simp only [sum_bytes_eq_eight_mul_words, Nat.mul_mod_right, Nat.mul_div_cancel_left _ (by decide : 0 < 8)]
  refine ⟨?_, trivial, appended_getElem?_len blocks k hk, appended_getElem?_val blocks k hk⟩
  rw [offsetsFrom_get 0 _ k (by simpa using hk), Nat.zero_add, ← List.map_take, List.map_map, ← sum_bytes_eq_eight_mul_words]
  rfl

/-- **the appended section byte by byte**: in the bytes written for the blocks (every word 8 bytes in the
machine's byte order, the order the header declares), a reader finds at byte offset
`o_k = Σ_{j<k} (size_j·8 + 8)` — the offset the header declares for element `k` — the UInt64 `size_k·8`,
the 8 bytes of value `p` of the element at `o_k + 8 + 8·p`, and the section is `Σ_j (size_j·8 + 8)` bytes long.
`enc`: the 8 bytes of a float64 (opaque); block sizes below 2^64 bytes. -/
theorem vtk_bytes_layout (little : Bool) (enc : α → List Nat) (henc : ∀ a, (enc a).length = 8)
    (blocks : List (List α)) (k : Nat) (hk : k < blocks.length) (hsize : blocks[k].length * 8 < 2 ^ 64) :
    let o := ((blocks.take k).map (fun b => b.length * 8 + 8)).sum
    let bytes := bodyBytes little enc (appended blocks)
    readU64 little bytes o = some (blocks[k].length * 8) ∧
    (∀ p (hp : p < blocks[k].length),
      (bytes.drop (o + 8 + 8 * p)).take 8 = wordBytes little enc (Word.val (blocks[k][p]))) ∧
    bytes.length = (blocks.map (fun b => b.length * 8 + 8)).sum := by
  have hw : ∀ w ∈ appended blocks, (wordBytes little enc w).length = 8 := fun w _ => wordBytes_length little enc henc w
  simp only [sum_bytes_eq_eight_mul_words]
  refine ⟨readU64_bodyBytes little enc henc _ _ _ (appended_getElem?_len blocks k hk) hsize, fun p hp => ?_,
    Lists.length_flatMap_const _ 8 _ hw⟩
  rw [← Nat.mul_succ, ← Nat.mul_add]
  exact flatMap_drop_take _ 8 _ hw _ _ (appended_getElem?_val blocks k hk p hp)

/-- **the appended bytes read back**: the reader that takes the declared offset of element `k`, reads the
UInt64 byte count there and then that many bytes in groups of 8 (in the declared byte order) gets the byte
count `size_k·8` and, value for value, the bytes of the element's values -/
theorem vtk_bytes_read_back (little : Bool) (enc : α → List Nat) (henc : ∀ a, (enc a).length = 8)
    (blocks : List (List α)) (k : Nat) (hk : k < blocks.length) (hsize : blocks[k].length * 8 < 2 ^ 64) :
    readBlockBytes little (bodyBytes little enc (appended blocks)) (((blocks.take k).map (fun b => b.length * 8 + 8)).sum)
      = some (blocks[k].length * 8, blocks[k].map enc) := by
  rw [sum_bytes_eq_eight_mul_words]
  exact readBlockBytes_bodyBytes little enc henc _ _ _ (appended_getElem?_len blocks k hk) (appended_block_words blocks k hk) hsize

/-- non-vacuity: two blocks, values encoded as their own 8 bytes, on a big-endian and a little-endian machine -/
example : readBlockBytes false (bodyBytes false le64 (appended [[1, 2, 3], [258, 5]])) 32 = some (16, [le64 258, le64 5]) :=
  vtk_bytes_read_back false le64 le64_length [[1, 2, 3], [258, 5]] 1 (by decide) (by decide)

example : bodyBytes true le64 (appended [[258]]) = [8, 0, 0, 0, 0, 0, 0, 0, 2, 1, 0, 0, 0, 0, 0, 0] := by decide_chars

example : bodyBytes false le64 (appended [[258]]) = [0, 0, 0, 0, 0, 0, 0, 8, 0, 0, 0, 0, 0, 0, 1, 2] := by decide_chars

/-- **the header reads back**: the reader finds, in the header text written for an image of
`ny = n0` rows, `nx = n1` columns and `nz = n2` layers, the file type, version, byte order and
header type, `WholeExtent = Piece Extent = 0 nx 0 ny 0 nz`, the origin `0.0 0.0 0.0`, the three
spacing values, the `Scalars` name, and per element its name (whatever characters it holds: the
escaping is undone), `Float64`, `appended` and the offset `Σ_{j<k} (8·nx·ny·nz + 8)`.
Hypothesis `HeadOk`: the opaque byte-order and spacing tokens hold no quote, ampersand, line break
(nor a space inside one spacing value), and no element name holds a line break. -/
theorem vtk_header_reads_back (endian : Str) (sp : Str × Str × Str) (img : Image α)
    (h : HeadOk endian sp (img.fields.map (·.name))) (file : VtkFile α) (hf : vtkRender endian sp img = some file) :
    vtkParse file.head = some (vtkMetaSpec endian sp img) := by
  rw [(vtkRender_head_body endian sp img file hf).1, vtkParse_headLines endian sp _ _ _ _ _ h, blocks_lengths]
  rfl

/-- **the file decodes to the image**: for the file `vtk.save` writes (header text, appended
words), the reader's view of the header is the image's geometry (`vtk_header_reads_back`), and for
every element `k` the declared offset is a multiple of 8, the word at that offset is the byte
count `8·nx·ny·nz` — the declared extents times 8 — and the word `x + nx·(y + ny·z)` after it is the
element's value at row `ny − 1 − y`, column `x`, layer `z`: x along the columns, y from the bottom row. -/
theorem vtk_file_decodes (endian : Str) (sp : Str × Str × Str) (img : Image α)
    (h : HeadOk endian sp (img.fields.map (·.name))) (file : VtkFile α) (hf : vtkRender endian sp img = some file) :
    ∃ m, vtkParse file.head = some m ∧ m.whole = [0, img.n1, 0, img.n0, 0, img.n2] ∧ m.piece = m.whole ∧
      m.arrays.map (·.name) = img.fields.map (·.name) ∧
      ∀ k (hk : k < img.fields.length), ∃ a, m.arrays[k]? = some a ∧ a.offset % 8 = 0 ∧
        file.body[a.offset / 8]? = some (Word.len (img.n1 * img.n0 * img.n2 * 8)) ∧
        ∀ x y z, x < img.n1 → y < img.n0 → z < img.n2 →
          file.body[a.offset / 8 + 1 + (x + img.n1 * (y + img.n0 * z))]?
            = some (Word.val ((img.fields[k]).get (img.n0 - 1 - y) x z)) := by
  rw [(vtkRender_head_body endian sp img file hf).2]
  refine ⟨_, vtk_header_reads_back endian sp img h file hf, rfl, rfl, vtkMetaSpec_names endian sp img, fun k hk => ?_⟩
  obtain ⟨ho, hmod, hlenw, hvals⟩ := vtk_offsets_consistent (img.fields.map fun f => vtkBlock (img.vol f)) k (by simpa using hk)
  rw [blocks_lengths] at ho
  simp only [List.getElem_map] at hlenw hvals
  rw [vtk_block_length] at hlenw
  refine ⟨_, vtkMetaSpec_array endian sp img k _ hk ho, hmod, hlenw, fun x y z hx hy hz => ?_⟩
  obtain ⟨hp, hv⟩ := List.getElem?_eq_some_iff.mp (vtk_decode (img.vol img.fields[k]) x y z hx hy hz)
  exact (hvals _ hp).trans (congrArg (some ∘ Word.val) hv)

/-- non-vacuity: a 2×3 image with two elements, one of them with a name that needs escaping -/
def imgB : Image Nat :=
  { n0 := 2, n1 := 3, n2 := 1,
    fields := [{ name := "a&\"b\"<".toList, get := fun i j _ => 10 * i + j }, { name := "c".toList, get := fun i j _ => 100 + 10 * i + j }] }

theorem headOk_imgB : HeadOk "LittleEndian".toList ("1".toList, "2.5".toList, "1e-05".toList) (imgB.fields.map (·.name)) :=
  ⟨by decide_chars, by decide_chars, by decide_chars⟩

example : ∃ file, vtkRender "LittleEndian".toList ("1".toList, "2.5".toList, "1e-05".toList) imgB = some file ∧
    vtkParse file.head = some (vtkMetaSpec "LittleEndian".toList ("1".toList, "2.5".toList, "1e-05".toList) imgB) :=
  ⟨_, rfl, vtk_header_reads_back _ _ imgB headOk_imgB _ rfl⟩

example : ∃ file m a, vtkRender "LittleEndian".toList ("1".toList, "2.5".toList, "1e-05".toList) imgB = some file ∧
    vtkParse file.head = some m ∧ m.arrays[1]? = some a ∧ a.offset = 56 ∧
    file.body[a.offset / 8]? = some (Word.len 48) ∧ file.body[a.offset / 8 + 1 + (2 + 3 * (0 + 2 * 0))]? = some (Word.val 112) := by
  obtain ⟨m, hm, _, _, _, hk⟩ := vtk_file_decodes _ _ imgB headOk_imgB _ rfl
  obtain ⟨a, ha, _, hlen, hval⟩ := hk 1 (by decide)
  obtain rfl := Option.some.inj ((vtk_header_reads_back _ _ imgB headOk_imgB _ rfl).symm.trans hm)
  obtain rfl : declared ("c".toList, 56) = a := Option.some.inj ha
  exact ⟨_, _, _, rfl, hm, ha, rfl, hlen, hval 2 0 0 (by decide) (by decide) (by decide)⟩

example : natStr 1207 = "1207".toList := by decide_chars

example : arrayLine "a&\"b\"<".toList 56
    = "<DataArray Name=\"a&amp;&quot;b&quot;&lt;\" type=\"Float64\" format=\"appended\" offset=\"56\"/>".toList := by
  rw [arrayLine]; decide_chars

end vtk

example : escapeMech "a<b&amp;'".toList = "a&lt;b&amp;amp;&apos;".toList := by decide_chars

end Pew.Export
