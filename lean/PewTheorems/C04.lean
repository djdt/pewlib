import PewProofs.CsvDir
import PewProofs.CsvDirPost
import PewProofs.CsvTime
import PewProofs.CsvDirNames
import PewProofs.CsvDirHist

/-! # C04 — property theorems (the statements mention `PewModel.CsvDir` and three definitions of the proofs: `Covers`
(PewProofs/CsvDir), `nameForm` and `strLe` (PewProofs/CsvDirNames))

The statements about a single mechanism that later proofs build on stand where they are proved: `timegm_strictly_monotone`,
`strptimeOk_of_valid` in `PewProofs.CsvTime`; `nu_key_is_index`, `ldr_key_is_sample_index`, `tupleKey_order` in
`PewProofs.CsvDirNames`; `rect_of_tables`, `post_eq_spec` in `PewProofs.CsvDirPost`; `history_held_option_unchanged` in
`PewProofs.CsvDirHist`. -/
namespace Pew.CsvDir

variable {α P : Type}

/-- **Schedule independence.** Whatever the order in which the parallel readers finish, the import
returns the same image and parameters. -/
theorem load_schedule_independent (isNan : α → Bool) (rp : Vendor → Image α → P) (v : Vendor)
    (tkey : List Nat → Int) (listing : List (Entry α)) (π₁ π₂ : List Nat)
    (h₁ : Covers (accepted v listing).length π₁) (h₂ : Covers (accepted v listing).length π₂) :
    load isNan rp v tkey listing π₁ = load isNan rp v tkey listing π₂ := by
  rw [load_eq_ite, load_eq_ite, readLines_eq v tkey listing π₁ h₁, readLines_eq v tkey listing π₂ h₂]

example : Covers 3 [2, 0, 1] := by decide

/-- **Listing independence.** Any two listings of the same directory whose accepted files have
pairwise distinct sort keys import identically (same completion order on both sides). -/
theorem load_listing_independent (isNan : α → Bool) (rp : Vendor → Image α → P) (v : Vendor)
    (tkey : List Nat → Int) (σ listing : List (Entry α)) (π : List Nat) (hp : σ.Perm listing)
    (hinj : ∀ a ∈ accepted v listing, ∀ b ∈ accepted v listing,
      sortKey v tkey a.name = sortKey v tkey b.name → a = b) :
    load isNan rp v tkey σ π = load isNan rp v tkey listing π :=
  have hacc := accepted_perm v hp
  load_congr isNan rp v tkey π <|
    sortBy_perm_invariant _ _ _ hacc fun a ha b hb => hinj a (hacc.mem_iff.mp ha) b (hacc.mem_iff.mp hb)

/-- **Hidden files, non-files and files not matching the vendor pattern never contribute.** -/
theorem filter_spec (v : Vendor) (listing : List (Entry α)) (e : Entry α) :
    e ∈ accepted v listing ↔
      e ∈ listing ∧ e.isFile = true ∧ hidden e.name = false ∧ matchesV v e.name = true := by
  simp only [accepted, visible, List.mem_filter, Bool.and_eq_true, Bool.not_eq_eq_eq_not, Bool.not_true]
  constructor
  · rintro ⟨⟨h1, h2, h3⟩, h4⟩; exact ⟨h1, h2, h3, h4⟩
  · rintro ⟨h1, h2, h3, h4⟩; exact ⟨⟨h1, h2, h3⟩, h4⟩

/-- … the import of a directory is the import of its accepted files alone -/
theorem load_ignores_rejected (isNan : α → Bool) (rp : Vendor → Image α → P) (v : Vendor)
    (tkey : List Nat → Int) (listing : List (Entry α)) (π : List Nat) :
    load isNan rp v tkey listing π = load isNan rp v tkey (accepted v listing) π :=
  load_congr isNan rp v tkey π (by rw [submitted, submitted, accepted_accepted])

/-- a TOFWERK directory with a stamp `time.strptime` rejects is not imported at all: `ValueError` -/
theorem load_raises_on_bad_stamp (isNan : α → Bool) (rp : Vendor → Image α → P) (tkey : List Nat → Int)
    (listing : List (Entry α)) (π : List Nat) (e : Entry α) (he : e ∈ accepted .tofwerk listing)
    (hbad : strptimeOk (stampFields e.name.toList) = false) :
    load isNan rp .tofwerk tkey listing π = none := by
  have : keysDefined .tofwerk ((accepted .tofwerk listing).map (·.name)) = false := by
    simp only [keysDefined, List.all_map]
    exact List.all_eq_false.mpr ⟨e, he, by simp [hbad]⟩
  simp [load_eq_ite, this]

/-- **The import is the specification**: with pairwise distinct acquisition keys, a sort key that
is defined on (TOFWERK: `time.strptime` accepts the stamp of) every accepted file and orders the
accepted files like the acquisition key, every reader completing, and tables as `np.genfromtxt`
returns them (one cell per field in every row, one header), the mechanism (listing → filter →
stable sort → submit → complete in order π → gather → cut → stack → mask-and-delete) returns
exactly the pointwise specification: cell `(k, j, i)` is the cell at the `j`-th surviving sample
position and the `i`-th surviving field of the accepted file with `k` files of smaller acquisition
key, and the parameters are read from the image that still has its helper columns. -/
theorem load_eq_spec (isNan : α → Bool) (rp : Vendor → Image α → P) (v : Vendor)
    (tkey : List Nat → Int) (listing : List (Entry α)) (π : List Nat)
    (hπ : Covers (accepted v listing).length π)
    (hd : (accepted v listing).Pairwise (fun a b => acqKey v a.name ≠ acqKey v b.name))
    (hdef : keysDefined v ((accepted v listing).map (·.name)) = true)
    (hkey : ∀ a ∈ accepted v listing, ∀ b ∈ accepted v listing,
      keyLe (sortKey v tkey a.name) (sortKey v tkey b.name) = keyLe (acqKey v a.name) (acqKey v b.name))
    (hwf : ∀ e ∈ accepted v listing, ∀ row ∈ e.line.rows, row.length = e.line.names.length)
    (hhdr : ∀ a ∈ accepted v listing, ∀ b ∈ accepted v listing, a.line.names = b.line.names) :
    load isNan rp v tkey listing π = specLoad isNan rp v listing := by
  rw [load_eq_ite, specLoad_eq_ite, readLines_eq v tkey listing π hπ, submitted_eq_byRank v tkey listing hd hkey,
    post_eq_spec isNan rp v _ (rect_byRank _ _ hd hwf hhdr), hdef, List.isEmpty_map,
    (byRank_perm (fun e : Entry α => acqKey v e.name) _ hd).isEmpty_eq]
  cases (accepted v listing).isEmpty <;> rfl

/-- **Row k is the k-th line in acquisition order.**  For an accepted file `e` with `k` accepted
files of smaller acquisition key, line `k` of the stack is `e`'s table cut to the shortest accepted
line, and the stack has exactly one line per accepted file. -/
theorem load_row_k (v : Vendor) (tkey : List Nat → Int) (listing : List (Entry α)) (π : List Nat)
    (hπ : Covers (accepted v listing).length π)
    (hd : (accepted v listing).Pairwise (fun a b => acqKey v a.name ≠ acqKey v b.name))
    (hkey : ∀ a ∈ accepted v listing, ∀ b ∈ accepted v listing,
      keyLe (sortKey v tkey a.name) (sortKey v tkey b.name) = keyLe (acqKey v a.name) (acqKey v b.name))
    (e : Entry α) (he : e ∈ accepted v listing) :
    ∃ L : Nat,
      (∀ a ∈ accepted v listing, L ≤ a.line.rows.length) ∧
      (∃ a ∈ accepted v listing, L = a.line.rows.length) ∧
      (stack (readLines v tkey listing π)).lines.length = (accepted v listing).length ∧
      (stack (readLines v tkey listing π)).lines[rank (fun x => acqKey v x.name) (accepted v listing) e]?
        = some (e.line.rows.take L) := by
  have hperm := submitted_perm v tkey listing
  have hmem : ∀ a ∈ accepted v listing, a.line ∈ (submitted v tkey listing).map (·.line) :=
    fun a ha => List.mem_map_of_mem (hperm.mem_iff.mpr ha)
  rw [readLines_eq v tkey listing π hπ]
  refine ⟨minLen ((submitted v tkey listing).map (·.line)), fun a ha => minLen_le _ _ (hmem a ha), ?_, ?_, ?_⟩
  · obtain ⟨l, hl, hL⟩ := minLen_mem _ (List.ne_nil_of_mem (hmem e he))
    obtain ⟨a, ha, rfl⟩ := List.mem_map.mp hl
    exact ⟨a, hperm.mem_iff.mp ha, hL⟩
  · simp [stack, hperm.length_eq]
  · simp only [stack, List.getElem?_map]
    rw [submitted_eq_byRank v tkey listing hd hkey,
      byRank_getElem?_rank (fun e : Entry α => acqKey v e.name) _ hd e he]
    rfl

/-! ## the code's key order IS the acquisition order, layout by layout (no `hkey` hypothesis) -/

/-- **LDR: the order.**  Two accepted files of one sample (names equal up to letter case) are ordered
by their integer line index, whatever the padding; files of different samples are grouped by the
lower-cased sample name in Python's string order. -/
theorem ldr_order (tkey : List Nat → Int) (a b : String) (p d q e : List Char)
    (ha : ldrParts a.toList = some (p, d)) (hb : ldrParts b.toList = some (q, e)) :
    keyLe (sortKey .ldr tkey a) (sortKey .ldr tkey b)
      = if lower p = lower q then decide (digitsNat d ≤ digitsNat e) else strLe (lower p) (lower q) := by
  simp only [sortKey, ldrKey, ha, hb]
  rw [tupleKey_order]
  simp only [Int.ofNat_le]

/-- **Nu / LDR digit key, same index width**: the code's key is the number formed by *all* digits of
the stem, `int(p ++ d)` for the digits `p` contributed by a common prefix and the index digits `d`;
for indices of equal width it orders like the index. -/
theorem numkey_same_width (p d₁ d₂ : List Char) (h : d₁.length = d₂.length) :
    (digitsNat (p ++ d₁) ≤ digitsNat (p ++ d₂)) ↔ (digitsNat d₁ ≤ digitsNat d₂) :=
  numKey_same_width p d₁ d₂ h

/-- **… and 9 sorts before 10 before 100**: a longer index without a leading zero has the larger key
and is the larger index, whatever digits the common prefix contributes. -/
theorem numkey_longer_index (p d₁ : List Char) (c : Char) (t : List Char) (hd₁ : ∀ x ∈ d₁, isDigit x = true)
    (hc : 1 ≤ digitVal c) (hlen : d₁.length < (c :: t).length) :
    digitsNat (p ++ d₁) < digitsNat (p ++ c :: t) ∧ digitsNat d₁ < digitsNat (c :: t) := by
  have h1 := digitsNat_lt d₁ hd₁
  have h2 : 10 ^ t.length ≤ digitsNat (c :: t) := by
    have := Nat.mul_le_mul_right (10 ^ t.length) hc
    rw [digitsNat_cons]
    omega
  have hpow : 10 ^ d₁.length ≤ 10 ^ t.length := Nat.pow_le_pow_right (by omega) (by simp at hlen; omega)
  rw [digitsNat_append, digitsNat_append]
  have hpow2 : 10 ^ d₁.length ≤ 10 ^ (c :: t).length := Nat.pow_le_pow_right (by omega) (by omega)
  have := Nat.mul_le_mul_left (digitsNat p) hpow2
  omega

/-- **TOFWERK.** On stamps that are a valid date and time of day the seconds-since-epoch key of the
code compares exactly like the six stamp fields (year, month, day, hour, minute, second) -/
theorem timegm_order (f g : List Nat) (hf : validStampB f = true) (hg : validStampB g = true) :
    keyLe [timegm f] [timegm g]
      = keyLe (f.map (fun (n : Nat) => (n : Int))) (g.map (fun (n : Nat) => (n : Int))) :=
  stampKey_order timegm f g (timegm_strictly_monotone f g hf hg) (timegm_strictly_monotone g f hg hf)

/-- the instance `tkey = timegm`, on file names -/
theorem tofwerk_key_order (a b : String) (ha : validStampB (stampFields a.toList) = true)
    (hb : validStampB (stampFields b.toList) = true) :
    keyLe (sortKey .tofwerk timegm a) (sortKey .tofwerk timegm b)
      = keyLe (acqKey .tofwerk a) (acqKey .tofwerk b) :=
  timegm_order _ _ ha hb

/-- **TOFWERK: any strictly monotone stamp → number conversion sorts by the stamp.**  The stamp is
read from the file name alone, so nothing else (the time zone in particular) can influence the
order as long as the conversion is strictly monotone in the lexicographic order of
(year, month, day, hour, minute, second). -/
theorem tofwerk_key_monotone_sufficient (tkey : List Nat → Int) (l : List (Entry α))
    (hmono : ∀ a ∈ l, ∀ b ∈ l,
      keyLt (acqKey .tofwerk a.name) (acqKey .tofwerk b.name) = true →
        tkey (stampFields a.name.toList) < tkey (stampFields b.name.toList)) :
    sortBy (fun e => sortKey .tofwerk tkey e.name) l = sortBy (fun e => acqKey .tofwerk e.name) l := by
  apply sortBy_congr
  intro a ha b hb
  exact stampKey_order tkey _ _ (hmono a ha b hb) (hmono b hb a ha)

/-- hence TOFWERK files with valid stamps are sorted by their stamp -/
theorem tofwerk_sorted_by_stamp (l : List (Entry α))
    (hv : ∀ e ∈ l, validStampB (stampFields e.name.toList) = true) :
    sortBy (fun e => sortKey .tofwerk timegm e.name) l = sortBy (fun e => acqKey .tofwerk e.name) l := by
  apply tofwerk_key_monotone_sufficient
  intro a ha b hb h
  exact timegm_strictly_monotone _ _ (hv a ha) (hv b hb) h

/-- the generic layout is sorted by the plain file name -/
theorem generic_key_is_name (tkey : List Nat → Int) (name : String) :
    sortKey .generic tkey name = acqKey .generic name := rfl

/-- **For every layout: the code's key orders the accepted files of a directory in the vendor's name
form exactly as the acquisition key does** - the hypothesis `hkey` of `load_eq_spec` / `load_row_k`,
discharged. -/
theorem key_order_is_acquisition_order (v : Vendor) (a b : String)
    (ma : matchesV v a = true) (mb : matchesV v b = true) (fa : nameForm v a = true) (fb : nameForm v b = true) :
    keyLe (sortKey v timegm a) (sortKey v timegm b) = keyLe (acqKey v a) (acqKey v b) := by
  cases v with
  | nu => rw [nu_key_is_index timegm a fa, nu_key_is_index timegm b fb]
  | ldr => rw [ldr_key_is_sample_index timegm a ma, ldr_key_is_sample_index timegm b mb]
  | tofwerk => exact tofwerk_key_order a b fa fb
  | generic => rfl

/-- **End to end, every layout.**  A directory whose accepted names have the vendor's name form and
pairwise distinct acquisition keys, tables as `np.genfromtxt` returns them, every reader completing:
the import is the pointwise specification, whatever the listing order and the completion order. -/
theorem load_eq_spec_vendor (isNan : α → Bool) (rp : Vendor → Image α → P) (v : Vendor)
    (listing : List (Entry α)) (π : List Nat)
    (hπ : Covers (accepted v listing).length π)
    (hd : (accepted v listing).Pairwise (fun a b => acqKey v a.name ≠ acqKey v b.name))
    (hform : ∀ e ∈ accepted v listing, nameForm v e.name = true)
    (hwf : ∀ e ∈ accepted v listing, ∀ row ∈ e.line.rows, row.length = e.line.names.length)
    (hhdr : ∀ a ∈ accepted v listing, ∀ b ∈ accepted v listing, a.line.names = b.line.names) :
    load isNan rp v timegm listing π = specLoad isNan rp v listing := by
  have hm : ∀ e ∈ accepted v listing, matchesV v e.name = true := fun e he => ((filter_spec v listing e).mp he).2.2.2
  apply load_eq_spec isNan rp v timegm listing π hπ hd _ _ hwf hhdr
  · cases v with
    | tofwerk => exact keysDefined_of_validStamps _ hform
    | _ => rfl
  · intro a ha b hb
    exact key_order_is_acquisition_order v a.name b.name (hm a ha) (hm b hb) (hform a ha) (hform b hb)

/-- Nu: names `line_<digits>.csv` with distinct line indices -/
theorem load_eq_spec_nu (isNan : α → Bool) (rp : Vendor → Image α → P) (listing : List (Entry α)) (π : List Nat)
    (hπ : Covers (accepted .nu listing).length π)
    (hd : (accepted .nu listing).Pairwise (fun a b => acqKey .nu a.name ≠ acqKey .nu b.name))
    (hform : ∀ e ∈ accepted .nu listing, nuFull e.name.toList = true)
    (hwf : ∀ e ∈ accepted .nu listing, ∀ row ∈ e.line.rows, row.length = e.line.names.length)
    (hhdr : ∀ a ∈ accepted .nu listing, ∀ b ∈ accepted .nu listing, a.line.names = b.line.names) :
    load isNan rp .nu timegm listing π = specLoad isNan rp .nu listing :=
  load_eq_spec_vendor isNan rp .nu listing π hπ hd hform hwf hhdr

/-- LDR: every accepted directory with distinct (sample, index) pairs - no condition on the names -/
theorem load_eq_spec_ldr (isNan : α → Bool) (rp : Vendor → Image α → P) (listing : List (Entry α)) (π : List Nat)
    (hπ : Covers (accepted .ldr listing).length π)
    (hd : (accepted .ldr listing).Pairwise (fun a b => acqKey .ldr a.name ≠ acqKey .ldr b.name))
    (hwf : ∀ e ∈ accepted .ldr listing, ∀ row ∈ e.line.rows, row.length = e.line.names.length)
    (hhdr : ∀ a ∈ accepted .ldr listing, ∀ b ∈ accepted .ldr listing, a.line.names = b.line.names) :
    load isNan rp .ldr timegm listing π = specLoad isNan rp .ldr listing :=
  load_eq_spec_vendor isNan rp .ldr listing π hπ hd (fun _ _ => rfl) hwf hhdr

/-- TOFWERK: valid, pairwise distinct stamps; no time zone anywhere in the statement -/
theorem load_eq_spec_tofwerk (isNan : α → Bool) (rp : Vendor → Image α → P) (listing : List (Entry α)) (π : List Nat)
    (hπ : Covers (accepted .tofwerk listing).length π)
    (hd : (accepted .tofwerk listing).Pairwise (fun a b => acqKey .tofwerk a.name ≠ acqKey .tofwerk b.name))
    (hstamp : ∀ e ∈ accepted .tofwerk listing, validStampB (stampFields e.name.toList) = true)
    (hwf : ∀ e ∈ accepted .tofwerk listing, ∀ row ∈ e.line.rows, row.length = e.line.names.length)
    (hhdr : ∀ a ∈ accepted .tofwerk listing, ∀ b ∈ accepted .tofwerk listing, a.line.names = b.line.names) :
    load isNan rp .tofwerk timegm listing π = specLoad isNan rp .tofwerk listing :=
  load_eq_spec_vendor isNan rp .tofwerk listing π hπ hd hstamp hwf hhdr

/-- generic: plain file-name order; names are distinct anyway -/
theorem load_eq_spec_generic (isNan : α → Bool) (rp : Vendor → Image α → P) (listing : List (Entry α)) (π : List Nat)
    (hπ : Covers (accepted .generic listing).length π)
    (hd : (accepted .generic listing).Pairwise (fun a b => acqKey .generic a.name ≠ acqKey .generic b.name))
    (hwf : ∀ e ∈ accepted .generic listing, ∀ row ∈ e.line.rows, row.length = e.line.names.length)
    (hhdr : ∀ a ∈ accepted .generic listing, ∀ b ∈ accepted .generic listing, a.line.names = b.line.names) :
    load isNan rp .generic timegm listing π = specLoad isNan rp .generic listing :=
  load_eq_spec_vendor isNan rp .generic listing π hπ hd (fun _ _ => rfl) hwf hhdr

/-! ## TOFWERK: any conversion that is increasing in the stamp -/

/-- **TOFWERK, any conversion of the stamp.**  The key the code computes is `tkey` of the six numbers read
from the FILE NAME - a function of the stamp text and of nothing else, whatever the conversion.  If `tkey`
is strictly increasing in the stamp on valid stamps, it compares exactly like the stamp fields … -/
theorem monotone_key_order (tkey : List Nat → Int)
    (hmono : ∀ f g, validStampB f = true → validStampB g = true →
      keyLt (f.map (fun (n : Nat) => (n : Int))) (g.map (fun (n : Nat) => (n : Int))) = true → tkey f < tkey g)
    (f g : List Nat) (hf : validStampB f = true) (hg : validStampB g = true) :
    keyLe [tkey f] [tkey g]
      = keyLe (f.map (fun (n : Nat) => (n : Int))) (g.map (fun (n : Nat) => (n : Int))) :=
  stampKey_order tkey f g (hmono f g hf hg) (hmono g f hg hf)

/-- **… and the TOFWERK import is the specification for EVERY such conversion** (`calendar.timegm`, a naive
`datetime`, seconds since any epoch, the zero-padded stamp read as a number): the result cannot depend on
anything the conversion does not - the time zone of the importing machine enters only through a
conversion that consults it, and then only if that conversion is not increasing in the stamp (as
`time.mktime` is not, across a DST transition: the defect repaired by 61edfa9). -/
theorem load_eq_spec_tofwerk_monotone_key (isNan : α → Bool) (rp : Vendor → Image α → P) (tkey : List Nat → Int)
    (hmono : ∀ f g, validStampB f = true → validStampB g = true →
      keyLt (f.map (fun (n : Nat) => (n : Int))) (g.map (fun (n : Nat) => (n : Int))) = true → tkey f < tkey g)
    (listing : List (Entry α)) (π : List Nat)
    (hπ : Covers (accepted .tofwerk listing).length π)
    (hd : (accepted .tofwerk listing).Pairwise (fun a b => acqKey .tofwerk a.name ≠ acqKey .tofwerk b.name))
    (hstamp : ∀ e ∈ accepted .tofwerk listing, validStampB (stampFields e.name.toList) = true)
    (hwf : ∀ e ∈ accepted .tofwerk listing, ∀ row ∈ e.line.rows, row.length = e.line.names.length)
    (hhdr : ∀ a ∈ accepted .tofwerk listing, ∀ b ∈ accepted .tofwerk listing, a.line.names = b.line.names) :
    load isNan rp .tofwerk tkey listing π = specLoad isNan rp .tofwerk listing :=
  load_eq_spec isNan rp .tofwerk tkey listing π hπ hd (keysDefined_of_validStamps _ hstamp)
    (fun a ha b hb => monotone_key_order tkey hmono _ _ (hstamp a ha) (hstamp b hb)) hwf hhdr

/-- two conversions that are both increasing in the stamp import every such directory identically: the
import of the TOFWERK layout is independent of HOW the stamp is turned into a number -/
theorem tofwerk_import_independent_of_conversion (isNan : α → Bool) (rp : Vendor → Image α → P)
    (tkey₁ tkey₂ : List Nat → Int)
    (h₁ : ∀ f g, validStampB f = true → validStampB g = true →
      keyLt (f.map (fun (n : Nat) => (n : Int))) (g.map (fun (n : Nat) => (n : Int))) = true → tkey₁ f < tkey₁ g)
    (h₂ : ∀ f g, validStampB f = true → validStampB g = true →
      keyLt (f.map (fun (n : Nat) => (n : Int))) (g.map (fun (n : Nat) => (n : Int))) = true → tkey₂ f < tkey₂ g)
    (listing : List (Entry α)) (π₁ π₂ : List Nat)
    (hπ₁ : Covers (accepted .tofwerk listing).length π₁) (hπ₂ : Covers (accepted .tofwerk listing).length π₂)
    (hd : (accepted .tofwerk listing).Pairwise (fun a b => acqKey .tofwerk a.name ≠ acqKey .tofwerk b.name))
    (hstamp : ∀ e ∈ accepted .tofwerk listing, validStampB (stampFields e.name.toList) = true)
    (hwf : ∀ e ∈ accepted .tofwerk listing, ∀ row ∈ e.line.rows, row.length = e.line.names.length)
    (hhdr : ∀ a ∈ accepted .tofwerk listing, ∀ b ∈ accepted .tofwerk listing, a.line.names = b.line.names) :
    load isNan rp .tofwerk tkey₁ listing π₁ = load isNan rp .tofwerk tkey₂ listing π₂ := by
  rw [load_eq_spec_tofwerk_monotone_key isNan rp tkey₁ h₁ listing π₁ hπ₁ hd hstamp hwf hhdr,
    load_eq_spec_tofwerk_monotone_key isNan rp tkey₂ h₂ listing π₂ hπ₂ hd hstamp hwf hhdr]

/-- `timegm` is such a conversion -/
example : ∀ f g, validStampB f = true → validStampB g = true →
    keyLt (f.map (fun (n : Nat) => (n : Int))) (g.map (fun (n : Nat) => (n : Int))) = true → timegm f < timegm g :=
  fun f g hf hg h => timegm_strictly_monotone f g hf hg h

/-! ## the steps of `post`, each by itself on any image (all of them on a stack, against the specification: `post_eq_spec`) -/

/-- `drop_fields` keeps exactly the fields whose name is not listed, in header order, and every
sample keeps exactly the cells of those fields -/
theorem dropFields_spec (drop : List String) (img : Image α) :
    (dropFields drop img).names = img.names.filter (fun n => !drop.contains n) ∧
    (dropFields drop img).lines = img.lines.map (fun l => l.map (fun row =>
      ((row.zip img.names).filter (fun p => !drop.contains p.2)).map (·.1))) :=
  ⟨dropMasked_map_self _ _,
    List.map_congr_left fun _ _ => List.map_congr_left fun row _ => dropMasked_map _ row img.names⟩

/-- LDR: exactly the sample positions that are NaN in every field of every line are removed, the
others keep their order -/
theorem dropNanRows_spec (isNan : α → Bool) (img : Image α)
    (hlen : ∀ l ∈ img.lines, l.length ≤ imgLength img) :
    (dropNanRows isNan img).names = img.names ∧
    (dropNanRows isNan img).lines = img.lines.map (fun l =>
      ((l.zipIdx).filter (fun x => !nanPos isNan img x.2)).map (·.1)) :=
  ⟨rfl, List.map_congr_left fun l hl => dropMasked_range _ l _ (hlen l hl)⟩

/-- the laser parameters are read from the image that still has its helper columns, and the
helper columns are removed from the returned image only -/
theorem params_before_drop (isNan : α → Bool) (rp : Vendor → Image α → P) (v : Vendor) (img : Image α)
    (hv : dropsNan v = false) :
    post isNan rp v img = (dropFields (dropNames v) img, rp v img) := by
  simp [post, hv]

/-- LDR: exactly the fields that are NaN at every sample position of every line are removed, the
others keep their order; every sample keeps exactly the cells of those fields -/
theorem dropNanCols_spec (isNan : α → Bool) (img : Image α)
    (hw : ∀ l ∈ img.lines, ∀ row ∈ l, row.length ≤ img.names.length) :
    (dropNanCols isNan img).names
        = ((img.names.zipIdx).filter (fun x => !nanCol isNan img x.2)).map (·.1) ∧
    (dropNanCols isNan img).lines = img.lines.map (fun l => l.map (fun row =>
      ((row.zipIdx).filter (fun x => !nanCol isNan img x.2)).map (·.1))) :=
  ⟨dropMasked_range _ _ _ (Nat.le_refl _),
    List.map_congr_left fun l hl => List.map_congr_left fun row hrow => dropMasked_range _ row _ (hw l hl row hrow)⟩

/-- … where "NaN everywhere" is meant cell by cell -/
theorem nanCol_iff (isNan : α → Bool) (img : Image α) (c : Nat) :
    nanCol isNan img c = true ↔ ∀ l ∈ img.lines, ∀ row ∈ l, ∀ x, row[c]? = some x → isNan x = true := by
  simp only [nanCol, List.all_eq_true]
  refine forall_congr' fun l => forall_congr' fun _ => forall_congr' fun row => forall_congr' fun _ => ?_
  cases row[c]? <;> simp

/-! ## the pointwise specification: what `specImage` says (that the mechanism computes it: `post_eq_spec`) -/

/-- **Every line is cut to the shortest one**: the common length is a lower bound of the line
lengths and is attained -/
theorem cutLen_spec (lines : List (Line α)) (hne : lines ≠ []) :
    (∀ l ∈ lines, cutLen lines ≤ l.rows.length) ∧ ∃ l ∈ lines, cutLen lines = l.rows.length := by
  rw [cutLen_eq_minLen]
  exact ⟨fun l hl => minLen_le lines l hl, minLen_mem lines hne⟩

/-- sample position `j` is dropped (LDR) iff every cell of every line at `j` is NaN -/
theorem specNanPos_iff (isNan : α → Bool) (lines : List (Line α)) (j : Nat) :
    specNanPos isNan lines j = true ↔
      ∀ l ∈ lines, ∀ row, l.rows[j]? = some row → ∀ x ∈ row, isNan x = true := by
  simp only [specNanPos, List.all_eq_true]
  refine forall_congr' fun l => forall_congr' fun _ => ?_
  cases l.rows[j]? <;> simp

/-- field `c` is dropped (LDR) iff its cell is NaN at every sample position below the common length
of every line -/
theorem specNanCol_iff (isNan : α → Bool) (lines : List (Line α)) (L c : Nat) :
    specNanCol isNan lines L c = true ↔
      ∀ l ∈ lines, ∀ j, j < L → ∀ row, l.rows[j]? = some row → ∀ x, row[c]? = some x → isNan x = true := by
  simp only [specNanCol, List.all_eq_true, List.mem_range]
  refine forall_congr' fun l => forall_congr' fun _ => forall_congr' fun j => forall_congr' fun _ => ?_
  cases l.rows[j]? with
  | none => simp
  | some row => cases h : row[c]? <;> simp [h]

/-- **the surviving sample positions**, increasing: `j` survives iff it lies below the common length and is
not (LDR) NaN everywhere -/
theorem specPos_spec (isNan : α → Bool) (dropNan : Bool) (lines : List (Line α)) :
    (specPos isNan dropNan lines).Pairwise (· < ·) ∧
    ∀ j, j ∈ specPos isNan dropNan lines ↔
      j < cutLen lines ∧ ¬ (dropNan = true ∧ specNanPos isNan lines j = true) := by
  refine ⟨List.Pairwise.filter _ List.pairwise_lt_range, fun j => ?_⟩
  cases dropNan <;> simp [specPos]

/-- **the surviving fields**, in header order: field `c` survives iff its name is wanted (not a helper
column) and it is not (LDR) NaN everywhere -/
theorem specCols_spec (isNan : α → Bool) (dropNan : Bool) (keep : String → Bool) (hdr : List String)
    (lines : List (Line α)) :
    (specCols isNan dropNan keep hdr lines).Pairwise (· < ·) ∧
    ∀ c, c ∈ specCols isNan dropNan keep hdr lines ↔
      (∃ n, hdr[c]? = some n ∧ keep n = true) ∧
        ¬ (dropNan = true ∧ specNanCol isNan lines (cutLen lines) c = true) := by
  refine ⟨List.Pairwise.filter _ List.pairwise_lt_range, fun c => ?_⟩
  simp only [specCols, List.mem_filter, List.mem_range, Bool.and_eq_true, Option.any_eq_true]
  constructor
  · rintro ⟨_, h, hn⟩
    exact ⟨h, by cases dropNan <;> simpa using hn⟩
  · rintro ⟨⟨n, hn, hk⟩, h⟩
    exact ⟨(List.getElem?_eq_some_iff.mp hn).1, ⟨n, hn, hk⟩, by cases dropNan <;> simpa using h⟩

/-- **cell (k, j, i) of the specified image** is the cell of line `k` at the `j`-th surviving sample
position and the `i`-th surviving field; there is nothing else in the image -/
theorem specImage_cell (isNan : α → Bool) (dropNan : Bool) (keep : String → Bool) (lines : List (Line α))
    (hr : Rect lines) (k j i : Nat) :
    (((specImage isNan dropNan keep lines).lines[k]?).bind (fun l => l[j]?)).bind (fun row => row[i]?)
      = (lines[k]?).bind (fun l =>
          ((specPos isNan dropNan lines)[j]?).bind (fun j' =>
            (l.rows[j']?).bind (fun row =>
              ((specCols isNan dropNan keep (hdrOf lines) lines)[i]?).bind (fun c => row[c]?)))) := by
  rw [specImage_eq_select]
  exact select_cell _ _ _ _ (fun l hl j' hj' => specPos_mem_lt hj' hl) (fun _ => specCols_mem_lt) hr k j i

/-- the field names of the specified image: the names of the surviving fields, in header order -/
theorem specImage_names (isNan : α → Bool) (dropNan : Bool) (keep : String → Bool) (lines : List (Line α))
    (i : Nat) :
    (specImage isNan dropNan keep lines).names[i]?
      = ((specCols isNan dropNan keep (hdrOf lines) lines)[i]?).bind (fun c => (hdrOf lines)[c]?) := by
  rw [specImage_eq_select]
  exact select_names _ _ _ _ (fun _ => specCols_mem_lt) i

/-! ## the property sentence, end to end -/

/-- **Row k, cell by cell, in the returned image.**  For an accepted file `e` with `k` accepted files of
smaller acquisition key: the import succeeds, the image has one line per accepted file, and cell
`(k, j, i)` of the image is the cell of `e`'s own table at the `j`-th surviving sample position and
the `i`-th surviving field - surviving positions: below the length of the shortest accepted line and
(LDR) not NaN in every field of every line; surviving fields, in header order: not a helper column and
(LDR) not NaN everywhere.  Nothing is computed from a value: every value is the one `genfromtxt` read. -/
theorem load_cell_vendor (isNan : α → Bool) (rp : Vendor → Image α → P) (v : Vendor)
    (listing : List (Entry α)) (π : List Nat)
    (hπ : Covers (accepted v listing).length π)
    (hd : (accepted v listing).Pairwise (fun a b => acqKey v a.name ≠ acqKey v b.name))
    (hform : ∀ e ∈ accepted v listing, nameForm v e.name = true)
    (hwf : ∀ e ∈ accepted v listing, ∀ row ∈ e.line.rows, row.length = e.line.names.length)
    (hhdr : ∀ a ∈ accepted v listing, ∀ b ∈ accepted v listing, a.line.names = b.line.names)
    (e : Entry α) (he : e ∈ accepted v listing) (j i : Nat) :
    ∃ img p, load isNan rp v timegm listing π = some (img, p) ∧
      img.lines.length = (accepted v listing).length ∧
      ((img.lines[rank (fun x => acqKey v x.name) (accepted v listing) e]?).bind (fun l => l[j]?)).bind
          (fun row => row[i]?)
        = ((specPos isNan (dropsNan v)
              ((byRank (fun x => acqKey v x.name) (accepted v listing)).map (·.line)))[j]?).bind (fun j' =>
            (e.line.rows[j']?).bind (fun row =>
              ((specCols isNan (dropsNan v) (fun n => !(dropNames v).contains n)
                  (hdrOf ((byRank (fun x => acqKey v x.name) (accepted v listing)).map (·.line)))
                  ((byRank (fun x => acqKey v x.name) (accepted v listing)).map (·.line)))[i]?).bind
                (fun c => row[c]?))) := by
  have hperm := byRank_perm (fun x : Entry α => acqKey v x.name) (accepted v listing) hd
  have hne := List.isEmpty_eq_false_iff.mpr (List.ne_nil_of_mem he)
  rw [load_eq_spec_vendor isNan rp v listing π hπ hd hform hwf hhdr, specLoad_eq_ite, hne]
  refine ⟨specImage isNan (dropsNan v) (fun n => !(dropNames v).contains n) _, _, rfl, ?_, ?_⟩
  · rw [specImage_eq_select, select_lines_length, List.length_map, hperm.length_eq]
  · rw [specImage_cell _ _ _ _ (rect_byRank _ _ hd hwf hhdr), List.getElem?_map,
      byRank_getElem?_rank (fun x : Entry α => acqKey v x.name) (accepted v listing) hd e he,
      Option.map_some, Option.bind_some]

/-- **Auto-detection picks the first of Nu, LDR, TOFWERK whose pattern matches some file**, and the
generic option when none does. -/
theorem autodetect_first_match (listing : List (Entry α)) :
    let has := fun v => listing.any (fun e => e.isFile && matchesV v e.name)
    (has .nu = true → autodetect listing = .nu) ∧
    (has .nu = false → has .ldr = true → autodetect listing = .ldr) ∧
    (has .nu = false → has .ldr = false → has .tofwerk = true → autodetect listing = .tofwerk) ∧
    (has .nu = false → has .ldr = false → has .tofwerk = false → autodetect listing = .generic) := by
  intro has
  unfold autodetect
  refine ⟨fun h1 => ?_, fun h1 h2 => ?_, fun h1 h2 h3 => ?_, fun h1 h2 h3 => ?_⟩
  -- `find?` on the three candidates is a cascade of tests; the hypotheses decide them
  all_goals
    simp only [has] at *
    simp only [List.find?, *]
    rfl

/-! ## histories of calls: every import is the import of the directory as it is on disk at that call

Nothing an earlier call did - to the same path, to another one, with the same option object - is visible in what an
import returns. -/

/-- **The directory an import sees is what the last write to its path left there** (or what was
there before the history began). -/
theorem history_dir_is_last_write (isNan : α → Bool) (rp : Vendor → Image α → P) (tkey : List Nat → Int)
    (w : World α) (pre : List (Call α)) (p : Nat) :
    (exec isNan rp tkey w pre).fs p = (lastWrite p pre).getD (w.fs p) := by
  induction pre generalizing w with
  | nil => rfl
  | cons c pre ih =>
    simp only [exec, lastWrite]
    rw [ih]
    cases h : lastWrite p pre with
    | some l => rfl
    | none =>
      rw [step_fs]
      cases c with
      | write q l =>
        -- `step` asks whether the path read is the path written, `lastWrite` the converse
        by_cases hq : q = p
        · simp [hq]
        · have : ¬ p = q := fun h => hq h.symm
          simp [hq, this]
      | _ => rfl

/-- **`load(path, full=True)` at any point of any history** returns exactly what the import of the
directory now at `path`, alone, returns: the vendor is detected from that directory, nothing else of the
world enters. -/
theorem history_auto_import (isNan : α → Bool) (rp : Vendor → Image α → P) (tkey : List Nat → Int)
    (w : World α) (pre post : List (Call α)) (p : Nat) (π : List Nat) :
    (trace isNan rp tkey w (pre ++ .importAuto p π :: post))[pre.length]?
      = some (some (load isNan rp (autodetect ((exec isNan rp tkey w pre).fs p)) tkey
          ((exec isNan rp tkey w pre).fs p) π)) := by
  rw [trace_getElem?_append_cons, step_importAuto]

/-- **`load(path, option=o, full=True)` with an object `o = <Vendor>Option()` built earlier in the
history**, after any calls `mid` that are not edits of `o` (imports of other directories through `o`
included): the import of the directory now at `path`, alone, with a new option of that class. -/
theorem history_explicit_import (isNan : α → Bool) (rp : Vendor → Image α → P) (tkey : List Nat → Int)
    (w : World α) (pre mid post : List (Call α)) (v : Vendor) (p : Nat) (π : List Nat)
    (hmid : ∀ c ∈ mid, ∀ f, c ≠ .editOpt (exec isNan rp tkey w pre).opts.length f) :
    (trace isNan rp tkey w
        (pre ++ .newOpt v :: (mid ++ .importWith (exec isNan rp tkey w pre).opts.length p π :: post)))[pre.length + 1 + mid.length]?
      = some (some (load isNan rp v tkey ((exec isNan rp tkey w (pre ++ .newOpt v :: mid)).fs p) π)) := by
  rw [trace_importWith_appended isNan rp tkey w pre mid post (.newOpt v) (mkOpt v) p π rfl hmid, loadO_mkOpt]

/-- the same with `o = option_for_path(q)` obtained earlier: `o` has the class detected from the
directory that was at `q` THEN; the import is the import of the directory now at `path` alone with a
new option of that class -/
theorem history_detected_import (isNan : α → Bool) (rp : Vendor → Image α → P) (tkey : List Nat → Int)
    (w : World α) (pre mid post : List (Call α)) (q p : Nat) (π : List Nat)
    (hmid : ∀ c ∈ mid, ∀ f, c ≠ .editOpt (exec isNan rp tkey w pre).opts.length f) :
    (trace isNan rp tkey w
        (pre ++ .detect q :: (mid ++ .importWith (exec isNan rp tkey w pre).opts.length p π :: post)))[pre.length + 1 + mid.length]?
      = some (some (load isNan rp (autodetect ((exec isNan rp tkey w pre).fs q)) tkey
          ((exec isNan rp tkey w (pre ++ .detect q :: mid)).fs p) π)) := by
  rw [trace_importWith_appended isNan rp tkey w pre mid post (.detect q) _ p π rfl hmid]
  simp only [optionForPath, loadO_mkOpt]

/-- **The property for call `k` of a history, auto-detected option.**  If the directory `d` now at the
path (the last write to it, `history_dir_is_last_write`) has - for the layout `v` detected from it -
accepted names in the vendor's form with pairwise distinct acquisition keys and tables as
`np.genfromtxt` returns them, and every reader task completes, the call returns the pointwise
specification of `d`: whatever was imported, written, built or edited before. -/
theorem history_auto_import_eq_spec (isNan : α → Bool) (rp : Vendor → Image α → P)
    (w : World α) (pre post : List (Call α)) (p : Nat) (π : List Nat) (d : List (Entry α)) (v : Vendor)
    (hdir : (exec isNan rp timegm w pre).fs p = d) (hv : autodetect d = v)
    (hπ : Covers (accepted v d).length π)
    (hd : (accepted v d).Pairwise (fun a b => acqKey v a.name ≠ acqKey v b.name))
    (hform : ∀ e ∈ accepted v d, nameForm v e.name = true)
    (hwf : ∀ e ∈ accepted v d, ∀ row ∈ e.line.rows, row.length = e.line.names.length)
    (hhdr : ∀ a ∈ accepted v d, ∀ b ∈ accepted v d, a.line.names = b.line.names) :
    (trace isNan rp timegm w (pre ++ .importAuto p π :: post))[pre.length]?
      = some (some (specLoad isNan rp v d)) := by
  rw [history_auto_import, hdir, hv, load_eq_spec_vendor isNan rp v d π hπ hd hform hwf hhdr]

/-- **The property for call `k` of a history, explicit option object** built earlier (`<Vendor>Option()`)
and not edited by the caller since, whatever else was done with it. -/
theorem history_explicit_import_eq_spec (isNan : α → Bool) (rp : Vendor → Image α → P)
    (w : World α) (pre mid post : List (Call α)) (v : Vendor) (p : Nat) (π : List Nat) (d : List (Entry α))
    (hmid : ∀ c ∈ mid, ∀ f, c ≠ .editOpt (exec isNan rp timegm w pre).opts.length f)
    (hdir : (exec isNan rp timegm w (pre ++ .newOpt v :: mid)).fs p = d)
    (hπ : Covers (accepted v d).length π)
    (hd : (accepted v d).Pairwise (fun a b => acqKey v a.name ≠ acqKey v b.name))
    (hform : ∀ e ∈ accepted v d, nameForm v e.name = true)
    (hwf : ∀ e ∈ accepted v d, ∀ row ∈ e.line.rows, row.length = e.line.names.length)
    (hhdr : ∀ a ∈ accepted v d, ∀ b ∈ accepted v d, a.line.names = b.line.names) :
    (trace isNan rp timegm w
        (pre ++ .newOpt v :: (mid ++ .importWith (exec isNan rp timegm w pre).opts.length p π :: post)))[pre.length + 1 + mid.length]?
      = some (some (specLoad isNan rp v d)) := by
  rw [history_explicit_import isNan rp timegm w pre mid post v p π hmid, hdir,
    load_eq_spec_vendor isNan rp v d π hπ hd hform hwf hhdr]

/-! ## non-vacuity -/

section examples

def exLine (xs : List Int) : Line Int := { names := ["Cycle_time_(ms)", "A"], rows := xs.map (fun x => [0, x]) }

def exDir : List (Entry Int) :=
  [ { name := "line_10.csv", isFile := true, line := exLine [10, 11, 12] },
    { name := ".line_3.csv", isFile := true, line := exLine [0] },
    { name := "line_9.csv", isFile := true, line := exLine [90, 91] },
    { name := "notes.txt", isFile := true, line := exLine [] },
    { name := "line_100.CSV", isFile := true, line := exLine [100, 101, 102, 103] },
    { name := "line_7.csv", isFile := false, line := exLine [] } ]

/-- `exDir` is detected as a Nu directory and meets the hypotheses of `load_eq_spec_vendor` / `load_cell_vendor`
and of `load_eq_spec` / `load_row_k`, with the readers finishing in the order 0, 1, 2; its specification has
line 9 first -/
theorem exDir_hyps :
    autodetect exDir = .nu ∧ Covers (accepted .nu exDir).length [0, 1, 2]
    ∧ (accepted .nu exDir).Pairwise (fun a b => acqKey .nu a.name ≠ acqKey .nu b.name)
    ∧ (∀ e ∈ accepted .nu exDir, nuFull e.name.toList = true)
    ∧ (∀ e ∈ accepted .nu exDir, ∀ row ∈ e.line.rows, row.length = e.line.names.length)
    ∧ (∀ a ∈ accepted .nu exDir, ∀ b ∈ accepted .nu exDir, a.line.names = b.line.names)
    ∧ (∀ a ∈ accepted .nu exDir, ∀ b ∈ accepted .nu exDir,
        keyLe (sortKey .nu timegm a.name) (sortKey .nu timegm b.name) = keyLe (acqKey .nu a.name) (acqKey .nu b.name))
    ∧ (specLoad (fun _ => false) (fun _ _ => ()) .nu exDir).map (·.1.lines)
        = some [[[90], [91]], [[10], [11]], [[100], [101]]] := by
  decide +kernel

example : autodetect exDir = .nu := exDir_hyps.1
example : (accepted .nu exDir).Pairwise (fun a b => acqKey .nu a.name ≠ acqKey .nu b.name) := exDir_hyps.2.2.1
example : ∀ e ∈ accepted .nu exDir, nuFull e.name.toList = true := exDir_hyps.2.2.2.1
example : ∀ e ∈ accepted .nu exDir, ∀ row ∈ e.line.rows, row.length = e.line.names.length := exDir_hyps.2.2.2.2.1
example : ∀ a ∈ accepted .nu exDir, ∀ b ∈ accepted .nu exDir, a.line.names = b.line.names := exDir_hyps.2.2.2.2.2.1
example : ∀ a ∈ accepted .nu exDir, ∀ b ∈ accepted .nu exDir,
    keyLe (sortKey .nu timegm a.name) (sortKey .nu timegm b.name) = keyLe (acqKey .nu a.name) (acqKey .nu b.name) :=
  exDir_hyps.2.2.2.2.2.2.1
example : (specLoad (fun _ => false) (fun _ _ => ()) .nu exDir).map (·.1.lines)
    = some [[[90], [91]], [[10], [11]], [[100], [101]]] := exDir_hyps.2.2.2.2.2.2.2

/-- the digit arithmetic of the Nu key: a digit prefix `1`, indices 9 and 10 -/
example : digitsNat ("1".toList ++ "9".toList) = 19 ∧ digitsNat ("1".toList ++ "10".toList) = 110
    ∧ (∀ x ∈ "9".toList, isDigit x = true) ∧ 1 ≤ digitVal '1' := by
  -- puts the character list in place of each literal (a literal is `String.ofList` of its characters); left to
  -- `decide`, the kernel gets it by decoding the literal's bytes, which takes several times as long as the rest
  repeat rw [String.toList_ofList]
  decide +kernel

/-- names as the generator writes them have the Nu name form: any padding, any letter case -/
example : nuFull "line_007.csv".toList = true ∧ nuFull "LINE_10.CSV".toList = true
    ∧ nuFull "LiNe_0100.cSv".toList = true ∧ nuFull "line_9.csv".toList = true
    ∧ nuFull "line_10.csv.bak".toList = false ∧ nuFull "line_10.csv_2.csv".toList = false := by
  repeat rw [String.toList_ofList]
  decide +kernel

/-- mixed padding: index 7 written `007` sorts before index 10 -/
example : keyLe (sortKey .nu timegm "line_007.csv") (sortKey .nu timegm "line_10.csv") = true
    ∧ keyLe (sortKey .nu timegm "line_10.csv") (sortKey .nu timegm "line_007.csv") = false := by
  simp only [sortKey]
  repeat rw [String.toList_ofList]
  decide +kernel

/-- an LDR directory with the lines of two samples, mixed padding, digits in the sample name and one
sample written in two letter cases (the directory that 0a523e4 repaired: `s1_ldr_10` came before
`s1_ldr_009`) -/
def exLdr : List (Entry Int) :=
  [ { name := "s1_ldr_10.csv", isFile := true, line := exLine [10, 11] },
    { name := "b_ldr_2.csv", isFile := true, line := exLine [2, 3] },
    { name := "S1_LDR_011.CSV", isFile := true, line := exLine [110, 111] },
    { name := "s1_ldr_009.csv", isFile := true, line := exLine [90, 91, 92] },
    { name := "s_ldr_x.csv", isFile := true, line := exLine [] } ]

/-- `exLdr` meets the hypotheses of `load_eq_spec_vendor` / `load_cell_vendor` (every LDR name has the name
form), with the readers finishing in the order 3, 2, 1, 0.  In acquisition order its files are grouped by sample
(`b` < `s1`), then index 9, 10, 11: `S1_LDR_011.CSV` has three files before it. -/
theorem exLdr_hyps :
    Covers (accepted .ldr exLdr).length [3, 2, 1, 0]
    ∧ (accepted .ldr exLdr).Pairwise (fun a b => acqKey .ldr a.name ≠ acqKey .ldr b.name)
    ∧ (∀ e ∈ accepted .ldr exLdr, ∀ row ∈ e.line.rows, row.length = e.line.names.length)
    ∧ (∀ a ∈ accepted .ldr exLdr, ∀ b ∈ accepted .ldr exLdr, a.line.names = b.line.names)
    ∧ (byRank (fun e => acqKey .ldr e.name) (accepted .ldr exLdr)).map (·.name)
        = ["b_ldr_2.csv", "s1_ldr_009.csv", "s1_ldr_10.csv", "S1_LDR_011.CSV"]
    ∧ rank (fun x => acqKey .ldr x.name) (accepted .ldr exLdr)
        { name := "S1_LDR_011.CSV", isFile := true, line := exLine [110, 111] } = 3 := by
  decide +kernel

example : (accepted .ldr exLdr).Pairwise (fun a b => acqKey .ldr a.name ≠ acqKey .ldr b.name) := exLdr_hyps.2.1
example : ∀ e ∈ accepted .ldr exLdr, ∀ row ∈ e.line.rows, row.length = e.line.names.length := exLdr_hyps.2.2.1
example : ∀ a ∈ accepted .ldr exLdr, ∀ b ∈ accepted .ldr exLdr, a.line.names = b.line.names := exLdr_hyps.2.2.2.1
example : (byRank (fun e => acqKey .ldr e.name) (accepted .ldr exLdr)).map (·.name)
    = ["b_ldr_2.csv", "s1_ldr_009.csv", "s1_ldr_10.csv", "S1_LDR_011.CSV"] := exLdr_hyps.2.2.2.2.1
example : rank (fun x => acqKey .ldr x.name) (accepted .ldr exLdr)
    { name := "S1_LDR_011.CSV", isFile := true, line := exLine [110, 111] } = 3 := exLdr_hyps.2.2.2.2.2

example : ldrParts "s1_ldr_009.csv".toList = some ("s1".toList, "009".toList)
    ∧ ldrParts "S1_LDR_011.CSV".toList = some ("S1".toList, "011".toList)
    ∧ ldrParts "a_ldr_1_ldr_10.csv".toList = some ("a_ldr_1".toList, "10".toList) := by
  repeat rw [String.toList_ofList]
  decide +kernel

/-- the code's key: index 9 written `009` before index 10, `S1` is the sample `s1`, sample `b` first -/
example : keyLe (sortKey .ldr timegm "s1_ldr_009.csv") (sortKey .ldr timegm "s1_ldr_10.csv") = true
    ∧ keyLe (sortKey .ldr timegm "s1_ldr_10.csv") (sortKey .ldr timegm "s1_ldr_009.csv") = false
    ∧ keyLe (sortKey .ldr timegm "s1_ldr_10.csv") (sortKey .ldr timegm "S1_LDR_011.CSV") = true
    ∧ keyLe (sortKey .ldr timegm "S1_LDR_011.CSV") (sortKey .ldr timegm "b_ldr_2.csv") = false := by
  simp only [sortKey]
  repeat rw [String.toList_ofList]
  decide +kernel

/-- TOFWERK directory around the Berlin spring transition, one-digit month in one stamp -/
def exTof : List (Entry Int) :=
  [ { name := "IMG_2021.03.28-03h10m00s_AS.csv", isFile := true, line := exLine [1, 2] },
    { name := "IMG_2021.03.28-02h30m00s_AS.csv", isFile := true, line := exLine [3, 4] },
    { name := "IMG_2021.3.27-23h59m59s_AS.csv", isFile := true, line := exLine [5, 6] } ]

/-- every file of `exTof` is accepted; the stamps are valid and pairwise distinct.  The statements about the three
entries are spelt out first, so that the names stand in them as literals. -/
theorem exTof_hyps :
    (accepted .tofwerk exTof).Pairwise (fun a b => acqKey .tofwerk a.name ≠ acqKey .tofwerk b.name)
    ∧ ∀ e ∈ accepted .tofwerk exTof, validStampB (stampFields e.name.toList) = true := by
  have hacc : accepted .tofwerk exTof = exTof := by
    rw [accepted_eq_filter, List.filter_eq_self]
    simp only [exTof, List.forall_mem_cons, List.not_mem_nil, false_imp_iff, implies_true, and_true, hidden, matchesV]
    repeat rw [String.toList_ofList]
    decide +kernel
  rw [hacc]
  simp only [exTof, List.forall_mem_cons, List.pairwise_cons, List.not_mem_nil, false_imp_iff, implies_true,
    and_true, acqKey]
  repeat rw [String.toList_ofList]
  decide +kernel

example : ∀ e ∈ accepted .tofwerk exTof, validStampB (stampFields e.name.toList) = true := exTof_hyps.2
example : (accepted .tofwerk exTof).Pairwise (fun a b => acqKey .tofwerk a.name ≠ acqKey .tofwerk b.name) := exTof_hyps.1

/-- the three example directories meet the name-form hypothesis of `load_eq_spec_vendor` / `load_cell_vendor` -/
example : (∀ e ∈ accepted .nu exDir, nameForm .nu e.name = true) ∧ (∀ e ∈ accepted .ldr exLdr, nameForm .ldr e.name = true)
    ∧ (∀ e ∈ accepted .tofwerk exTof, nameForm .tofwerk e.name = true) :=
  ⟨exDir_hyps.2.2.2.1, fun _ _ => rfl, exTof_hyps.2⟩

/-- `timegm` orders the two stamps around the Berlin spring transition like their fields -/
example : keyLt (acqKey .tofwerk "IMG_2021.03.28-02h30m00s_AS.csv") (acqKey .tofwerk "IMG_2021.03.28-03h10m00s_AS.csv") = true
    ∧ timegm (stampFields "IMG_2021.03.28-02h30m00s_AS.csv".toList) < timegm (stampFields "IMG_2021.03.28-03h10m00s_AS.csv".toList) := by
  simp only [acqKey]
  repeat rw [String.toList_ofList]
  decide +kernel

example : stampFields "IMG_2021.3.27-23h59m59s_AS.csv".toList = [2021, 3, 27, 23, 59, 59] := by
  rw [String.toList_ofList]
  decide +kernel

/-- stamps `time.strptime` rejects / a leap second it accepts -/
example : strptimeOk (stampFields "IMG_2021.02.30-10h10m10s.csv".toList) = false
    ∧ strptimeOk (stampFields "IMG_2021.01.01-24h00m00s.csv".toList) = false
    ∧ strptimeOk (stampFields "IMG_2021.06.30-23h59m60s.csv".toList) = true
    ∧ validStampB (stampFields "IMG_2021.06.30-23h59m60s.csv".toList) = false := by
  repeat rw [String.toList_ofList]
  decide +kernel

example : validStampB (stampFields "IMG_2021.03.28-02h30m00s_AS.csv".toList) = true := by
  rw [String.toList_ofList]
  decide +kernel
example : validStampB [2020, 2, 29, 23, 59, 59] = true ∧ validStampB [2021, 2, 29, 0, 0, 0] = false := by decide +kernel

/-- an LDR-like stack (`none` = NaN): lines of 4 and 3 samples, the first sample position NaN everywhere
(dwell-time row), field `B` NaN everywhere, helper column `Time` -/
def exNan : List (Line (Option Int)) :=
  [ { names := ["Time", "A", "B"], rows := [[none, none, none], [some 1, some 10, none], [some 2, none, none], [some 3, some 30, none]] },
    { names := ["Time", "A", "B"], rows := [[none, none, none], [some 1, some 11, none], [some 2, some 21, none]] } ]
example : Rect exNan := by
  intro l hl row hrow
  revert row; revert l; decide +kernel
example : cutLen exNan = 3 ∧ specPos (fun (x : Option Int) => x.isNone) true exNan = [1, 2]
    ∧ specCols (fun (x : Option Int) => x.isNone) true (fun n => !(dropNames .ldr).contains n) (hdrOf exNan) exNan = [1]
    ∧ specCols (fun (x : Option Int) => x.isNone) true (fun _ => true) (hdrOf exNan) exNan = [0, 1] := by decide +kernel
example : specImage (fun (x : Option Int) => x.isNone) true (fun n => !(dropNames .ldr).contains n) exNan
    = { names := ["A"], lines := [[[some 10], [none]], [[some 11], [some 21]]] } := by decide +kernel
example : (post (fun (x : Option Int) => x.isNone) (fun _ img => img.names) .ldr (stack exNan))
    = ({ names := ["A"], lines := [[[some 10], [none]], [[some 11], [some 21]]] }, ["Time", "A"]) := by decide +kernel

def exWorld : World Int := { fs := fun _ => [], opts := [] }

/-- an LDR directory imported through a held option object, the SAME path rewritten as a Nu directory and
imported without an option, the caller edits the held object, the path is imported again, and once more through a
new object: every import returns the specification of the directory then on disk -/
def exHist : List (Call Int) :=
  [ .write 0 exLdr, .newOpt .ldr, .importWith 0 0 [3, 2, 1, 0], .write 0 exDir, .importAuto 0 [0, 1, 2],
    .editOpt 0 (fun o => { o with dropNames := ["A"], dropNanCols := false }), .importAuto 0 [2, 1, 0],
    .newOpt .nu, .importWith 1 0 [1, 0, 2] ]

/-- call 2 (explicit object built by call 1, directory written by call 0) and call 4 (no option, the path
rewritten by call 3): all hypotheses of the two history theorems hold -/
example : (trace (fun _ => false) (fun (_ : Vendor) (_ : Image Int) => ()) timegm exWorld exHist)[2]?
    = some (some (specLoad (fun _ => false) (fun _ _ => ()) .ldr exLdr)) :=
  have ⟨hπ, hd, hwf, hhdr, _⟩ := exLdr_hyps
  history_explicit_import_eq_spec (fun _ => false) (fun _ _ => ()) exWorld [.write 0 exLdr] [] (exHist.drop 3) .ldr 0
    [3, 2, 1, 0] exLdr (by intro c hc; cases hc) rfl hπ hd (fun _ _ => rfl) hwf hhdr

example : (trace (fun _ => false) (fun (_ : Vendor) (_ : Image Int) => ()) timegm exWorld exHist)[4]?
    = some (some (specLoad (fun _ => false) (fun _ _ => ()) .nu exDir)) :=
  have ⟨hv, hπ, hd, hform, hwf, hhdr, _⟩ := exDir_hyps
  history_auto_import_eq_spec (fun _ => false) (fun _ _ => ()) exWorld (exHist.take 4) (exHist.drop 5) 0
    [0, 1, 2] exDir .nu rfl hv hπ hd hform hwf hhdr

example : (exec (fun _ => false) (fun (_ : Vendor) (_ : Image Int) => ()) timegm exWorld (exHist.take 4)).fs 0 = exDir
    ∧ lastWrite 0 (exHist.take 4) = some exDir ∧ lastWrite 0 (exHist.take 3) = some exLdr
    ∧ lastWrite 1 exHist = none := ⟨rfl, rfl, rfl, rfl⟩

/-- the hypothesis `hmid` of `history_explicit_import`: between `.newOpt .ldr` and its use no call edits object 0 -/
example : ∀ c ∈ ([] : List (Call Int)), ∀ f, c ≠ .editOpt 0 f := by intro c hc; cases hc

end examples

end Pew.CsvDir
