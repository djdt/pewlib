import PewProofs.Otsu
import PewProofs.OtsuScale
import PewProofs.OtsuFloat
import PewProofs.OtsuNan

/-! # C15 — property theorems (statements only depend on `PewModel.Otsu`)

`hist`/`edges` are what `np.histogram(x, bins=n)` returned (`n = 256` in the code; the theorems
hold for every `n ≥ 2`), `cs = centres edges`.  Hypotheses: `edges.length = hist.length + 1`
(NumPy's contract), strictly increasing edges (at least two distinct finite values), and - for the statements about
the criterion - occupied end bins (`1 ≤ hist[0]`, `1 ≤ hist[n-1]`): the histogram of data with two distinct values
has them (`end_bins_occupied`), and without them floating point produces `0/0` (`first_bin_empty_returns_first_centre`).

The mechanism the theorems speak about is the code's: the NaN-carrying criterion (`critListN`, `argmaxN`) formed from
the centres rescaled by a power of two (`scaledCentres`), the unscaled centre returned (`otsuHistS`).  `otsuHistN` is
the same without the rescaling step; `rescaling_keeps_argmax` shows that the two return the same value. -/
namespace Pew.Otsu

/-- `np.argmax` semantics used by the model: the returned index is in range, no entry is larger,
and every earlier entry is strictly smaller (first maximum) -/
theorem argmax_maximal (l : List Rat) (hne : l ≠ []) :
    argmaxFirst l < l.length ∧
    ∀ j, j < l.length → l.getD j 0 ≤ l.getD (argmaxFirst l) 0 ∧
      (j < argmaxFirst l → l.getD j 0 < l.getD (argmaxFirst l) 0) :=
  argmaxFirst_spec l hne

/-- `np.argmax` on an array with NaN: the position of the first NaN (every earlier entry is a number); on an array
without NaN it is the first maximum -/
theorem argmax_nan (l : List (Option Rat)) :
    (none ∈ l → argmaxN l < l.length ∧ l[argmaxN l]? = some none ∧
      ∀ j, j < argmaxN l → ∃ v, l[j]? = some (some v)) ∧
    (∀ l' : List Rat, l = l'.map some → argmaxN l = argmaxFirst l') := by
  refine ⟨fun h => ?_, fun l' h => by rw [h]; exact argmaxN_map_some l'⟩
  have hlt : l.findIdx (·.isNone) < l.length := List.findIdx_lt_length_of_exists ⟨none, h, rfl⟩
  rw [argmaxN_of_mem_none h]
  refine ⟨hlt, ?_, fun j hj => ?_⟩
  · rw [List.getElem?_eq_getElem hlt, Option.isNone_iff_eq_none.mp (List.findIdx_getElem (w := hlt))]
  · have hjl : j < l.length := hj.trans hlt
    have := List.not_of_lt_findIdx hj
    rw [List.getElem?_eq_getElem hjl]
    cases hv : l[j] with
    | none => rw [hv] at this; exact absurd this (by decide)
    | some v => exact ⟨v, rfl⟩

example : argmaxN [some 1, none, some 3, none] = 1 ∧ argmaxN [some 1, some 3, some 3] = 1 := by decide +kernel

/-- the cumulative-sum alignment, floating-point division included: entry `i` of the criterion array of the mechanism
(`cumsum`, reversed `cumsum`, `[:-1]` against `[1:]`) is NaN exactly when one of the two classes of the cut
"class 1 = bins ≤ i, class 2 = bins > i" is empty, and otherwise the between-class criterion `W1·W2·(μ1 − μ2)²` of
that cut; with both end bins occupied no entry is NaN and the whole array is the brute-force specification -/
theorem crit_is_between_class_variance (hist : List Nat) (cs : List Rat)
    (hc : cs.length = hist.length) :
    (∀ i, i + 1 < hist.length → (critListN hist cs)[i]? = some
      (if (cutSums hist cs i).1 = 0 ∨ (cutSums hist cs i).2.1 = 0 then none else some (specCrit hist cs i))) ∧
    (1 ≤ hist.getD 0 0 → 1 ≤ hist.getD (hist.length - 1) 0 →
      critListN hist cs = (specCritList hist cs).map some) := by
  refine ⟨fun i hi => critListN_getElem? hist cs hc i hi, fun h0 hl => ?_⟩
  rw [critListN_eq_some hist cs rfl hc h0 hl, critList_eq_spec hist cs hc]

/-- why `none` is NaN and never ±inf: a class without weight has no moment either, so wherever the mechanism divides by
zero the dividend is zero as well (`0/0`) -/
theorem zero_over_zero (hist : List Nat) (cs : List Rat) (i : Nat) :
    ((cutSums hist cs i).1 = 0 → (cutSums hist cs i).2.2.1 = 0) ∧
    ((cutSums hist cs i).2.1 = 0 → (cutSums hist cs i).2.2.2 = 0) := by
  have nn := weights_nonneg hist
  constructor
  · intro h
    change sumR ((List.zipWith (· * ·) _ cs).take (i + 1)) = 0
    rw [List.take_zipWith]
    exact sumR_zipWith_zero _ _ (fun x hx => nn x (List.mem_of_mem_take hx)) h
  · intro h
    change sumR ((List.zipWith (· * ·) _ cs).drop (i + 1)) = 0
    rw [List.drop_zipWith]
    exact sumR_zipWith_zero _ _ (fun x hx => nn x (List.mem_of_mem_drop hx)) h

example : cutSums [0, 0, 3, 2] [1/2, 3/2, 5/2, 7/2] 1 = (0, 5, 0, 29/2) := by decide +kernel

/-- the returned value is the centre of a bin `i ≤ n − 2` whose cut maximises the between-class
criterion over all cut points, and it is the first such bin -/
theorem otsu_maximises (hist : List Nat) (edges : List Rat) (hn : 2 ≤ hist.length)
    (he : edges.length = hist.length + 1)
    (h0 : 1 ≤ hist.getD 0 0) (hl : 1 ≤ hist.getD (hist.length - 1) 0) :
    ∃ i, i + 1 < hist.length ∧ otsuHistS hist edges = (centres edges).getD i 0 ∧
      (∀ j, j + 1 < hist.length → specCrit hist (centres edges) j ≤ specCrit hist (centres edges) i) ∧
      (∀ j, j < i → specCrit hist (centres edges) j < specCrit hist (centres edges) i) := by
  rw [otsuHistS_eq, otsuHistN_eq hist edges rfl he h0 hl]
  obtain ⟨h1, h2⟩ := argmax_critList hist (centres edges) hn (centres_length_eq he)
  exact ⟨_, h1, rfl, fun j hj => (h2 j hj).1, fun j hj => (h2 j ((Nat.succ_lt_succ hj).trans h1)).2 hj⟩

/-- why the hypothesis on the end bins is there: with an empty first bin the first criterion entry is `0/0`,
`np.argmax` returns 0 and the first centre comes back, whatever the rest of the histogram -/
theorem first_bin_empty_returns_first_centre (hist : List Nat) (edges : List Rat) (hn : 2 ≤ hist.length)
    (he : edges.length = hist.length + 1) (h0 : hist.getD 0 0 = 0) :
    (critListN hist (scaledCentres edges))[0]? = some none ∧ otsuHistS hist edges = (centres edges).getD 0 0 := by
  have e0 := critListN_getElem? hist (scaledCentres edges) (scaledCentres_length_eq he) 0 hn
  have hz : sumR ((weights hist).take (0 + 1)) = 0 := by
    rw [sumR_take_succ, List.take_zero, sumR_nil, zero_add, weights_getD, h0, Nat.cast_zero]
  rw [if_pos (Or.inl hz)] at e0
  exact ⟨e0, by unfold otsuHistS; rw [argmaxN_of_head_nan _ e0]⟩

/-- the threshold is a bin centre strictly between the first and the last edge (= min and max of
the data): in particular it lies in [min, max).  (No hypothesis on the bins: also on the NaN path.) -/
theorem is_centre_in_range (hist : List Nat) (edges : List Rat) (hn : 2 ≤ hist.length)
    (he : edges.length = hist.length + 1) (hp : edges.Pairwise (· < ·)) :
    edges.getD 0 0 < otsuHistS hist edges ∧ otsuHistS hist edges < edges.getD hist.length 0 :=
  otsuHistS_in_range hist edges rfl hn he hp

/-- `np.frexp`: for `q ≠ 0` the exponent `e` brackets the magnitude, `2^(e−1) ≤ |q| < 2^e`, and it is the only
integer that does; multiplying `q` by `2^k` adds `k` to it -/
theorem frexp_exponent (q : Rat) (hq : q ≠ 0) :
    (pow2 (frexpExp q - 1) ≤ absQ q ∧ absQ q < pow2 (frexpExp q)) ∧
    (∀ e : Int, pow2 (e - 1) ≤ absQ q → absQ q < pow2 e → frexpExp q = e) ∧
    (∀ k : Int, frexpExp (pow2 k * q) = frexpExp q + k) := by
  simp only [pow2_eq_zpow, absQ_eq_abs]
  exact ⟨frexpExp_spec q hq, fun e h1 h2 => frexpExp_unique q e h1 h2,
    fun k => by have := frexpExp_pow2_mul k q hq; rwa [pow2_eq_zpow] at this⟩

example : frexpExp 1 = 1 ∧ frexpExp (3/4) = 0 ∧ frexpExp (-5) = 3 ∧ frexpExp (1/1024) = -9 ∧ frexpExp 0 = 0 ∧
    pow2 (-3) = 1/8 ∧ pow2 10 = 1024 := by decide +kernel

/-- **The rescaling step does not change the result.**  The criterion formed from the centres divided by `2^e` is
`4^(−e)` times the criterion of the centres themselves, NaN where that is NaN; `np.argmax` is the same index; the value
returned is the centre at that index.  For every histogram and all edges, the NaN path included. -/
theorem rescaling_keeps_argmax (hist : List Nat) (edges : List Rat) :
    critListN hist (scaledCentres edges) =
      (critListN hist (centres edges)).map (Option.map (pow2 (-(scaleExp edges)) ^ 2 * ·)) ∧
    argmaxN (critListN hist (scaledCentres edges)) = argmaxN (critListN hist (centres edges)) ∧
    otsuHistS hist edges = otsuHistN hist edges :=
  ⟨critListN_scale _ hist _, argmaxN_scaledCentres hist edges, otsuHistS_eq hist edges⟩

/-- **Power-of-two scaling, from the histogram on, with no hypothesis on the bins.**  Multiplying the edges by `2^k`
(what `np.histogram` returns for `2^k · x`, short of over/underflow) leaves the rescaled centres - the operands of the
criterion - exactly as they were: the criterion array is the same array, `np.argmax` the same index, and the returned
centre is `2^k` times the other one.  In floating point the operands are the same bit patterns, which is why the
implementation satisfies the clause bit for bit. -/
theorem pow2_scaling_exact (k : Int) (hist : List Nat) (edges : List Rat) (hM : outerMag edges ≠ 0) :
    scaleExp (edges.map (pow2 k * ·)) = scaleExp edges + k ∧
    scaledCentres (edges.map (pow2 k * ·)) = scaledCentres edges ∧
    critListN hist (scaledCentres (edges.map (pow2 k * ·))) = critListN hist (scaledCentres edges) ∧
    otsuHistS hist (edges.map (pow2 k * ·)) = pow2 k * otsuHistS hist edges :=
  ⟨scaleExp_pow2 k edges hM, scaledCentres_pow2 k edges hM, by rw [scaledCentres_pow2 k edges hM],
    otsuHistS_scale (pow2 k) (pow2_pos k) hist edges⟩

/-- from the histogram on: scaling the edges scales the threshold -/
theorem scale_invariant_hist (c : Rat) (hc : 0 < c) (hist : List Nat) (edges : List Rat)
    (he : edges.length = hist.length + 1)
    (h0 : 1 ≤ hist.getD 0 0) (hl : 1 ≤ hist.getD (hist.length - 1) 0) :
    otsuHistS hist (edges.map (c * ·)) = c * otsuHistS hist edges :=
  -- `he`, `h0`, `hl` are not used: `otsuHistS_scale` holds for every histogram and all edges
  otsuHistS_scale c hc hist edges

/-- increasing edges have a positive outer magnitude (the hypothesis of `pow2_scaling_exact`), every rescaled centre
has magnitude below one - its square cannot overflow - and the larger outer edge is at least one half in these units -/
theorem scaled_centres_bounded (edges : List Rat) (hp : edges.Pairwise (· < ·)) (hn : 2 ≤ edges.length) :
    0 < outerMag edges ∧
    (∀ i, i + 1 < edges.length → absQ ((scaledCentres edges).getD i 0) < 1) ∧
    1 / 2 ≤ pow2 (-(scaleExp edges)) * outerMag edges ∧ pow2 (-(scaleExp edges)) * outerMag edges < 1 := by
  have hM := outerMag_pos edges hp hn
  obtain ⟨m1, m2⟩ := frexpExp_mantissa (outerMag edges) hM.ne'
  rw [abs_of_pos hM, ← scaleExp_def] at m1 m2
  refine ⟨hM, fun i hi => ?_, m1, m2⟩
  unfold scaledCentres
  rw [absQ_eq_abs, getD_map_mul, abs_mul, abs_of_pos (pow2_pos _)]
  exact (mul_le_mul_of_nonneg_left (abs_centre_le_outerMag edges hp i hi) (pow2_pos _).le).trans_lt m2

example : scaleExp [0, 1, 2, 3] = 2 ∧ scaledCentres [0, 1, 2, 3] = [1/8, 3/8, 5/8] ∧
    scaledCentres ([0, 1, 2, 3].map (pow2 511 * ·)) = [1/8, 3/8, 5/8] ∧
    otsuHistS [1, 1, 1] ([0, 1, 2, 3].map (pow2 511 * ·)) = pow2 511 * (1/2) := by decide +kernel

/-! ## the criterion in floating point: "attains the maximum up to rounding", with the rounding budget made explicit

`critListR fl` is `otsu` from `hist * centers` on, every arithmetic result passed through the rounding function `fl`
(`np.cumsum`: sequential sums; class weights: exact integers).  `critListB u η` runs the same program on pairs (exact
value, bound on |computed − exact|).  The only thing assumed of `fl` is the standard model of binary floating point,
`|fl x − x| ≤ u·|x| + η` (binary64, round to nearest: `u = 2^-53`, `η = 2^-1075`; no overflow: the rescaled centres are
below one in magnitude, `scaled_centres_bounded`).  Where a class is empty the float code produces NaN; these statements
then speak of the `x/0 = 0` reading of both sides (data with two distinct values never gets there: `end_bins_occupied`). -/

/-- **Every entry of the float criterion is within its budget of the exact between-class criterion** -/
theorem float_criterion_within_budget (fl : Rat → Rat) (u η : Rat) (hu : 0 ≤ u)
    (hfl : ∀ x, absQ (fl x - x) ≤ u * absQ x + η)
    (hist : List Nat) (edges : List Rat) (he : edges.length = hist.length + 1) (i : Nat) (hi : i + 1 < hist.length) :
    absQ ((critListR fl hist (scaledCentresR fl edges)).getD i 0 - specCrit hist (scaledCentres edges) i)
        ≤ ((critListB u η hist (scaledCentresB u η edges)).getD i (0, 0)).2 ∧
    specCrit hist (scaledCentres edges) i = pow2 (-(scaleExp edges)) ^ 2 * specCrit hist (centres edges) i := by
  simp only [absQ_eq_abs] at hfl ⊢
  refine ⟨?_, specCrit_scale _ hist _ i⟩
  have hlen : (critListR fl hist (scaledCentresR fl edges)).length = hist.length - 1 :=
    critListR_length fl hist _ (scaledCentresR_length_eq fl he)
  have := near_getD (near_critList hu hfl hist (near_scaledCentres hu hfl edges)) i
    (hlen ▸ Nat.lt_sub_of_add_lt hi)
  rwa [critListB_fst, scaledCentresB_fst,
    critList_getD hist _ (scaledCentres_length_eq he) i hi] at this

/-- **The cut the float code returns attains the maximum up to the budget**: `k = np.argmax` of the float criterion
is a cut, the returned value is the float centre at `k`, and no cut `j` beats it by more than the budgets of the two
cuts: `crit j ≤ crit k + budget k + budget j` (exact criterion, in units of `4^exponent`) -/
theorem float_argmax_within_budget (fl : Rat → Rat) (u η : Rat) (hu : 0 ≤ u)
    (hfl : ∀ x, absQ (fl x - x) ≤ u * absQ x + η)
    (hist : List Nat) (edges : List Rat) (hn : 2 ≤ hist.length) (he : edges.length = hist.length + 1) :
    argmaxFirst (critListR fl hist (scaledCentresR fl edges)) + 1 < hist.length ∧
    otsuHistR fl hist edges = (centresR fl edges).getD (argmaxFirst (critListR fl hist (scaledCentresR fl edges))) 0 ∧
    ∀ j, j + 1 < hist.length →
      specCrit hist (scaledCentres edges) j ≤
        specCrit hist (scaledCentres edges) (argmaxFirst (critListR fl hist (scaledCentresR fl edges)))
        + ((critListB u η hist (scaledCentresB u η edges)).getD
            (argmaxFirst (critListR fl hist (scaledCentresR fl edges))) (0, 0)).2
        + ((critListB u η hist (scaledCentresB u η edges)).getD j (0, 0)).2 := by
  have near := fun j hj => (float_criterion_within_budget fl u η hu hfl hist edges he j hj).1
  simp only [absQ_eq_abs] at near
  obtain ⟨hr, hmax⟩ := argmaxFirst_cuts
    (critListR_length fl hist (scaledCentresR fl edges) (scaledCentresR_length_eq fl he)) hn
  exact ⟨hr, rfl, fun j hj => le_add_budgets (near j hj) (near _ hr) (hmax j hj).1⟩

/-- **Cuts in a run of empty bins are the same cut.**  `classStart hist i` is the first cut of the run of cuts that
`i` lies in (all bins after it, up to bin `i`, are empty).  The four sums the criterion is computed from - entry `i` of
the forward cumulative sums and entry `i + 1` of the backward ones, of `hist` and of `hist * bin_centers` - are the
same at both cuts, hence so is the criterion: the floating-point computation sees identical operands, and
`np.argmax`, which returns the first maximum, can only return the first cut of a run. -/
theorem empty_run_ties (hist : List Nat) (cs : List Rat) (i : Nat) :
    classStart hist i ≤ i ∧
    (∀ j, classStart hist i < j → j ≤ i → hist.getD j 0 = 0) ∧
    cutSums hist cs (classStart hist i) = cutSums hist cs i ∧
    specCrit hist cs (classStart hist i) = specCrit hist cs i := by
  have k := classStart_spec hist _ (cutSums_succ_of_empty hist cs) i
  exact ⟨k.1, k.2.1, k.2.2, by rw [specCrit_eq_cutSums, specCrit_eq_cutSums, k.2.2]⟩

/-- the cut the mechanism returns is the first cut of its run -/
theorem returned_is_first_of_run (hist : List Nat) (edges : List Rat) (hn : 2 ≤ hist.length)
    (he : edges.length = hist.length + 1)
    (h0 : 1 ≤ hist.getD 0 0) (hl : 1 ≤ hist.getD (hist.length - 1) 0) :
    classStart hist (argmaxN (critListN hist (scaledCentres edges))) =
      argmaxN (critListN hist (scaledCentres edges)) := by
  rw [argmaxN_scaledCentres, argmaxN_critListN hist _ rfl (centres_length_eq he) h0 hl]
  obtain ⟨h1, h2⟩ := argmax_critList hist (centres edges) hn (centres_length_eq he)
  have hle := (empty_run_ties hist (centres edges) (argmaxFirst (critList hist (centres edges)))).1
  -- an earlier cut of the same run would have a strictly smaller criterion, but its criterion is the same
  refine le_antisymm hle (not_lt.mp fun hlt => ?_)
  have := (h2 _ ((Nat.succ_le_succ hle).trans_lt h1)).2 hlt
  rw [(empty_run_ties hist (centres edges) _).2.2.2] at this
  exact lt_irrefl _ this

example : (List.range 5).map (classStart [2, 0, 0, 3, 0, 1]) = [0, 0, 0, 3, 3] := by decide +kernel

/-- **`binByEdges` is the bin of NumPy's documentation.**  For increasing edges `e_0 < … < e_n` and `x ≥ e_0` the
result `k` is a bin (`k ≤ n − 1`) with `e_k ≤ x`, and `x < e_{k+1}` unless `k` is the last bin (which is closed);
and it is the only such `k`. -/
theorem bin_by_edges_is_the_bin (edges : List Rat) (n : Nat) (hn : 1 ≤ n) (he : edges.length = n + 1)
    (hp : edges.Pairwise (· < ·)) (x : Rat) (h0 : edges.getD 0 0 ≤ x) :
    (binByEdges edges x ≤ n - 1 ∧ edges.getD (binByEdges edges x) 0 ≤ x ∧
      (binByEdges edges x < n - 1 → x < edges.getD (binByEdges edges x + 1) 0)) ∧
    ∀ k, k ≤ n - 1 → edges.getD k 0 ≤ x → (k < n - 1 → x < edges.getD (k + 1) 0) → k = binByEdges edges x :=
  ⟨binByEdges_spec edges n he hp x h0, eq_binByEdges edges n he hp x⟩

/-- **NumPy's correction steps.**  `np.histogram` estimates the bin as `trunc(((x − first) / (last − first)) · n)`
in floating point, moves an estimate `n` to `n − 1`, decrements it when `x < edges[i]` and increments it when
`x ≥ edges[i + 1]` (not in the last bin).  Whenever the estimate is the bin the edges prescribe or one beside it, the
result is that bin - for every value and every increasing list of edges.  (The check evaluates `npBin` on the estimate
the `Float` model computes - also when it is further off - and reports whether this hypothesis held.) -/
theorem np_bin_correct (edges : List Rat) (n : Nat) (hn : 1 ≤ n) (he : edges.length = n + 1)
    (hp : edges.Pairwise (· < ·)) (x : Rat) (h0 : edges.getD 0 0 ≤ x) (est : Nat)
    (hest : est = binByEdges edges x ∨ est = binByEdges edges x + 1 ∨ est + 1 = binByEdges edges x) :
    npBin edges n est x = binByEdges edges x := by
  obtain ⟨s1, s2, s3⟩ := binByEdges_spec edges n he hp x h0
  generalize binByEdges edges x = k at *
  -- the three steps of `npBin`, each with what it returns here
  have step (i0 i1 : Nat) (e0 : (if est = n then est - 1 else est) = i0)
      (e1 : (if x < edges.getD i0 0 then i0 - 1 else i0) = i1)
      (e2 : (if edges.getD (i1 + 1) 0 ≤ x ∧ i1 ≠ n - 1 then i1 + 1 else i1) = k) : npBin edges n est x = k := by
    subst e0 e1; exact e2
  have hk : k < n := Nat.lt_of_le_of_lt s1 (Nat.sub_lt hn Nat.one_pos)
  have stay : ¬ (edges.getD (k + 1) 0 ≤ x ∧ k ≠ n - 1) :=
    fun h => absurd (s3 (Nat.lt_of_le_of_ne s1 h.2)) (not_lt.mpr h.1)
  rcases hest with rfl | rfl | rfl
  · -- the estimate is the bin: no step moves it
    exact step est est (if_neg hk.ne) (if_neg (not_lt.mpr s2)) (if_neg stay)
  · by_cases hkn : k + 1 = n
    · -- one above the last bin: the clamp
      exact step k k (by rw [if_pos hkn]; rfl) (if_neg (not_lt.mpr s2)) (if_neg stay)
    · -- one above: `x < edges[k + 1]` decrements
      exact step (k + 1) k (if_neg hkn) (if_pos (s3 (by omega))) (if_neg stay)
  · -- one below: `x ≥ edges[est + 1]` increments
    have hlt : est < n - 1 := s1
    exact step est est (if_neg (hlt.trans_le (Nat.sub_le _ _)).ne)
      (if_neg (not_lt.mpr ((pairwise_getD_le edges hp est (est + 1) (Nat.le_succ _) (by omega)).trans s2)))
      (if_pos ⟨s2, hlt.ne⟩)

/-- for a whole array: NumPy's counts are the counts against the edges -/
theorem np_histogram_by_edges (edges : List Rat) (n : Nat) (hn : 1 ≤ n) (he : edges.length = n + 1)
    (hp : edges.Pairwise (· < ·)) (xs : List Rat) (ests : List Nat) (hl : ests.length = xs.length)
    (h0 : ∀ x ∈ xs, edges.getD 0 0 ≤ x)
    (hest : ∀ i (h : i < xs.length), ests.getD i 0 = binByEdges edges xs[i] ∨
      ests.getD i 0 = binByEdges edges xs[i] + 1 ∨ ests.getD i 0 + 1 = binByEdges edges xs[i]) :
    countBins (List.zipWith (fun e x => npBin edges n e x) ests xs) n = histogramE edges xs := by
  unfold histogramE
  rw [he, Nat.add_sub_cancel]
  congr 1
  apply List.ext_getElem
  · simp [hl]
  · intro i h1 h2
    have hi : i < xs.length := by simpa using h2
    have hi' : i < ests.length := hl ▸ hi
    simp only [List.getElem_zipWith, List.getElem_map]
    have := hest i hi
    rw [List.getD_eq_getElem?_getD, List.getElem?_eq_getElem hi'] at this
    exact np_bin_correct edges n hn he hp _ (h0 _ (List.getElem_mem hi)) _ this

example : npBin [0, 1, 2, 3, 4] 4 4 4 = 3 ∧ npBin [0, 1, 2, 3, 4] 4 2 2 = 2 ∧ npBin [0, 1, 2, 3, 4] 4 1 2 = 2 ∧
    npBin [0, 1, 2, 3, 4] 4 3 (5/2) = 2 ∧ binByEdges [0, 1, 2, 3, 4] (5/2) = 2 ∧ binByEdges [0, 1, 2, 3, 4] 4 = 3 := by
  decide +kernel

/-- the exact uniform histogram (`bin = ⌊(x − min)/(max − min)·n⌋`, the maximum into the last bin) is the histogram
against the exact uniform edges -/
theorem uniform_binning_is_by_edges (xs : List Rat) (n : Nat) (hn : 1 ≤ n) (h : minL xs < maxL xs) :
    histogram xs n = (histogramE (uniformEdges (minL xs) (maxL xs) n) xs, uniformEdges (minL xs) (maxL xs) n) :=
  histogram_eq_histogramE xs n hn h

/-! ## data level: any increasing edges from the minimum to the maximum (NumPy's floating-point edges, or the exact
uniform ones) -/

/-- no division by zero anywhere in the mechanism: for data binned against increasing edges that start at its
minimum and end at its maximum the first and the last bin are never empty, hence both class weights are positive at
every cut point - the class means `u1`, `u2` are genuine quotients and the criterion holds no NaN -/
theorem end_bins_occupied (edges xs : List Rat) (n : Nat) (hn : 2 ≤ n) (he : edges.length = n + 1)
    (hp : edges.Pairwise (· < ·)) (hmin : edges.getD 0 0 ∈ xs) (hmax : edges.getD n 0 ∈ xs) :
    (histogramE edges xs).length = n ∧
    1 ≤ (histogramE edges xs).getD 0 0 ∧ 1 ≤ (histogramE edges xs).getD (n - 1) 0 ∧
    (∀ i, i + 1 < n → 0 < (cutSums (histogramE edges xs) (centres edges) i).1 ∧
      0 < (cutSums (histogramE edges xs) (centres edges) i).2.1) ∧
    critListN (histogramE edges xs) (centres edges) = (specCritList (histogramE edges xs) (centres edges)).map some := by
  have hl := histogramE_length_eq he xs
  obtain ⟨g0, g1⟩ := histogramE_end_bins edges xs n (Nat.le_of_succ_le hn) he hp hmin hmax
  exact ⟨hl, g0, g1, class_weights_pos _ hl g0 g1, by
    rw [critListN_eq_some _ _ hl (centres_length_eq he) g0 g1,
      critList_eq_spec _ _ ((centres_length_eq he).trans hl.symm)]⟩

/-- min < threshold < max for data binned against any increasing edges (nothing ties `xs` to `edges`: the bounds are the
outer edges) -/
theorem threshold_between_edges (edges xs : List Rat) (n : Nat) (hn : 2 ≤ n) (he : edges.length = n + 1)
    (hp : edges.Pairwise (· < ·)) :
    edges.getD 0 0 < otsuEdges edges xs ∧ otsuEdges edges xs < edges.getD n 0 :=
  otsuHistS_in_range _ edges (histogramE_length_eq he xs) hn he hp

/-- multiplying data and edges by any positive factor multiplies the threshold by the same factor (for a power of
two the floating-point edges of the scaled data are the scaled edges, bit for bit, short of over/underflow) -/
theorem scale_invariant_edges (c : Rat) (hc : 0 < c) (edges xs : List Rat) (n : Nat) (hn : 1 ≤ n)
    (he : edges.length = n + 1) (hp : edges.Pairwise (· < ·))
    (hmin : edges.getD 0 0 ∈ xs) (hmax : edges.getD n 0 ∈ xs) :
    otsuEdges (edges.map (c * ·)) (xs.map (c * ·)) = c * otsuEdges edges xs := by
  -- of the hypotheses only `hc` is used: neither `histogramE_scale` nor `otsuHistS_scale` asks anything of edges or data
  unfold otsuEdges
  rw [histogramE_scale c hc]
  exact otsuHistS_scale c hc _ edges

/-! ## data level, exact uniform binning: for `n ≥ 2` bins `otsuData` is `otsuEdges` at the uniform edges from the minimum to
the maximum (`otsuData_eq_otsuEdges`) -/

/-- min < threshold < max whenever there are two distinct values -/
theorem threshold_between_min_max (xs : List Rat) (n : Nat) (hn : 2 ≤ n) (h : minL xs < maxL xs) :
    minL xs < otsuData xs n ∧ otsuData xs n < maxL xs := by
  have hn1 : 1 ≤ n := Nat.le_of_succ_le hn
  have := threshold_between_edges _ xs n hn (uniformEdges_length _ _ n) (uniformEdges_pairwise _ _ n hn1 h)
  rwa [← otsuData_eq_otsuEdges xs n hn h, uniformEdges_first, uniformEdges_last _ _ n hn1] at this

/-- thresholding a two-valued image separates the two values: `a ≤ t` and `b > t` -/
theorem two_valued_separates (a b : Rat) (hab : a < b) (xs : List Rat) (n : Nat) (hn : 2 ≤ n)
    (ha : a ∈ xs) (hb : b ∈ xs) (hall : ∀ x ∈ xs, x = a ∨ x = b) :
    ¬ (a > otsuData xs n) ∧ b > otsuData xs n := by
  have e1 := minL_eq_of ha fun x hx => (hall x hx).elim (·.ge) (· ▸ hab.le)
  have e2 := maxL_eq_of hb fun x hx => (hall x hx).elim (· ▸ hab.le) (·.le)
  have := threshold_between_min_max xs n hn (by rw [e1, e2]; exact hab)
  rw [e1, e2] at this
  exact ⟨not_lt.mpr this.1.le, this.2⟩

/-- the same against any increasing edges from `a` to `b` (NumPy's) -/
theorem two_valued_separates_edges (edges xs : List Rat) (n : Nat) (hn : 2 ≤ n) (he : edges.length = n + 1)
    (hp : edges.Pairwise (· < ·)) :
    ¬ (edges.getD 0 0 > otsuEdges edges xs) ∧ edges.getD n 0 > otsuEdges edges xs := by
  have := threshold_between_edges edges xs n hn he hp
  exact ⟨not_lt.mpr this.1.le, this.2⟩

/-- multiplying the data by any positive factor multiplies the threshold by the same factor
(exact arithmetic; for powers of two the float computation scales exactly as well) -/
theorem scale_invariant (c : Rat) (hc : 0 < c) (xs : List Rat) (n : Nat) (h : minL xs < maxL xs) :
    otsuData (xs.map (c * ·)) n = c * otsuData xs n := by
  unfold otsuData
  rw [histogram_scale c hc xs n h]
  exact otsuHist_scale c hc _ _

/-- exact uniform binning: the first and the last bin are never empty (they hold min and max), both class weights are
positive at every cut point -/
theorem class_weights_positive (xs : List Rat) (n : Nat) (hn : 2 ≤ n) (h : minL xs < maxL xs)
    (i : Nat) (hi : i + 1 < n) :
    0 < sumR (((histogram xs n).1.map (fun (k : Nat) => (k : Rat))).take (i + 1)) ∧
    0 < sumR (((histogram xs n).1.map (fun (k : Nat) => (k : Rat))).drop (i + 1)) := by
  have hn1 : 1 ≤ n := Nat.le_of_succ_le hn
  obtain ⟨g0, g1⟩ := uniform_end_bins xs n hn1 h
  rw [histogram_eq_histogramE xs n hn1 h]
  exact class_weights_pos _ (histogramE_length_eq (uniformEdges_length _ _ n) xs) g0 g1 i hi

/-- **With NaN removal requested the result is that of the data without its NaNs.**  `otsuArr` follows the code on an
array that may hold NaN (`none`): the boolean mask `x[~np.isnan(x)]`, then `np.histogram` with its NaN-propagating
`min`/`max`, its range check and its `keep` comparison.  For every array - NaNs anywhere, any number of them - the
call with removal equals the call without removal on the array of its numbers, in their order. -/
theorem nan_removed (xs : List (Option Rat)) (n : Nat) :
    otsuArr true xs n = otsuArr false ((xs.filterMap id).map some) n := by
  unfold otsuArr
  simp only [if_true, Bool.false_eq_true, if_false]
  rw [maskSelect_notNan]

/-- hence two arrays with the same numbers in the same order give the same threshold wherever their NaNs sit -/
theorem nan_interleave (xs ys : List (Option Rat)) (n : Nat) (h : xs.filterMap id = ys.filterMap id) :
    otsuArr true xs n = otsuArr true ys n := by
  rw [nan_removed, nan_removed, h]

/-- without removal a NaN makes the call raise: `min`/`max` are NaN and `np.histogram` refuses the range -/
theorem nan_kept_raises (xs : List (Option Rat)) (n : Nat) (h : none ∈ xs) : otsuArr false xs n = none := by
  unfold otsuArr histogramN
  simp only [Bool.false_eq_true, if_false]
  rw [outerEdges_nan xs h]
  rfl

/-- and with at least two distinct numbers the result is `otsuData` of the numbers (the NaN-free model the data-level
theorems are about): no call raises, no NaN arises in the criterion -/
theorem nan_removed_is_data (xs : List (Option Rat)) (n : Nat) (hn : 2 ≤ n)
    (h : minL (xs.filterMap id) < maxL (xs.filterMap id)) :
    otsuArr true xs n = some (otsuData (xs.filterMap id) n) := by
  rw [nan_removed, otsuArr_false_map_some _ (ne_nil_of_min_lt_max _ h), otsuData_eq_otsuEdges _ n hn h,
    histogram_eq_histogramE _ n (Nat.le_of_succ_le hn) h]
  rfl

def exHist : List Nat := [2, 0, 1, 3]
def exEdges : List Rat := [0, 1, 2, 3, 4]

example : 2 ≤ exHist.length ∧ exEdges.length = exHist.length + 1 ∧ exEdges.Pairwise (· < ·) ∧
    1 ≤ exHist.getD 0 0 ∧ 1 ≤ exHist.getD (exHist.length - 1) 0 := by
  decide +kernel
example : critListN exHist (centres exEdges) = [some (121/2), some (121/2), some 49] ∧ otsuHistN exHist exEdges = 1/2 ∧
    otsuHistS exHist exEdges = 1/2 ∧ critListN exHist (scaledCentres exEdges) = [some (121/128), some (121/128), some (49/64)] := by
  decide +kernel
example : critList exHist (centres exEdges) ≠ [] := by decide +kernel
-- an empty first bin: NaN, the first centre
example : critListN [0, 3, 0, 2] (centres exEdges) = [none, some 24, some 24] ∧ otsuHistN [0, 3, 0, 2] exEdges = 1/2 := by
  decide +kernel
-- an empty last bin: the first cut whose upper class is empty
example : critListN [2, 1, 0, 0] (centres exEdges) = [some (2/1), none, none] ∧ otsuHistN [2, 1, 0, 0] exEdges = 3/2 := by
  decide +kernel
example : minL [1, 3, 1, 3, 3] < maxL [1, 3, 1, 3, 3] := by decide +kernel
example : otsuData [1, 3, 1, 3, 3] 4 = 5/4 := by decide +kernel
example : histogram [1, 2, 1, 4, 5, 5] 4 = ([2, 1, 0, 3], [1, 2, 3, 4, 5]) ∧ otsuData [1, 2, 1, 4, 5, 5] 4 = 5/2 := by
  decide +kernel
example : otsuArr true [some 1, none, some 3, some 1, none, some 3, some 3] 4 = some (5/4) ∧
    otsuArr false [some 1, none, some 3] 4 = none ∧ otsuArr false [some 1, some 3, some 1, some 3, some 3] 4 = some (5/4) := by
  decide +kernel
example : otsuData ([1, 3, 1, 3, 3].map ((8 : Rat) * ·)) 4 = 8 * (5/4) := by decide +kernel
example : ([1, 2, 3, 4, 5] : List Rat).Pairwise (· < ·) ∧ ([1, 2, 3, 4, 5] : List Rat).getD 0 0 ∈ ([1, 2, 1, 4, 5, 5] : List Rat) ∧
    ([1, 2, 3, 4, 5] : List Rat).getD 4 0 ∈ ([1, 2, 1, 4, 5, 5] : List Rat) ∧
    histogramE [1, 2, 3, 4, 5] [1, 2, 1, 4, 5, 5] = [2, 1, 0, 3] ∧ otsuEdges [1, 2, 3, 4, 5] [1, 2, 1, 4, 5, 5] = 5/2 := by
  decide +kernel

/-- with exact arithmetic (`fl = id`, `u = η = 0`) the budget is zero and the float program is the mechanism -/
example : critListR id exHist (scaledCentresR id exEdges) = [121/128, 121/128, 49/64] ∧
    (critListB 0 0 exHist (scaledCentresB 0 0 exEdges)).map Prod.snd = [0, 0, 0] := by decide +kernel

/-- a rounding function that meets the hypothesis: rounding down to multiples of 1/1024 (`u = 0`, `η = 1/1024`) -/
def exFl (x : Rat) : Rat := ((x * 1024).floor : Rat) / 1024

example : ∀ x, absQ (exFl x - x) ≤ 0 * absQ x + 1 / 1024 := by
  intro x
  have h1 := Rat.floor_le (x * 1024)
  have h2 := Rat.lt_floor_add_one (x * 1024)
  rw [Int.cast_add, Int.cast_one] at h2
  rw [absQ_eq_abs, zero_mul, zero_add, exFl, abs_le]
  constructor <;> linarith

/-- ... and the float criterion it produces on the example histogram, with its budget: every entry is within it -/
example : critListR exFl exHist (scaledCentresR exFl exEdges) = [121/128, 121/128, 783/1024] ∧
    (critListB 0 (1/1024) exHist (scaledCentresB 0 (1/1024) exEdges)).map Prod.fst = [121/128, 121/128, 49/64] ∧
    (critListB 0 (1/1024) exHist (scaledCentresB 0 (1/1024) exEdges)).all
      (fun p => decide (1/1024 ≤ p.2 ∧ p.2 ≤ 1/16)) = true := by
  decide +kernel

/-! ## `np.histogram` in double precision: Lean's `Float` operations are those of `Float.Model` (IEEE-754 binary64),
which the kernel evaluates - the same definitions the compiled driver runs natively -/

/-- 0.1, 0.7 and three values in between, four bins: the edges `linspace(0.1, 0.7, 5)` as NumPy rounds them, the index
estimates before the correction steps, the counts -/
example : (match npHistogram [0.1, 0.7, 0.25, 0.4, 0.55] 4 with
    | .ok r => (r.hist, r.edges.map Float.toBits, r.ests)
    | .error _ => ([], [], [])) =
    ([1, 1, 1, 2], [(0.1 : Float), 0.25, 0.4, 0.5499999999999999, 0.7].map Float.toBits, [0, 4, 1, 2, 3]) := by
  decide +kernel

/-- NumPy's fourth edge 0.5499999999999999 is not the double nearest to 0.1 + 3·0.15; exact values of doubles -/
example : f64ToRat 0.5499999999999999 < f64ToRat 0.55 ∧ f64ToRat 0.25 = 1/4 ∧ f64ToRat (-1.5) = -3/2 ∧
    f64ToRat 5e-324 = 1 / 2 ^ 1074 := by
  decide +kernel

end Pew.Otsu
