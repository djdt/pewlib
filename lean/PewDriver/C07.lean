import PewDriver.Util
import PewModel.LaserEdit
open Lean
namespace PewDriver.C07
open PewDriver Pew.LaserEdit

def asPair {α β : Type} (f : Json → R α) (g : Json → R β) (j : Json) : R (α × β) :=
  match j with
  | .arr #[a, b] => do pure (← f a, ← g b)
  | _ => throw s!"expected pair, got {j.compress}"

def parseLayer (j : Json) : R Layer := do
  let shape ← getList asNat j "shape"
  let fields ← getList (asPair asStr asNat) j "fields"
  pure { shape := shape, fields := fields }

def parseOp (j : Json) : R Op := do
  match ← getStr j "op" with
  | "add" => pure (.add (← getStr j "name") (← getList (asPair (asList asNat) asNat) j "data") (← getNat j "cal"))
  | "remove" => pure (.remove (← getList asStr j "names"))
  | "rename" => pure (.rename (← getList (asPair asStr asStr) j "map"))
  | "get" =>
    pure (.get (← getNat j "layer") (← fld j "target" >>= asOpt asStr) (← getBool j "calibrate"))
  | "caller_edit" => pure .callerEdit
  | o => throw s!"bad op {o}"

structure Rd where
  layer : Nat
  target : Option String
  calibrate : Bool

def parseRd (j : Json) : R Rd := do
  pure { layer := ← getNat j "layer", target := ← fld j "target" >>= asOpt asStr,
         calibrate := ← getBool j "calibrate" }

def jReadOut (r : Option ReadOut) : Json :=
  jOpt (jList (fun (e : String × Nat × Option Nat) => Json.arr #[jStr e.1, jNat e.2.1, jOpt jNat e.2.2])) r

def prod (l : List Nat) : Nat := l.foldl (· * ·) 1

def obsModel (s : State) (rds : List Rd) : Json :=
  jObj [("elements", jList jStr s.elements),
        ("cal", jList (fun (e : String × Nat) => Json.arr #[jStr e.1, jNat e.2]) s.cal),
        ("shape", jList jNat s.shape),
        ("cfg", jNat s.cfg),
        ("layers", jList (fun (l : Layer) =>
            jList (fun (e : String × Nat) => Json.arr #[jStr e.1, jNat e.2]) l.fields) s.layers),
        ("sizes", jList (fun (l : Layer) => jNat (prod l.shape)) s.layers),
        ("reads", jList (fun (r : Rd) => jReadOut (read s r.layer r.target r.calibrate)) rds)]

def obsSpec (a : Spec) (rds : List Rd) : Json :=
  jObj [("elements", jList jStr (keys a.map)),
        ("map", jList (fun (e : String × Entry) =>
            Json.arr #[jStr e.1, jList jNat e.2.1, jNat e.2.2]) a.map),
        ("shape", jList jNat a.shape),
        ("cfg", jNat a.cfg),
        ("sizes", jList (fun (sh : List Nat) => jNat (prod sh)) a.shapes),
        ("reads", jList (fun (r : Rd) => jReadOut (a.read r.layer r.target r.calibrate)) rds)]

/-- observations of the mechanism after 0, 1, … ops (`none` from the first failing op on) -/
def traceModel : Option State → List Op → List (Option State)
  | s, [] => [s]
  | s, op :: ops => s :: traceModel (s.bind (step · op)) ops

def traceSpec : Option Spec → List Op → List (Option Spec)
  | a, [] => [a]
  | a, op :: ops => a :: traceSpec (a.bind (Spec.step · op)) ops

def runOne (req : Json) : R Json := do
  let srr ← getBool req "srr"
  let layers ← getList parseLayer req "layers"
  let given ← fld req "given" >>= asOpt (asList (asPair asStr asNat))
  let cfg ← getNat req "cfg"
  let rt ← getBool req "roundtrip"
  let ops ← getList parseOp req "ops"
  let rds ← getList parseRd req "reads"
  let lastOnly ← getBool req "last_only"
  -- mechanism: the constructor, then (optionally) save/load, then the operations
  let s0 : Option State :=
    if srr then constructSRR layers given cfg
    else match layers with
      | [l] => some (constructLaser l given cfg)
      | _ => none
  let s1 := if rt then s0.bind roundTrip else s0
  -- specification: the dictionary of the constructor arguments (save/load is the identity)
  let a0 : Option Spec :=
    if (srr && layers.length > 1) || (!srr && layers.length == 1) then
      some (Spec.construct srr layers given cfg)
    else none
  let tm := traceModel s1 ops
  let ts := traceSpec a0 ops
  let pick := fun {α} (l : List α) => if lastOnly then l.drop (l.length - 1) else l
  let enc := fun (p : Option State × Option Spec) =>
    jObj [("model", jOpt (obsModel · rds) p.1), ("spec", jOpt (obsSpec · rds) p.2),
          ("inv", jBool (match p.1 with | some s => decide (Inv s) | none => false)),
          ("abs_eq", jBool (match p.1, p.2 with | some s, some a => decide (abs s = a) | _, _ => false))]
  pure (jObj [("steps", jList enc (pick (tm.zip ts)))])

/-! ## object level -/

def jErr : Err → Json
  | .assertion => jStr "AssertionError"
  | .value => jStr "ValueError"
  | .key => jStr "KeyError"
  | .index => jStr "IndexError"

/-- what the caller holds: its arrays (their cells, column by column), its Calibration objects, dicts and configs -/
structure Caller where
  arrs : List (List Nat) := []
  cals : List Nat := []
  dicts : List Nat := []
  cfgs : List Nat := []

structure Sim where
  w : World
  c : Caller
  errs : List (Option Err) := []
  /-- the content-level operation of every step (`absOp` with the memory at the time of the call) -/
  cops : List Op := []
  /-- per step: the object-level call, seen through `view`, is the content-level call (`hstep_spec`, field `sim`) -/
  sim : List Bool := []
  /-- per step: the content-level state is the same before and after -/
  unchanged : List Bool := []

def nth (l : List Nat) (i : Nat) : R Nat :=
  match l[i]? with
  | some x => pure x
  | none => throw s!"caller object index {i} out of range"

/-- one step of a case: the caller creates whatever it passes, then calls -/
def simStep (s : Sim) (j : Json) : R Sim := do
  let w := s.w
  let fin := fun (w1 : World) (op : HOp) (c : Caller) =>
    let r := hstep w1 op
    ({ w := r.state, c := c, errs := s.errs ++ [r.err], cops := s.cops ++ [absOp w1.heap op],
       sim := s.sim ++ [decide (r.map view = stepE (view w1) (absOp w1.heap op))],
       unchanged := s.unchanged ++ [decide (view r.state = view w)] } : Sim)
  match ← getStr j "op" with
  | "add" =>
    let name ← getStr j "name"
    let datas ← getList (asPair (asList asNat) asNat) j "data"
    -- the caller's new arrays (one column each)
    let (xs, h, arrs) := datas.foldl (fun (acc : List ArrIn × Heap × List (List Nat)) d =>
      let r := acc.2.1.allocCells [d.2]
      (acc.1 ++ [(d.1, r.1.headD 0)], r.2, acc.2.2 ++ [r.1])) ([], w.heap, [])
    let calJ ← fld j "cal"
    let (cal, h, cals) ← match calJ with
      | .null => pure (none, h, ([] : List Nat))
      | _ =>
        match fldOpt calJ "obj" with
        | some o => do let k ← nth s.c.cals (← asNat o); pure (some k, h, [])
        | none => do
          let r := h.allocCal (← getNat calJ "new")
          pure (some r.1, r.2, [r.1])
    let w1 : World := { w with heap := h }
    pure (fin w1 (.add name xs cal) { s.c with arrs := s.c.arrs ++ arrs, cals := s.c.cals ++ cals })
  | "remove" => pure (fin w (.remove (← getList asStr j "names")) s.c)
  | "rename" => pure (fin w (.rename (← getList (asPair asStr asStr) j "map")) s.c)
  | "get" =>
    pure (fin w (.get (← getNat j "layer") (← fld j "target" >>= asOpt asStr) (← getBool j "calibrate")) s.c)
  | "edit_cal" => pure (fin w (.setCal (← nth s.c.cals (← getNat j "obj")) (← getNat j "content")) s.c)
  | "edit_cfg" => pure (fin w (.setCfg (← nth s.c.cfgs (← getNat j "obj")) (← getNat j "content")) s.c)
  | "set_offsets" => pure (fin w (.setOffsets (← nth s.c.cfgs (← getNat j "obj")) (← getNat j "content")) s.c)
  | "write_offsets" =>
    let k ← nth s.c.cfgs (← getNat j "obj")
    match (w.heap.cfgOf k).offs with
    | some o => pure (fin w (.writeOffsets o (← getNat j "content")) s.c)
    | none => throw "write_offsets on a config without offsets"
  | "edit_dict" =>
    let k ← nth s.c.dicts (← getNat j "obj")
    let ents ← getList (asPair asStr asNat) j "entries"
    let d ← ents.mapM (fun e => do pure (e.1, ← nth s.c.cals e.2))
    pure (fin w (.setDict k d) s.c)
  | "write_arr" =>
    let cells ← match s.c.arrs[← getNat j "arr"]? with
      | some c => pure c
      | none => throw "caller array index out of range"
    let i ← nth cells (← getNat j "col")
    pure (fin w (.writeCell i (← getNat j "content")) s.c)
  | "write_result" =>
    -- `r = laser.get(..); r[...] = v`: the read, then an in-place write into every column of what it returned
    let v ← getNat j "content"
    let layer ← getNat j "layer"
    let target ← fld j "target" >>= asOpt asStr
    let cal ← getBool j "calibrate"
    let fin2 := fun (w2 : World) (e : Option Err) =>
      ({ s with w := w2, errs := s.errs ++ [e], cops := s.cops ++ [.callerEdit], sim := s.sim ++ [true],
                unchanged := s.unchanged ++ [decide (view w2 = view w)] } : Sim)
    match hGet w layer target cal with
    | .error e => pure (fin2 w (some e))
    | .ok (r, h) =>
      let w1 : World := { w with heap := h }
      pure (fin2 (r.cells.foldl (fun (acc : World) e => (hstep acc (.writeCell e.2 v)).state) w1) none)
  | o => throw s!"bad op {o}"

def jIdList (l : List (String × Nat)) : Json := jList (fun (e : String × Nat) => Json.arr #[jStr e.1, jNat e.2]) l

def jRead (w : World) (r : Rd) : Json :=
  match hGet w r.layer r.target r.calibrate with
  | .error e => jObj [("raises", jErr e)]
  | .ok (res, h) =>
    jObj [("items", jReadOut (some res.items)), ("cells", jIdList res.cells),
          -- reads never write to existing objects and leave the laser as it is
          ("pure", jBool (decide (view { w with heap := h } = view w) &&
                          decide (h.cells.take w.heap.cells.length = w.heap.cells) &&
                          decide (h.cals = w.heap.cals) && decide (h.cfgs = w.heap.cfgs) &&
                          decide (h.offs = w.heap.offs) && decide (h.dicts = w.heap.dicts)))]

/-- the content-level run of the same history (`absOp` with the memory at the time of each call) -/
def contentTrace (s0 : State) : List (Op) → List (State × Option Err)
  | [] => []
  | op :: ops => let r := stepE s0 op; (r.state, r.err) :: contentTrace r.state ops

def runHeap (req : Json) : R Json := do
  let srr ← getBool req "srr"
  let layersJ ← getList pure req "layers"
  let calObjs ← getList asNat req "cal_objs"
  let givenJ ← fld req "given" >>= asOpt (asList (asPair asStr asNat))
  let cfgJ ← fld req "cfg" >>= asOpt asNat
  let offsTok ← getNat req "offs"
  let rt ← getBool req "roundtrip"
  let opsJ ← getList pure req "ops"
  let rds ← getList parseRd req "reads"
  -- the caller's objects
  let h0 : Heap := { cells := [], cals := [], cfgs := [], offs := [], dicts := [] }
  let mut h := h0
  let mut data : List Arr := []
  let mut arrs : List (List Nat) := []
  for lj in layersJ do
    let shape ← getList asNat lj "shape"
    let fields ← getList (asPair asStr asNat) lj "fields"
    let r := h.allocCells (fields.map (·.2))
    h := r.2
    data := data ++ [({ shape := shape, fields := List.zip (fields.map (·.1)) r.1 } : Arr)]
    arrs := arrs ++ [r.1]
  let mut cals : List Nat := []
  for c in calObjs do
    let r := h.allocCal c
    h := r.2
    cals := cals ++ [r.1]
  let mut given : Option Nat := none
  match givenJ with
  | none => pure ()
  | some g =>
    let d ← g.mapM (fun e => do pure (e.1, ← nth cals e.2))
    let r := h.allocDict d
    h := r.2
    given := some r.1
  let mut config : Option Nat := none
  match cfgJ with
  | none => pure ()
  | some c =>
    if srr then
      let o := h.allocOffs offsTok
      let r := o.2.allocCfg ⟨c, some o.1⟩
      h := r.2
      config := some r.1
    else
      let r := h.allocCfg ⟨c, none⟩
      h := r.2
      config := some r.1
  let w0 ← match hConstruct h srr data given config with
    | some w' => pure w'
    | none => throw "the constructor raises"
  let mut caller : Caller := { arrs := arrs, cals := cals, dicts := given.toList, cfgs := config.toList }
  let mut w := w0
  if rt then
    -- the saved laser lives on at the caller's side
    caller := { caller with cals := caller.cals ++ (w0.heap.dict w0.laser.cal).map (·.2),
                            dicts := caller.dicts ++ [w0.laser.cal], cfgs := caller.cfgs ++ [w0.laser.cfg] }
    w ← match hRoundTrip w0 with
      | some w' => pure w'
      | none => throw "load raises"
  let foreign : Foreign := { cals := caller.cals, dicts := caller.dicts, cfgs := caller.cfgs }
  let start := w
  let mut sim : Sim := { w := w, c := caller }
  for oj in opsJ do
    sim ← simStep sim oj
  let wf := sim.w
  let s := view wf
  -- the constructor (and the loader) seen through `view` are the content-level constructors
  let givenV := given.map (fun g => viewDict h (h.dict g))
  let cfgV := (config.map (fun k => (h.cfgOf k).scal)).getD 0
  let ls := data.map (viewLayer h)
  let c0 : Option State :=
    if srr then constructSRR ls givenV cfgV
    else match ls with
      | [l] => some (constructLaser l givenV cfgV)
      | _ => none
  let c1 := if rt then c0.bind roundTrip else c0
  -- the dictionary of the property: the constructor arguments, then the calls (only while they succeed)
  let a := (Spec.construct srr ls givenV cfgV).run sim.cops
  pure (jObj [
    ("model", obsModel s []),
    ("spec", jOpt (obsSpec · rds) a),
    ("errs", jList (jOpt jErr) sim.errs),
    ("sim", jList jBool sim.sim),
    ("unchanged", jList jBool sim.unchanged),
    ("construct_ok", jBool (decide (c1 = some (view start)))),
    ("inv_start", jBool (decide (Inv (view start)))),
    ("given_ok", jBool (decide (GivenOK ls givenV))),
    ("inv", jBool (decide (Inv s))),
    ("valid", jBool (decide (Valid wf))),
    ("sep_start", jBool (decide (Sep foreign start))),
    ("sep", jBool (decide (Sep foreign wf))),
    ("cal_ids", jIdList (wf.heap.dict wf.laser.cal)),
    ("dict_id", jNat wf.laser.cal), ("cfg_id", jNat wf.laser.cfg),
    ("cfg_offs", jOpt jNat (wf.heap.cfgOf wf.laser.cfg).offs),
    ("cfg_offs_content", jOpt jNat (cfgOffsets wf)),
    ("caller_cals", jList jNat sim.c.cals), ("caller_dicts", jList jNat sim.c.dicts),
    ("caller_cfgs", jList jNat sim.c.cfgs),
    ("caller_cfg_offs", jList (fun k => jOpt jNat (wf.heap.cfgOf k).offs) sim.c.cfgs),
    ("caller_arrs", jList (jList jNat) sim.c.arrs),
    ("layer_cells", jList (fun (a : Arr) => jIdList a.fields) wf.laser.data),
    ("reads", jList (jRead wf) rds)])

/-! ## several lasers -/

/-- what the caller holds in a multi-laser case -/
structure MCaller where
  /-- structured arrays (layers) -/
  arrObjs : List Arr := []
  /-- every array the caller made, column by column (the structured ones first, then the arrays handed to `add`) -/
  arrs : List (List Nat) := []
  lists : List Nat := []
  cals : List Nat := []
  dicts : List Nat := []
  cfgs : List Nat := []

structure MSim where
  m : MWorld
  c : MCaller
  /-- per laser: the plain dictionary of the property (`none` once one of its calls has failed in the dictionary) -/
  specs : List (Option Spec) := []
  errs : List (Option Err) := []
  /-- per step, what the theorems `multi_call` / `multi_construct` / `multi_load` / `multi_history_view` say, evaluated -/
  frame : List Bool := []

def nthArr (l : List Arr) (i : Nat) : R Arr :=
  match l[i]? with
  | some x => pure x
  | none => throw s!"caller array index {i} out of range"

def viewsOf (m : MWorld) : List (Option State) := (List.range m.lasers.length).map (mview m)

def dropAt {α : Type} (l : List α) (i : Nat) : List α := l.take i ++ l.drop (i + 1)

/-- the caller's list objects hold what they held -/
def listsKept (c : MCaller) (a b : MWorld) : Bool := c.lists.all (fun k => decide (b.listOf k = a.listOf k))

def mSimStep (s : MSim) (j : Json) : R MSim := do
  let m := s.m
  match ← getStr j "op" with
  | "construct" =>
    let srr ← getBool j "srr"
    let data : DataRef ← match fldOpt j "list" with
      | some k => do pure (DataRef.list (← nth s.c.lists (← asNat k)))
      | none => do pure (DataRef.own [← nthArr s.c.arrObjs (← getNat j "arr")])
    let given ← match ← fld j "given" with
      | .null => pure none
      | g => do pure (some (← nth s.c.dicts (← asNat g)))
    let config ← match ← fld j "cfg" with
      | .null => pure none
      | g => do pure (some (← nth s.c.cfgs (← asNat g)))
    let r := mstep m (.construct srr data given config)
    let ls := (data.layers m).map (viewLayer m.heap)
    let givenV := given.map (fun g => viewDict m.heap (m.heap.dict g))
    let cfgV := (config.map (fun k => (m.heap.cfgOf k).scal)).getD 0
    let ok := match r with
      | .ok m' =>
        decide (m'.lasers.length = m.lasers.length + 1) &&
        decide (mview m' m.lasers.length = some (mkState srr ls givenV cfgV)) &&
        decide ((viewsOf m').take m.lasers.length = viewsOf m) && listsKept s.c m m' && decide (MValid m')
      | .fail _ m' => decide (m' = m)
    let sp := match r with
      | .ok _ => [some (Spec.construct srr ls givenV cfgV)]
      | .fail _ _ => []
    pure { s with m := r.state, specs := s.specs ++ sp, errs := s.errs ++ [r.err], frame := s.frame ++ [ok] }
  | "load" =>
    let i ← getNat j "laser"
    let r := mstep m (.load i)
    let ok := match r, mview m i with
      | .ok m', some v =>
        decide (m'.lasers.length = m.lasers.length + 1) &&
        decide (mview m' m.lasers.length = roundTrip v) &&
        decide ((viewsOf m').take m.lasers.length = viewsOf m) && listsKept s.c m m' && decide (MValid m')
      | .ok _, none => false
      | .fail _ m', _ => decide (m' = m)
    let sp := match r with
      | .ok _ => [(s.specs[i]?).getD none]
      | .fail _ _ => []
    pure { s with m := r.state, specs := s.specs ++ sp, errs := s.errs ++ [r.err], frame := s.frame ++ [ok] }
  | "call" =>
    let i ← getNat j "laser"
    let cj ← fld j "call"
    let o ← match m.lasers[i]? with
      | some o => pure o
      | none => throw s!"laser index {i} out of range"
    let fin := fun (m1 : MWorld) (op : HOp) (c : MCaller) =>
      let r := mstep m1 (.call i op)
      let cop := absOp m1.heap op
      let own := decide (r.map (fun m' => mview m' i) = (stepE (view (m1.world o)) cop).map some)
      let others := decide (dropAt (viewsOf r.state) i = dropAt (viewsOf m) i)
      let sp := s.specs.mapIdx (fun k a => if k = i then a.bind (Spec.step · cop) else a)
      ({ m := r.state, c := c, specs := sp, errs := s.errs ++ [r.err],
         frame := s.frame ++ [own && others && listsKept c m r.state && decide (MValid r.state)] } : MSim)
    match ← getStr cj "op" with
    | "add" =>
      let name ← getStr cj "name"
      let datas ← getList (asPair (asList asNat) asNat) cj "data"
      let (xs, h, arrs) := datas.foldl (fun (acc : List ArrIn × Heap × List (List Nat)) d =>
        let r := acc.2.1.allocCells [d.2]
        (acc.1 ++ [(d.1, r.1.headD 0)], r.2, acc.2.2 ++ [r.1])) ([], m.heap, [])
      let calJ ← fld cj "cal"
      let (cal, h, cals) ← match calJ with
        | .null => pure (none, h, ([] : List Nat))
        | _ =>
          match fldOpt calJ "obj" with
          | some ob => do let k ← nth s.c.cals (← asNat ob); pure (some k, h, [])
          | none => do
            let r := h.allocCal (← getNat calJ "new")
            pure (some r.1, r.2, [r.1])
      let m1 : MWorld := { m with heap := h }
      pure (fin m1 (.add name xs cal) { s.c with arrs := s.c.arrs ++ arrs, cals := s.c.cals ++ cals })
    | "remove" => pure (fin m (.remove (← getList asStr cj "names")) s.c)
    | "rename" => pure (fin m (.rename (← getList (asPair asStr asStr) cj "map")) s.c)
    | "get" =>
      pure (fin m (.get (← getNat cj "layer") (← fld cj "target" >>= asOpt asStr) (← getBool cj "calibrate")) s.c)
    | o => throw s!"bad call {o}"
  | "set_list" =>
    let k ← nth s.c.lists (← getNat j "list")
    let ents ← getList asNat j "entries"
    let l ← ents.mapM (nthArr s.c.arrObjs)
    let r := mstep m (.setList k l)
    -- no laser keeps its layers in a list of the caller's: every view is what it was
    pure { s with m := r.state, errs := s.errs ++ [r.err],
                  frame := s.frame ++ [decide (viewsOf r.state = viewsOf m) && decide (MValid r.state)] }
  | e =>
    let op : HOp ← match e with
      | "edit_cal" => pure (HOp.setCal (← nth s.c.cals (← getNat j "obj")) (← getNat j "content"))
      | "edit_cfg" => pure (HOp.setCfg (← nth s.c.cfgs (← getNat j "obj")) (← getNat j "content"))
      | "set_offsets" => pure (HOp.setOffsets (← nth s.c.cfgs (← getNat j "obj")) (← getNat j "content"))
      | "edit_dict" =>
        let k ← nth s.c.dicts (← getNat j "obj")
        let ents ← getList (asPair asStr asNat) j "entries"
        let d ← ents.mapM (fun e => do pure (e.1, ← nth s.c.cals e.2))
        pure (HOp.setDict k d)
      | o => throw s!"bad op {o}"
    let r := mstep m (.edit op)
    pure { s with m := r.state, errs := s.errs ++ [r.err],
                  frame := s.frame ++ [decide (viewsOf r.state = viewsOf m) && decide (MValid r.state)] }

def runMulti (req : Json) : R Json := do
  let arrsJ ← getList pure req "arrays"
  let listsJ ← getList (asList asNat) req "lists"
  let calObjs ← getList asNat req "cal_objs"
  let dictsJ ← getList (asList (asPair asStr asNat)) req "dicts"
  let cfgsJ ← getList pure req "cfgs"
  let stepsJ ← getList pure req "steps"
  let rdsJ ← getList (asList parseRd) req "reads"
  let mut h : Heap := { cells := [], cals := [], cfgs := [], offs := [], dicts := [] }
  let mut c : MCaller := {}
  for aj in arrsJ do
    let shape ← getList asNat aj "shape"
    let fields ← getList (asPair asStr asNat) aj "fields"
    let r := h.allocCells (fields.map (·.2))
    h := r.2
    c := { c with arrObjs := c.arrObjs ++ [({ shape := shape, fields := List.zip (fields.map (·.1)) r.1 } : Arr)],
                  arrs := c.arrs ++ [r.1] }
  let mut lists : List (List Arr) := []
  for lj in listsJ do
    let l ← lj.mapM (nthArr c.arrObjs)
    c := { c with lists := c.lists ++ [lists.length] }
    lists := lists ++ [l]
  for x in calObjs do
    let r := h.allocCal x
    h := r.2
    c := { c with cals := c.cals ++ [r.1] }
  for dj in dictsJ do
    let d ← dj.mapM (fun e => do pure (e.1, ← nth c.cals e.2))
    let r := h.allocDict d
    h := r.2
    c := { c with dicts := c.dicts ++ [r.1] }
  for cj in cfgsJ do
    let t ← getNat cj "scal"
    if ← getBool cj "srr" then
      let o := h.allocOffs 0
      let r := o.2.allocCfg ⟨t, some o.1⟩
      h := r.2
      c := { c with cfgs := c.cfgs ++ [r.1] }
    else
      let r := h.allocCfg ⟨t, none⟩
      h := r.2
      c := { c with cfgs := c.cfgs ++ [r.1] }
  let foreign : Foreign := { cals := c.cals, dicts := c.dicts, cfgs := c.cfgs }
  let mut sim : MSim := { m := { heap := h, lists := lists, lasers := [] }, c := c }
  for sj in stepsJ do
    sim ← mSimStep sim sj
  let m := sim.m
  let lasers := (List.range m.lasers.length).filterMap (fun i => (m.lasers[i]?).map (fun o => (i, o)))
  let enc := fun (p : Nat × MObj) =>
    let w := m.world p.2
    let s := view w
    let rds := (rdsJ[p.1]?).getD []
    let a := (sim.specs[p.1]?).getD none
    jObj [("model", obsModel s []), ("spec", jOpt (obsSpec · rds) a), ("srr", jBool p.2.srr),
          ("inv", jBool (decide (Inv s))), ("valid", jBool (decide (Valid w))),
          ("abs_eq", jBool (match a with | some x => decide (abs s = x) | none => false)),
          ("sep", jBool (decide (Sep foreign w))),
          ("cal_ids", jIdList (w.heap.dict w.laser.cal)), ("dict_id", jNat w.laser.cal), ("cfg_id", jNat w.laser.cfg),
          ("list_id", match p.2.data with | .list k => jNat k | .own _ => Json.null),
          ("cfg_offs", jOpt jNat (w.heap.cfgOf w.laser.cfg).offs), ("cfg_offs_content", jOpt jNat (cfgOffsets w)),
          ("layer_cells", jList (fun (a : Arr) => jIdList a.fields) w.laser.data),
          ("reads", jList (jRead w) rds)]
  let entryIdx := fun (a : Arr) => match sim.c.arrObjs.findIdx? (· == a) with
    | some i => Json.num i
    | none => Json.num (-1 : Int)
  pure (jObj [
    ("lasers", jList enc lasers),
    ("errs", jList (jOpt jErr) sim.errs),
    ("frame", jList jBool sim.frame),
    ("mvalid", jBool (decide (MValid m))),
    ("msep", jBool (decide (MSep foreign sim.c.lists m))),
    ("caller_cals", jList jNat sim.c.cals), ("caller_dicts", jList jNat sim.c.dicts),
    ("caller_cfgs", jList jNat sim.c.cfgs), ("caller_lists", jList jNat sim.c.lists),
    ("caller_cfg_offs", jList (fun k => jOpt jNat (m.heap.cfgOf k).offs) sim.c.cfgs),
    ("caller_arrs", jList (jList jNat) sim.c.arrs),
    ("caller_list_entries", jList (fun k => jList entryIdx (m.listOf k)) sim.c.lists)])

def handle (op : String) (req : Json) : R Json := do
  match op with
  | "c07.run" => runOne req
  | "c07.heap" =>
    let runs ← getList pure req "runs"
    let outs ← runs.mapM runHeap
    pure (jObj [("runs", Json.arr outs.toArray)])
  | "c07.multi" =>
    let runs ← getList pure req "runs"
    let outs ← runs.mapM runMulti
    pure (jObj [("runs", Json.arr outs.toArray)])
  | "c07.batch" =>
    let runs ← getList pure req "runs"
    let outs ← runs.mapM runOne
    pure (jObj [("runs", Json.arr outs.toArray)])
  | _ => throw s!"unknown op {op}"

end PewDriver.C07
